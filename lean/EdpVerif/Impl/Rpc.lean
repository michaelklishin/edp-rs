import EdpVerif.Impl.PidAlloc
import EdpVerif.Generated.MiscC17
/-!
Model of the remote-call bookkeeping of `crates/edp_node/src/node.rs`:
`Node::rpc_call_raw_with_timeout`, the `Send` arm of `Node::route_message`, and the part of `spawn_receiver_task`
that calls it — as a small-step system over the shared table `pending_rpcs`.

Shared state
* `pending`  — `pending_rpcs : DashMap<String, oneshot::Sender<OwnedTerm>>`. The key is the text
               `"{id}.{serial}.{creation}"` of the reply pid; three decimal numbers separated by dots determine the
               numbers, so the model keys the table by the triple (`PidAlloc.Pid`). The node name is NOT part of the key.
               The value is the sending half of the caller's one-shot channel; a sender is identified by the caller that
               created it, so an entry is `(key, caller)`.
* `alloc`    — the node's `PidAllocator` (one `allocate()` is one atomic step: C16 proves every interleaving of its
               internal steps equivalent to the sequential function `PidAlloc.alloc`).
* `procs`    — the pids in `ProcessRegistry.by_pid` (live local processes; their pids come from the same allocator).
* `lock`     — the `tokio::sync::Mutex<Connection>` of each connection (by connection id).
* per caller — program counter, reply pid, the one-shot channel (`val`: value sent and not yet taken, `txDropped`: sender
               dropped without sending, `rxAlive`: the receiving half still exists).
* `recv`     — one receiver task per connection (receiver `r` belongs to connection `r`); each runs `route_message` on
               one inbound message at a time, until its `receive_message_from_read_half` fails and it leaves its loop.
* `conns`    — `connections : DashMap<String, Arc<Mutex<Connection>>>` as the set of connection ids that are in the
               table. Every id is there at the start (an id that no call has looked up yet is a connection not yet
               made); a receiver that stops removes its id for good — a later `Node::connect` to the same name makes
               a new connection object with a new mutex and a new receiver task, which is another id.

Environment (everything the property quantifies over): the peer hands ANY message to ANY receiver at any time
(`rStart`), `connections.get` finds a connection or not (`lookup`), the write succeeds or fails (`send`), timers fire
at any time (`timeout`), the owner of a call future may drop it at any suspension point (`drop`), other parts of the
node allocate pids, spawn processes and let them exit, `Node::start` changes the creation the allocator stamps on new
pids (`start`, at any time, to any value: calls made before `start` carry the placeholder creation 1). The scheduler
picks any enabled step.

The code modelled is the repaired one: entry removed when the request cannot be sent (d080091) and a drop guard that
removes the entry when the call future goes away for whatever reason (notes/C17.md).
-/
namespace Edp.Impl.Rpc
open Edp.Impl.PidAlloc (Pid Sh Res alloc)

/-- what a call returns (`m` = number of the inbound message in `St.inbox`, ghost) -/
inductive Outcome
  | reply (m body : Nat)     -- `Ok(term)`
  | timeout                  -- `Err(RpcTimeout)`
  | cancelled                -- `Err(RpcCancelled)`: the sender was dropped without a value
  | noConn                   -- `Err(NodeNotConnected)`
  | sendErr                  -- the error of `send_to_name`
  | allocFail                -- `expect("PID allocator lock poisoned")` panicked; nothing was registered
  | dropped                  -- the future was dropped by its owner (never returns)
deriving DecidableEq, Repr, Inhabited

/-- program counter of one call, named after the yield points of the source where there is one -/
inductive Pc
  | start                    -- future created, not polled yet
  | allocated                -- `rpc:before_insert`: reply pid allocated, channel created
  | inserted                 -- `rpc:after_insert`: entry in the table, drop guard armed
  | found                    -- `rpc:before_lock`: `connections.get` returned the connection
  | locked                   -- holds the connection mutex, `send_to_name` in progress
  | sent                     -- `rpc:after_send`: request written, mutex still held
  | waiting                  -- mutex released; `timeout(rx)` pending
  | timedOut                 -- `rpc:timed_out`: timer fired, receiving half dropped; next: `pending_rpcs.remove`
  | exiting (o : Outcome)    -- result computed; next: locals dropped (the guard removes the key), return
  | done
deriving DecidableEq, Repr, Inhabited

structure Caller where
  pc : Pc := .start
  key : Pid := ⟨0, 0, 0⟩     -- reply pid (id, serial, creation); meaningful from `allocated` on
  ix : Nat := 0              -- ghost: index of the allocation that produced `key`
  conn : Nat := 0            -- connection found by `connections.get`
  val : Option (Nat × Nat) := none   -- one-shot channel: (message number, body) sent, not yet taken
  txDropped : Bool := false  -- sender dropped without sending
  rxAlive : Bool := true     -- receiving half exists
  out : Option Outcome := none
deriving Repr, Inhabited

/-- an inbound `SEND`: control `{2, _, ToPid}` with a payload -/
structure Msg where
  node : Nat                 -- node name of `to_pid` (a number stands for the atom)
  pid : Pid
  body : Nat
deriving DecidableEq, Repr, Inhabited

/-- a receiver task inside `route_message` -/
inductive RPc
  | idle                                   -- in `receive_message_from_read_half`
  | routing (msg : Msg) (m : Nat)          -- `route:before_pending_remove`: the registry had no such process
  | holding (i : Nat) (m body : Nat)       -- removed the entry, owns caller `i`'s sender; next: `sender.send(body)`
  | stopped                                -- left the loop (`break`), did `connections.remove`; the task is over
deriving DecidableEq, Repr, Inhabited

structure St where
  alloc : Sh
  nalloc : Nat := 0                        -- ghost: allocations so far
  localNode : Nat := 0
  callers : Nat → Caller := fun _ => {}
  pending : List (Pid × Nat) := []
  recv : Nat → RPc := fun _ => .idle
  lock : Nat → Option Nat := fun _ => none
  conns : Nat → Bool := fun _ => true      -- connection ids in `connections`
  procs : List Pid := []
  inbox : List Msg := []                   -- ghost: every message given to `route_message`, in order
  procLog : List (Pid × Nat) := []         -- ghost: (process, message number) delivered to local processes

def St.init (a : Sh) (localNode : Nat := 0) : St := { alloc := a, localNode := localNode }

/-- the characters of `format!("{}.{}.{}", pid.id, pid.serial, pid.creation)` (decimal, no padding) -/
def keyChars (p : Pid) : List Char :=
  Nat.toDigits 10 p.id ++ '.' :: (Nat.toDigits 10 p.serial ++ '.' :: Nat.toDigits 10 p.creation)

/-- the `String` key of the real table; `Props.C17_key_text_injective`: different triples give different texts, which is
why the model may key the table by the triple -/
def keyText (p : Pid) : String := String.ofList (keyChars p)

def upd {α : Type} (f : Nat → α) (i : Nat) (v : α) : Nat → α := fun j => if j = i then v else f j

/-- `DashMap::get`/`remove` look the key up -/
def lookupKey (p : List (Pid × Nat)) (k : Pid) : Option Nat := (p.find? (fun e => e.1 = k)).map (·.2)

def eraseKey (p : List (Pid × Nat)) (k : Pid) : List (Pid × Nat) := p.filter (fun e => e.1 ≠ k)

def St.setCaller (s : St) (i : Nat) (c : Caller) : St := { s with callers := upd s.callers i c }

/-- `pending_rpcs.remove(key)` with the result dropped (also what `insert` does to a previous entry of the same key):
the entry goes away and its sender is dropped, which closes that caller's channel -/
def St.removeKey (s : St) (k : Pid) : St :=
  { s with pending := eraseKey s.pending k,
           callers := match lookupKey s.pending k with
             | some j => upd s.callers j { s.callers j with txDropped := true }
             | none => s.callers }

/-- the drop guard exists (created right after `insert`) -/
def Pc.armed : Pc → Bool
  | .start | .allocated | .done => false
  | _ => true

def Pc.holdsLock : Pc → Bool
  | .locked | .sent => true
  | _ => false

/-- places where the future is suspended at an `.await` that can return `Pending`. (A future that was never polled
has done nothing yet; dropping it is not a step.) -/
def Pc.suspended : Pc → Bool
  | .start | .exiting _ | .done => false
  | _ => true

inductive Step
  | begin (i : Nat)                    -- first poll: `pid_allocator.allocate()`, `oneshot::channel()`
  | insert (i : Nat)                   -- `pending_rpcs.insert(pid_str, tx)`; guard armed
  | lookup (i : Nat) (c : Option Nat)  -- `connections.get(remote_node)`; `none`: remove, `Err(NodeNotConnected)`
  | lock (i : Nat)                     -- `conn.lock().await` returns
  | send (i : Nat) (ok : Bool)         -- `send_to_name` finished; failure: remove, guard of the mutex dropped, `Err`
  | unlock (i : Nat)                   -- end of the `if let` block
  | recvReply (i : Nat)                -- `rx` ready with a value
  | recvClosed (i : Nat)               -- `rx` ready with `RecvError`
  | timeout (i : Nat)                  -- the timer won; the `Timeout` future (with `rx`) is dropped
  | timeoutRemove (i : Nat)            -- `pending_rpcs.remove(&pid_str)` on the timeout path
  | finish (i : Nat)                   -- return: the guard removes the key
  | drop (i : Nat)                     -- the owner drops the future at a suspension point
  | rStart (r : Nat) (msg : Msg)       -- receiver `r` got `Send{to_pid}` + payload; `registry.get(&pid)`
  | rRemove (r : Nat)                  -- `pending_rpcs.remove(&pid_str)`
  | rSend (r : Nat)                    -- `sender.send(body)`
  | rStop (r : Nat)                    -- `receive_message_from_read_half` failed for good: `break`, `connections.remove`
  | spawnProc                          -- `Node::spawn`: allocate a pid, register the process
  | procExit (p : Pid)                 -- the process leaves the registry
  | otherAlloc                         -- any other `allocate()` (`send_remote` takes one per message)
  | start (c : Nat)                    -- `Node::start`: `creation.store(c)`, `pid_allocator.set_creation(c)` (EPMD's answer)
deriving Repr

/-- one atomic step; `none` = not enabled in this state -/
def step (s : St) : Step → Option St
  | .begin i =>
    let c := s.callers i
    if c.pc = .start then
      match alloc s.alloc with
      | (.ok p, a') =>
        some { s with alloc := a', nalloc := s.nalloc + 1,
                      callers := upd s.callers i { c with pc := .allocated, key := p, ix := s.nalloc } }
      | (_, a') =>
        some { s with alloc := a', nalloc := s.nalloc + 1,
                      callers := upd s.callers i { c with pc := .done, out := some .allocFail, ix := s.nalloc } }
    else none
  | .insert i =>
    let c := s.callers i
    if c.pc = .allocated then
      let s1 := s.removeKey c.key
      some { s1 with pending := (c.key, i) :: s1.pending,
                     callers := upd s1.callers i { s1.callers i with pc := .inserted } }
    else none
  | .lookup i (some cid) =>
    let c := s.callers i
    if c.pc = .inserted ∧ s.conns cid = true then some (s.setCaller i { c with pc := .found, conn := cid }) else none
  | .lookup i none =>
    let c := s.callers i
    if c.pc = .inserted then
      let s1 := s.removeKey c.key
      some (s1.setCaller i { s1.callers i with pc := .exiting .noConn })
    else none
  | .lock i =>
    let c := s.callers i
    if c.pc = .found ∧ s.lock c.conn = none then
      some { s with lock := upd s.lock c.conn (some i), callers := upd s.callers i { c with pc := .locked } }
    else none
  | .send i true =>
    let c := s.callers i
    if c.pc = .locked then some (s.setCaller i { c with pc := .sent }) else none
  | .send i false =>
    let c := s.callers i
    if c.pc = .locked then
      let s1 := s.removeKey c.key
      some { s1 with lock := upd s1.lock c.conn none,
                     callers := upd s1.callers i { s1.callers i with pc := .exiting .sendErr } }
    else none
  | .unlock i =>
    let c := s.callers i
    if c.pc = .sent then
      some { s with lock := upd s.lock c.conn none, callers := upd s.callers i { c with pc := .waiting } }
    else none
  | .recvReply i =>
    let c := s.callers i
    if c.pc = .waiting then
      match c.val with
      | some (m, b) => some (s.setCaller i { c with pc := .exiting (.reply m b), val := none, rxAlive := false })
      | none => none
    else none
  | .recvClosed i =>
    let c := s.callers i
    if c.pc = .waiting ∧ c.val = none ∧ c.txDropped = true then
      some (s.setCaller i { c with pc := .exiting .cancelled, rxAlive := false })
    else none
  | .timeout i =>
    let c := s.callers i
    if c.pc = .waiting then some (s.setCaller i { c with pc := .timedOut, val := none, rxAlive := false }) else none
  | .timeoutRemove i =>
    let c := s.callers i
    if c.pc = .timedOut then
      let s1 := s.removeKey c.key
      some (s1.setCaller i { s1.callers i with pc := .exiting .timeout })
    else none
  | .finish i =>
    let c := s.callers i
    match c.pc with
    | .exiting o =>
      let s1 := s.removeKey c.key
      some (s1.setCaller i { s1.callers i with pc := .done, out := some o })
    | _ => none
  | .drop i =>
    let c := s.callers i
    if c.pc.suspended then
      let s0 : St := if c.pc.holdsLock then { s with lock := upd s.lock c.conn none } else s
      let s1 := if c.pc.armed then s0.removeKey c.key else s0
      some (s1.setCaller i { s1.callers i with pc := .done, out := some .dropped, val := none, rxAlive := false })
    else none
  | .rStart r msg =>
    if s.recv r = .idle then
      let m := s.inbox.length
      if msg.node = s.localNode ∧ msg.pid ∈ s.procs then
        some { s with inbox := s.inbox ++ [msg], procLog := s.procLog ++ [(msg.pid, m)] }
      else
        some { s with inbox := s.inbox ++ [msg], recv := upd s.recv r (.routing msg m) }
    else none
  | .rRemove r =>
    match s.recv r with
    | .routing msg m =>
      match lookupKey s.pending msg.pid with
      | some i => some { s with pending := eraseKey s.pending msg.pid, recv := upd s.recv r (.holding i m msg.body) }
      | none => some { s with recv := upd s.recv r .idle }
    | _ => none
  | .rSend r =>
    match s.recv r with
    | .holding i m b =>
      let c := s.callers i
      some { s with recv := upd s.recv r .idle,
                    callers := if c.rxAlive then upd s.callers i { c with val := some (m, b) } else s.callers }
    | _ => none
  | .rStop r =>
    if s.recv r = .idle then some { s with recv := upd s.recv r .stopped, conns := upd s.conns r false } else none
  | .spawnProc =>
    match alloc s.alloc with
    | (.ok p, a') => some { s with alloc := a', nalloc := s.nalloc + 1, procs := p :: s.procs }
    | (_, a') => some { s with alloc := a', nalloc := s.nalloc + 1 }
  | .procExit p => some { s with procs := s.procs.filter (fun q => q ≠ p) }
  | .otherAlloc => some { s with alloc := (alloc s.alloc).2, nalloc := s.nalloc + 1 }
  -- `connect` and `rpc_call*` do not look at `started`, so calls may exist before this step; the step is enabled at any
  -- time with any value (more than the code allows: `started.swap(true)` lets only the first `start` through)
  | .start c => some { s with alloc := s.alloc.setCreation c }

/-- run a schedule; a step that is not enabled is skipped -/
def run (s : St) (σ : List Step) : St := σ.foldl (fun s e => (step s e).getD s) s

/-- run a schedule, failing at the first step that is not enabled (trace validation) -/
def runStrict (s : St) : List Step → Option St
  | [] => some s
  | e :: σ => match step s e with
    | some s' => runStrict s' σ
    | none => none

/-- every call that was started has returned (or was dropped) -/
def St.quiescent (s : St) : Prop := ∀ i, (s.callers i).pc = .start ∨ (s.callers i).pc = .done

/-! ### the wrappers `rpc_call_with_timeout` / `rpc_call` (and the `erlang_*` calls built on them)

`rpc_call_with_timeout` awaits `rpc_call_raw_with_timeout` (its only await: dropping the wrapper drops the raw call at
one of the raw call's suspension points), passes an error on (`?`) and applies `OwnedTerm::into_rex_response` to the
reply. It touches no shared state. `rpc_call` and `rpc_call_raw` only supply `DEFAULT_RPC_TIMEOUT`. -/

/-- what a wrapped call returns -/
inductive WOutcome
  | value (m v : Nat)        -- `Ok(result)`: the second element of the `{rex, Result}` reply number `m`
  | badShape (m : Nat)       -- `Err(TermConversion)`: reply number `m` is not a `{rex, _}` pair
  | err (o : Outcome)        -- the raw call's error, unchanged
deriving DecidableEq, Repr

/-- `response.into_rex_response().map_err(Error::from)` after `?`; `unwrap` stands for `into_rex_response` on bodies -/
def wrapOutcome (unwrap : Nat → Option Nat) : Outcome → WOutcome
  | .reply m b => match unwrap b with
    | some v => .value m v
    | none => .badShape m
  | o => .err o

/-! ### the source as the translator lists it (`Generated/MiscC17.lean`, `tools/gen_misc.py gen_c17`) -/

/-- where the call future is suspended at each `.await` of `rpc_call_raw_with_timeout`; `none` for a step that is not an await -/
def awaitPc : String → Option Pc
  | "yield:rpc:before_insert" => some .allocated
  | "yield:rpc:after_insert" => some .inserted
  | "yield:rpc:before_lock" => some .found
  | "await:lock" => some .found
  | "await:send_to_name" => some .locked
  | "yield:rpc:after_send" => some .sent
  | "await:timeout" => some .waiting
  | "yield:rpc:timed_out" => some .timedOut
  | _ => none

/-- the translator marks every `.await` with one of the prefixes `await:` / `yield:` (an await it does not know is `await:?`) -/
def isAwait (t : String) : Bool :=
  match t.toList with
  | 'a' :: 'w' :: 'a' :: 'i' :: 't' :: ':' :: _ => true
  | 'y' :: 'i' :: 'e' :: 'l' :: 'd' :: ':' :: _ => true
  | _ => false

/-- the model's reading of the source: each listed step with the model step kind that performs it -/
def sourceSteps : List (String × String) :=
  [("allocate", "begin"), ("expect", "begin"), ("channel", "begin"),
   ("yield:rpc:before_insert", "-"), ("insert", "insert"), ("guard", "insert"),
   ("yield:rpc:after_insert", "-"), ("get", "lookup"),
   ("yield:rpc:before_lock", "-"), ("await:lock", "lock"), ("await:send_to_name", "send"),
   ("remove", "send false"), ("return:err", "send false"),
   ("yield:rpc:after_send", "-"),
   ("remove", "lookup none"), ("return:err", "lookup none"),
   ("await:timeout", "recvReply|recvClosed|timeout"),
   ("yield:rpc:timed_out", "-"), ("remove", "timeoutRemove"),
   ("try:RpcTimeout", "finish"), ("try:RpcCancelled", "finish"), ("return:ok", "finish")]

/-- every use of the node's allocator in node.rs (`Gen.NODE_PID_ALLOCATOR_USES`) with the part of the model that stands for
it; `none` = a use the model does not know (an assignment of a new allocator, a new caller of `allocate`, ...) -/
def allocUseStep : String → Option String
  | "struct::field" => some "St.alloc"
  | "with_hidden:let=new" => some "St.init"
  | "with_hidden:,init" => some "St.init"
  | "start:.set_creation()" => some "start"
  | "spawn:.allocate()" => some "spawnProc"
  | "send_remote:.allocate()" => some "otherAlloc"
  | "rpc_call_raw_with_timeout:.allocate()" => some "begin"
  | _ => none

/-- every use of `self.creation` (the node's own copy of the creation; calls never read it) -/
def creationUseStep : String → Option String
  | "start:.store()" => some "start"
  | "make_reference:.load()" => some "-"
  | "creation:.load()" => some "-"
  | _ => none

/-- `format!` with `{}` placeholders filled by decimal numbers -/
def renderFmt : List Char → List Nat → List Char
  | '{' :: '}' :: r, n :: ns => Nat.toDigits 10 n ++ renderFmt r ns
  | c :: r, ns => c :: renderFmt r ns
  | [], _ => []

def Pid.field (p : Pid) : String → Nat
  | "id" => p.id
  | "serial" => p.serial
  | "creation" => p.creation
  | _ => 0

/-- the key text as the source builds it: the format string and field list the translator read -/
def keyCharsFrom (f : String × List String) (p : Pid) : List Char := renderFmt f.1.toList (f.2.map (Pid.field p))

end Edp.Impl.Rpc
