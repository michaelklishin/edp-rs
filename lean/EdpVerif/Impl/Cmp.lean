import EdpVerif.Impl.Term
/-
Model of `impl Ord for OwnedTerm` (term.rs) / `impl Ord for BorrowedTerm` (borrowed.rs):
type ranks, exact numeric comparison (`compare_signed_magnitudes`, `compare_signed_magnitude_float`),
cons-cell list comparison (`compare_list_terms`), bytes-then-bits for bit-strings, maps by size,
keys, values.  `PartialEq` (derived) is `Term.eqv`; `Hash` is `Term.hashBytes` (both in Impl/EqHash.lean).
-/
namespace Edp

abbrev thenO (a b : Ordering) : Ordering := a.then b

/-- lexicographic order of byte/number lists, shorter prefix first (Rust slice `cmp`) -/
def lexCmp : List Nat → List Nat → Ordering
  | [], [] => .eq
  | [], _ :: _ => .lt
  | _ :: _, [] => .gt
  | a :: as, b :: bs => thenO (compare a b) (lexCmp as bs)

def bytesCmp (a b : Bytes) : Ordering := lexCmp (a.map UInt8.toNat) (b.map UInt8.toNat)

/-! ### numbers -/

/-- value of a little-endian base-256 magnitude -/
def magVal : Bytes → Nat
  | [] => 0
  | b :: r => b.toNat + 256 * magVal r

def allZero (d : Bytes) : Bool := d.all (· == 0)

/-- `compare_magnitudes`: digit count, then from the most significant digit down -/
def cmpMag (a b : Bytes) : Ordering := thenO (compare a.length b.length) (bytesCmp a.reverse b.reverse)

def signum (neg : Bool) (d : Bytes) : Int := if allZero d then 0 else if neg then -1 else 1

/-- `compare_signed_magnitudes` -/
def cmpSignedMag (an : Bool) (a : Bytes) (bn : Bool) (b : Bytes) : Ordering :=
  thenO (compare (signum an a) (signum bn b))
    (if signum an a < 0 then cmpMag b a else cmpMag a b)

/-- minimal little-endian digits of a natural number (`[]` for 0) -/
def natDigits (n : Nat) : Bytes :=
  if h : n = 0 then [] else UInt8.ofNat (n % 256) :: natDigits (n / 256)
termination_by n
decreasing_by omega

def cmpIntBig (i : Int) (neg : Bool) (d : Bytes) : Ordering :=
  cmpSignedMag (i < 0) (natDigits i.natAbs) neg d

/-- an IEEE-754 double given by its bit pattern -/
structure F64 where
  neg : Bool
  exp : Nat
  frac : Nat

def f64 (bits : Nat) : F64 := ⟨bits / 2 ^ 63 % 2 == 1, bits / 2 ^ 52 % 2048, bits % 2 ^ 52⟩
def F64.isNaN (f : F64) : Bool := f.exp == 2047 && f.frac != 0
def F64.isInf (f : F64) : Bool := f.exp == 2047 && f.frac == 0
def F64.isZero (f : F64) : Bool := f.exp == 0 && f.frac == 0
/-- finite `f` = `mant * 2^expo` -/
def F64.mant (f : F64) : Nat := if f.exp == 0 then f.frac else f.frac + 2 ^ 52
def F64.expo (f : F64) : Int := if f.exp == 0 then -1074 else (f.exp : Int) - 1075
def F64.sign (f : F64) : Int := if f.isZero then 0 else if f.neg then -1 else 1

/-- compare the natural number `v` with `m * 2^e`, exactly -/
def cmpNatDyadic (v m : Nat) (e : Int) : Ordering :=
  if e ≥ 0 then compare v (m * 2 ^ e.toNat) else compare (v * 2 ^ (-e).toNat) m

abbrev ordRev (o : Ordering) : Ordering := o.swap

/-- `compare_signed_magnitude_float`: integer (sign, magnitude) against a float; NaN sorts last -/
def cmpSignedMagFloat (neg : Bool) (d : Bytes) (bits : Nat) : Ordering :=
  let f := f64 bits
  if f.isNaN then .lt else
  let si := signum neg d
  let sf : Int := f.sign
  thenO (compare si sf)
    (if si == 0 then .eq
     else if f.isInf then (if f.neg then .gt else .lt)
     else if si < 0 then ordRev (cmpNatDyadic (magVal d) f.mant f.expo)
     else cmpNatDyadic (magVal d) f.mant f.expo)

def cmpIntFloat (i : Int) (bits : Nat) : Ordering := cmpSignedMagFloat (i < 0) (natDigits i.natAbs) bits

/-- two non-NaN floats by value: sign first, then (exponent, fraction) which orders magnitudes (infinity has exponent 2047) -/
def cmpNonNaN (fa fb : F64) : Ordering :=
  thenO (compare fa.sign fb.sign)
    (if fa.sign = 0 then .eq
     else if fa.sign < 0 then (thenO (compare fa.exp fb.exp) (compare fa.frac fb.frac)).swap
     else thenO (compare fa.exp fb.exp) (compare fa.frac fb.frac))

/-- float against float as the code has it: NaN = NaN, NaN after everything, otherwise by value
(`partial_cmp`, taken to be comparison of the real values, with -0.0 = 0.0) -/
def cmpFloat (a b : Nat) : Ordering :=
  if (f64 a).isNaN && (f64 b).isNaN then .eq
  else if (f64 a).isNaN then .gt
  else if (f64 b).isNaN then .lt
  else cmpNonNaN (f64 a) (f64 b)

/-! ### terms -/

namespace Term

/-- `term_type_order` -/
def rank : Term → Nat
  | .int _ | .big _ _ | .float _ => 0
  | .atom _ => 1
  | .ref _ _ _ _ => 2
  | .xfun _ _ _ | .ifun _ _ _ _ _ _ _ _ _ => 3
  | .port _ _ _ _ => 4
  | .pid _ => 5
  | .tuple _ => 6
  | .map _ => 7
  | .nil | .list _ | .ilist _ _ => 8
  | .bin _ | .bits _ _ | .str _ => 9

def listRank : Nat := 8

def isListLike : Term → Bool
  | .nil | .list _ | .ilist _ _ => true
  | _ => false

mutual
/-- follow list tails, as `ListCells` does lazily: the same Erlang list always has the same cells -/
def norm : Term → Term
  | .list l => match normL l with
    | [] => .nil
    | l' => .list l'
  | .ilist l t =>
    match normL l, norm t with
    | [], t' => t'
    | l', .nil => .list l'
    | l', .list l2 => .list (l' ++ l2)
    | l', .ilist l2 t2 => .ilist (l' ++ l2) t2
    | l', t' => .ilist l' t'
  | .map kvs => .map (normKV kvs)
  | .tuple l => .tuple (normL l)
  | .ifun a u i nf m oi ou p fr => .ifun a u i nf m oi ou p (normL fr)
  | t => t
def normL : List Term → List Term
  | [] => []
  | t :: ts => norm t :: normL ts
def normKV : List (Term × Term) → List (Term × Term)
  | [] => []
  | (k, v) :: r => (norm k, norm v) :: normKV r
end

def pidCmp (a b : PidF) : Ordering :=
  thenO (bytesCmp a.node b.node) (thenO (compare a.id b.id) (thenO (compare a.serial b.serial) (compare a.creation b.creation)))

def bitParts : Term → Option (Bytes × Nat)
  | .bin b => some (b, 8)
  | .str s => some (s, 8)
  | .bits b n => some (b, n)
  | _ => none

mutual
/-- the comparison on terms whose list tails have been followed (`norm`) -/
def cmpN : Term → Term → Ordering
  | a, b =>
    if rank a ≠ rank b then compare (rank a) (rank b) else
    match a, b with
    | .int x, .int y => compare x y
    | .int x, .big n d => cmpIntBig x n d
    | .big n d, .int y => ordRev (cmpIntBig y n d)
    | .big n d, .big n2 d2 => cmpSignedMag n d n2 d2
    | .int x, .float f => cmpIntFloat x f
    | .float f, .int y => ordRev (cmpIntFloat y f)
    | .big n d, .float f => cmpSignedMagFloat n d f
    | .float f, .big n d => ordRev (cmpSignedMagFloat n d f)
    | .float x, .float y => cmpFloat x y
    | .atom x, .atom y => bytesCmp x y
    | .ref n c ids _, .ref n2 c2 ids2 _ => thenO (bytesCmp n n2) (thenO (compare c c2) (lexCmp ids ids2))
    | .xfun m f a, .xfun m2 f2 a2 => thenO (bytesCmp m m2) (thenO (bytesCmp f f2) (compare a a2))
    | .ifun _ u i _ m oi ou p fr, .ifun _ u2 i2 _ m2 oi2 ou2 p2 fr2 =>
        thenO (bytesCmp m m2) (thenO (compare oi oi2) (thenO (compare ou ou2) (thenO (compare i i2)
          (thenO (bytesCmp u u2) (thenO (pidCmp p p2) (cmpZip fr fr2 .eq .lt .gt))))))
    | .xfun _ _ _, .ifun _ _ _ _ _ _ _ _ _ => .lt
    | .ifun _ _ _ _ _ _ _ _ _, .xfun _ _ _ => .gt
    | .port n i c _, .port n2 i2 c2 _ => thenO (bytesCmp n n2) (thenO (compare i i2) (compare c c2))
    | .pid p, .pid q => pidCmp p q
    | .tuple x, .tuple y => thenO (compare x.length y.length) (cmpZip x y .eq .eq .eq)
    | .map x, .map y => thenO (compare x.length y.length) (thenO (cmpKeys x y) (cmpVals x y))
    -- lists as chains of cons cells: `nil`, `list l` (tail nil) and `ilist l t`
    | .nil, .nil => .eq
    | .nil, .list y => if y.isEmpty then .eq else .lt
    | .list x, .nil => if x.isEmpty then .eq else .gt
    | .list x, .list y => cmpZip x y .eq .lt .gt
    | .nil, .ilist y t => if y.isEmpty then compare listRank (rank t) else .lt
    | .ilist x t, .nil => if x.isEmpty then compare (rank t) listRank else .gt
    | .list x, .ilist y t => cmpZip x y (compare listRank (rank t)) .lt (compare listRank (rank t))
    | .ilist x t, .list y => cmpZip x y (compare (rank t) listRank) (compare (rank t) listRank) .gt
    | .ilist x t, .ilist y t2 => cmpZip x y (cmpN t t2) (compare (rank t) listRank) (compare listRank (rank t2))
    | a, b =>
      match bitParts a, bitParts b with
      | some (x, xb), some (y, yb) => thenO (bytesCmp x y) (compare xb yb)
      | _, _ => .eq
/-- element-wise; `both` when both run out together, `aOut` when the first runs out first, `bOut` otherwise -/
def cmpZip : List Term → List Term → Ordering → Ordering → Ordering → Ordering
  | [], [], both, _, _ => both
  | [], _ :: _, _, aOut, _ => aOut
  | _ :: _, [], _, _, bOut => bOut
  | x :: xs, y :: ys, both, aOut, bOut => thenO (cmpN x y) (cmpZip xs ys both aOut bOut)
def cmpKeys : List (Term × Term) → List (Term × Term) → Ordering
  | (k, _) :: r, (k2, _) :: r2 => thenO (cmpN k k2) (cmpKeys r r2)
  | _, _ => .eq
def cmpVals : List (Term × Term) → List (Term × Term) → Ordering
  | (_, v) :: r, (_, v2) :: r2 => thenO (cmpN v v2) (cmpVals r r2)
  | _, _ => .eq
end

/-- `Ord::cmp` -/
def cmp (a b : Term) : Ordering := cmpN (norm a) (norm b)

end Term
end Edp
