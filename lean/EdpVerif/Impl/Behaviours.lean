import EdpVerif.Impl.Procs
import EdpVerif.Generated.MiscC18
/-!
The behaviours clause of C18, function by function (core Lean only, linked into the driver):

* crates/edp_node/src/gen_server.rs — `GenServerProcess::handle_message` (`gsHandle`: the `Message` variants, the dispatch
  `gsDispatchB` of a `Regular` body — the if-chain of the source with the tags read from the source on this run
  (`Generated/MiscC18.lean` `GS_CALL_TAG` …; the arities and the order of the chain are compared with `GS_DISPATCH` /
  `GE_DISPATCH` by `C18_behaviour_tables_are_the_source`) —, `handle_gen_call` = callback, then `{Ref, Reply}` through `registry.get(from)` +
  `ProcessHandle::send`; `handle_gen_cast`; `handle_info`; `Exit` = the server's `terminate`), `Process::terminate`;
* crates/edp_node/src/process.rs `spawn_process` — the loop around `handle_message`: an `Err` ends the process, then
  `Process::terminate` (`gsRun`, `geRun`);
* crates/edp_node/src/gen_event.rs — `GenEventManager::{add_handler, delete_handler, notify, call_handler, which_handlers,
  handle_message, terminate}` (`addHandler`, `deleteHandler`, `notify`, `callHandler`, `whichHandlers`, `geHandle`).

What the model does not know is an input:
* the answers of the user's callbacks: for a `GenServer` one answer per message (`GsStep.ans`), for `GenEventHandler`s an
  oracle `ω uid k` = the answer of handler instance `uid` to its `k`-th callback (`init`, `handle_event`, `handle_call`,
  `handle_info` count; `terminate` returns nothing);
* the registry and the mailboxes of the callers at the moment a message is handled (`Env`: for a pid, is it in `by_pid`,
  and does its mailbox still have a receiver);
* the iteration order of the `HashMap` of handlers: the list order of `GeSt.hs`, arbitrary (every statement is for every
  state; removing an entry keeps the relative order of the others).

Modelled is the code AFTER the repair `fix: a reply that cannot be delivered does not end the behaviour process`
(`let _ = handle.send(..)` at the four reply sites): before it, `Reach.closed` made `handle_message` return `Err`.
-/
namespace Edp.Impl.Beh
open Edp Edp.Impl.Procs

/-- mailbox.rs `Message`, as far as the behaviours look at it -/
inductive Msg where
  /-- `Message::Regular { from, body }` -/
  | regular (frm : Option PidF) (body : Term)
  /-- `Message::Control { .. }` -/
  | control
  /-- `Message::Exit { reason, .. }` -/
  | exit (reason : Term)
  /-- `MonitorExit`, `Link`, `Unlink`, `Monitor`, `Demonitor`: the `_ => Ok(())` arm -/
  | other
  deriving Repr, BEq, Inhabited

/-- `registry.get(pid)` and what `handle.send(..)` then finds -/
inductive Reach where
  /-- not in `by_pid`: no send is attempted -/
  | absent
  /-- in `by_pid`, the mailbox has its receiver: the message is queued -/
  | live
  /-- in `by_pid` (or a handle cloned out of it just before the entry went), the receiver is gone: `Err(MailboxClosed)` -/
  | closed
  deriving Repr, DecidableEq, Inhabited

abbrev Env := PidF → Reach

/-- the callbacks the behaviours make -/
inductive Cb where
  | gsCall (req : Term) (frm : PidF)
  | gsCast (req : Term)
  | gsInfo (body : Term)
  | gsTerminate (reason : Term)
  | init (uid : Nat) (args : Term)
  | event (uid : Nat) (ev : Term)
  | call (uid : Nat) (req : Term)
  | info (uid : Nat) (body : Term)
  | terminate (uid : Nat) (reason : Term)
  deriving Repr, BEq, Inhabited

/-- what can be observed of a behaviour process: the callbacks it makes and the messages it puts into mailboxes -/
inductive Out where
  | cb (c : Cb)
  | send (to : PidF) (body : Term)
  deriving Repr, BEq, Inhabited

def sendsOf : List Out → List (PidF × Term)
  | [] => []
  | .send p b :: r => (p, b) :: sendsOf r
  | .cb _ :: r => sendsOf r

def cbsOf : List Out → List Cb
  | [] => []
  | .cb c :: r => c :: cbsOf r
  | .send _ _ :: r => cbsOf r

def atomB (b : Bytes) : Term := .atom b

/-- the dispatch of `GenServerProcess::handle_message` on a `Regular` body: `Tuple(elements)`, `elements.len() >= 2`,
`Atom(tag) = elements[0]`; `tag == call_tag && len == 3`: `elements[1]` must be `{Pid, Reference}` (otherwise the chain is
left: no cast test); `else if tag == cast_tag && len == 2`; everything else is `handle_info(body)` -/
def gsDispatchB (body : Term) : GsAct :=
  match body with
  | .tuple (.atom tag :: e1 :: rest) =>
    if tag = Gen.GS_CALL_TAG ∧ rest.length = 1 then
      match e1, rest with
      | .tuple [.pid fp, r], [req] => if isRef r then .call fp r req else .info body
      | _, _ => .info body
    else if tag = Gen.GS_CAST_TAG ∧ rest.length = 0 then .cast e1
    else .info body
  | _ => .info body

/-- the dispatch of `GenEventManager::handle_message` on a `Regular` body: notify (2), sync_notify (2), call (4, with a
`{Pid, Reference}` second element, otherwise the chain is left), which_handlers (2, with the same test inside its condition) -/
def geDispatchB (body : Term) : GeAct :=
  match body with
  | .tuple (.atom tag :: e1 :: rest) =>
    if tag = Gen.GE_NOTIFY_TAG ∧ rest.length = 0 then .notify e1
    else if tag = Gen.GE_SYNC_NOTIFY_TAG ∧ rest.length = 0 then .syncNotify e1
    else if tag = Gen.GE_CALL_TAG ∧ rest.length = 2 then
      match e1, rest with
      | .tuple [.pid fp, r], [hid, req] => if isRef r then .call fp r hid req else .info body
      | _, _ => .info body
    else if tag = Gen.GE_WHICH_TAG ∧ rest.length = 0 then
      match e1 with
      | .tuple [.pid fp, r] => if isRef r then .which fp r else .info body
      | _ => .info body
    else .info body
  | _ => .info body

/-- `if let Some(handle) = registry.get(&pid).await { let _ = handle.send(Message::Regular { from: None, body }).await; }` -/
def reply (env : Env) (to : PidF) (body : Term) : List Out :=
  match env to with
  | .live => [.send to body]
  | .absent => []
  | .closed => []

/-! ## gen_server.rs -/

/-- the server's answer to the one callback a message causes: `handle_call` → `Ok(Reply(v))` / `Ok(NoReply)` / `Err`;
`handle_cast` / `handle_info` → `Err` for `err`, `Ok(())` otherwise -/
abbrev GsAns := GsResult

structure GsStep where
  msg : Msg
  ans : GsAns
  env : Env

def GsAns.failed : GsAns → Bool
  | .err => true
  | _ => false

/-- `GenServerProcess::handle_gen_call` -/
def handleGenCall (ans : GsAns) (env : Env) (frm : PidF) (ref req : Term) : List Out × Bool :=
  match ans with
  | .err => ([.cb (.gsCall req frm)], false)                       -- `handle_call(..).await?`
  | .noReply => ([.cb (.gsCall req frm)], true)
  | .reply v => (.cb (.gsCall req frm) :: reply env frm (.tuple [ref, v]), true)

/-- `GenServerProcess::handle_message`: what it does, and `true` for `Ok(())` -/
def gsHandle (s : GsStep) : List Out × Bool :=
  match s.msg with
  | .regular _ body =>
    match gsDispatchB body with
    | .call frm ref req => handleGenCall s.ans s.env frm ref req
    | .cast req => ([.cb (.gsCast req)], !s.ans.failed)            -- `handle_gen_cast`
    | .info b => ([.cb (.gsInfo b)], !s.ans.failed)                -- `self.server.handle_info(body).await`
  | .control => ([], true)
  | .exit reason => ([.cb (.gsTerminate reason)], true)
  | .other => ([], true)

/-- the task of `spawn_process` around a `GenServerProcess`: messages in mailbox order; the first `Err` ends the loop,
`Process::terminate` (= the server's `terminate(normal)`) follows; `true`: still in its loop after the last message -/
def gsRun : List GsStep → List Out × Bool
  | [] => ([], true)
  | s :: rest =>
    match gsHandle s with
    | (o, true) => let r := gsRun rest; (o ++ r.1, r.2)
    | (o, false) => (o ++ [.cb (.gsTerminate (atomB Gen.GS_TERMINATE_REASON))], false)

/-- the messages the loop got to (up to and including the one that ended it) -/
def gsHandled : List GsStep → List GsStep
  | [] => []
  | s :: rest => if (gsHandle s).2 then s :: gsHandled rest else [s]

/-! ## gen_event.rs -/

inductive AnsKind where
  | ok | remove | swap | err
  deriving Repr, DecidableEq, Inhabited

/-- a handler's answer to one callback, read per callback:
`init`: `err` → `Err`, otherwise `Ok(())`;
`handle_event`: `ok` → `EventResult::Ok`, `remove` → `Remove`, `swap` → `SwapHandler(new, args)`, `err` → `Err`;
`handle_call`: `ok` → `CallResult::Reply(val)`, `remove` → `Remove(val)`, `swap` → `SwapHandler(new, args, val)`, `err` → `Err`;
`handle_info`: whatever it is, the manager ignores it.
`new` is a handler instance `newUid` whose `id()` is `newKey` -/
structure Ans where
  kind : AnsKind := .ok
  val : Term := .nil
  newUid : Nat := 0
  newKey : Term := .nil
  args : Term := .nil
  deriving Repr, Inhabited

abbrev Oracle := Nat → Nat → Ans

/-- a `HandlerEntry` under its map key -/
structure Entry where
  /-- the key of the map: `format!("{:?}", id)` of the handler that was ADDED under it (a swap keeps the key) -/
  key : Term
  /-- the handler instance in the entry -/
  uid : Nat
  /-- what that instance's `id()` returns -/
  hid : Term
  /-- callbacks that instance has answered so far -/
  n : Nat
  deriving Repr, BEq, Inhabited

structure GeSt where
  hs : List Entry := []
  deriving Repr, Inhabited

def findKey (key : Term) : List Entry → Option Entry
  | [] => none
  | e :: r => if e.key == key then some e else findKey key r

def removeKey (key : Term) : List Entry → List Entry
  | [] => []
  | e :: r => if e.key == key then r else e :: removeKey key r

def replaceKey (e' : Entry) : List Entry → List Entry
  | [] => []
  | e :: r => if e.key == e'.key then e' :: r else e :: replaceKey e' r

/-- `self.handlers.insert(key, entry)`: a new key goes somewhere (here: to the end), an existing one is overwritten -/
def insertKey (e' : Entry) (hs : List Entry) : List Entry :=
  match findKey e'.key hs with
  | some _ => replaceKey e' hs
  | none => hs ++ [e']

/-- `GenEventManager::add_handler(handler, args)`: `init` first (`?`), then `insert` — an entry already under that key is
dropped without `terminate` -/
def addHandler (ω : Oracle) (st : GeSt) (uid : Nat) (hid args : Term) : GeSt × List Out × Bool :=
  match (ω uid 0).kind with
  | .err => (st, [.cb (.init uid args)], false)
  | _ => ({ hs := insertKey ⟨hid, uid, hid, 1⟩ st.hs }, [.cb (.init uid args)], true)

/-- `GenEventManager::delete_handler(id)` -/
def deleteHandler (st : GeSt) (key : Term) : GeSt × List Out × Bool :=
  match findKey key st.hs with
  | some e => ({ hs := removeKey key st.hs }, [.cb (.terminate e.uid (atomB Gen.GE_REASON_DELETE))], true)
  | none => (st, [], false)

/-- one pass of the first loop of `notify` over one entry: the entry afterwards, what was observable, and whether its
key went to `to_remove` -/
def notifyOne (ω : Oracle) (e : Entry) (ev : Term) : Entry × List Out × Bool :=
  let a := ω e.uid e.n
  match a.kind with
  | .ok => ({ e with n := e.n + 1 }, [.cb (.event e.uid ev)], false)
  | .remove => ({ e with n := e.n + 1 }, [.cb (.event e.uid ev)], true)
  | .err => ({ e with n := e.n + 1 }, [.cb (.event e.uid ev)], true)
  | .swap =>
    let fresh : Entry := { key := e.key, uid := a.newUid, hid := a.newKey, n := 1 }
    let o := [Out.cb (.event e.uid ev), .cb (.terminate e.uid (atomB Gen.GE_REASON_EVENT_SWAP)), .cb (.init a.newUid a.args)]
    match (ω a.newUid 0).kind with
    | .err => (fresh, o, true)
    | _ => (fresh, o, false)

/-- the first loop of `notify`: entries afterwards (all of them still there), outputs, flags -/
def notifyPass (ω : Oracle) (ev : Term) : List Entry → List (Entry × Bool) × List Out
  | [] => ([], [])
  | e :: r =>
    let (e', o, rm) := notifyOne ω e ev
    let (es, os) := notifyPass ω ev r
    ((e', rm) :: es, o ++ os)

/-- the second loop of `notify`: the flagged entries leave, each after `terminate(error)` -/
def sweep : List (Entry × Bool) → List Entry × List Out
  | [] => ([], [])
  | (e, false) :: r => let (es, os) := sweep r; (e :: es, os)
  | (e, true) :: r => let (es, os) := sweep r; (es, .cb (.terminate e.uid (atomB Gen.GE_REASON_EVENT_REMOVE)) :: os)

/-- `GenEventManager::notify(event)`; always `Ok(())` -/
def notify (ω : Oracle) (st : GeSt) (ev : Term) : GeSt × List Out :=
  let (marked, o1) := notifyPass ω ev st.hs
  let (hs', o2) := sweep marked
  ({ hs := hs' }, o1 ++ o2)

/-- `GenEventManager::call_handler(handler_id, request)`: the state afterwards, what was observable, and `Ok(reply)` / `Err` -/
def callHandler (ω : Oracle) (st : GeSt) (key req : Term) : GeSt × List Out × Option Term :=
  match findKey key st.hs with
  | none => (st, [], none)                                          -- "Handler not found"
  | some e =>
    let a := ω e.uid e.n
    match a.kind with
    | .ok => ({ hs := replaceKey { e with n := e.n + 1 } st.hs }, [.cb (.call e.uid req)], some a.val)
    | .remove =>
      ({ hs := removeKey key st.hs }, [.cb (.call e.uid req), .cb (.terminate e.uid (atomB Gen.GE_REASON_CALL_REMOVE))], some a.val)
    | .err =>
      ({ hs := removeKey key st.hs }, [.cb (.call e.uid req), .cb (.terminate e.uid (atomB Gen.GE_REASON_CALL_ERR))], none)
    | .swap =>
      let fresh : Entry := { key := e.key, uid := a.newUid, hid := a.newKey, n := 1 }
      let o := [Out.cb (.call e.uid req), .cb (.terminate e.uid (atomB Gen.GE_REASON_CALL_SWAP)), .cb (.init a.newUid a.args)]
      match (ω a.newUid 0).kind with
      | .err => ({ hs := replaceKey fresh st.hs }, o, none)          -- `init(..).await?`: the entry keeps the new handler
      | _ => ({ hs := replaceKey fresh st.hs }, o, some a.val)

/-- `GenEventManager::which_handlers()`: the `id()` of every handler, in map order -/
def whichHandlers (st : GeSt) : List Term := st.hs.map (·.hid)

/-- the loop `for entry in self.handlers.values_mut() { handle_info(body) }`: every answer is ignored -/
def infoAll (body : Term) : List Entry → List Entry × List Out
  | [] => ([], [])
  | e :: r => let (es, os) := infoAll body r; ({ e with n := e.n + 1 } :: es, .cb (.info e.uid body) :: os)

def terminateAll (reason : Term) (hs : List Entry) : List Out :=
  hs.map fun e => .cb (.terminate e.uid reason)

structure GeStep where
  msg : Msg
  env : Env

/-- `GenEventManager::handle_message`; it has no path to `Err` (the repaired code ignores a reply that cannot be delivered) -/
def geHandle (ω : Oracle) (st : GeSt) (s : GeStep) : GeSt × List Out :=
  match s.msg with
  | .regular frm body =>
    match geDispatchB body with
    | .notify ev => notify ω st ev
    | .syncNotify ev =>
      let (st', o) := notify ω st ev
      match frm with
      | some p => (st', o ++ reply s.env p (atomB Gen.GE_ACK_ATOM))
      | none => (st', o)
    | .call fp r hid req =>
      let (st', o, res) := callHandler ω st hid req
      (st', o ++ reply s.env fp (.tuple [r, res.getD (atomB Gen.GE_CALL_ERROR_ATOM)]))
    | .which fp r => (st, reply s.env fp (.tuple [r, .list (whichHandlers st)]))
    | .info b => let (hs', o) := infoAll b st.hs; ({ hs := hs' }, o)
  | .control => (st, [])
  | .exit reason => (st, terminateAll reason st.hs)
  | .other => (st, [])

/-- the manager's process over a sequence of messages: it never leaves its loop by itself -/
def geRun (ω : Oracle) : GeSt → List GeStep → GeSt × List Out
  | st, [] => (st, [])
  | st, s :: rest =>
    let (st', o) := geHandle ω st s
    let (st'', os) := geRun ω st' rest
    (st'', o ++ os)

/-- `Process::terminate` of the manager (when the task is torn down): `terminate(shutdown)` for every handler -/
def geTerminate (st : GeSt) : List Out := terminateAll (atomB Gen.GE_REASON_SHUTDOWN) st.hs

end Edp.Impl.Beh
