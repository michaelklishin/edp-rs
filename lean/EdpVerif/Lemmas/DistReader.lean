import EdpVerif.Lemmas.DistHeader
/-! C14, the reference loop of `parse_dist_header_with_cache` on every input (conforming sender or not), against the
independent reader of the layout. -/
namespace Edp.DistHeader
open Edp Edp.Spec.DistHeader

theorem rdU1_cons (bs : Bytes) (v : Nat) (r : Bytes) (h : rdU 1 bs = .ok (v, r)) : ∃ b : UInt8, bs = b :: r ∧ v = b.toNat := by
  cases bs with
  | nil => simp [rdU, rdN] at h
  | cons b t =>
    simp only [rdU, rdN, Nat.pow_zero, Nat.mul_one, Nat.add_zero, Except.ok.injEq, Prod.mk.injEq] at h
    exact ⟨b, by rw [h.2], h.1.symm⟩

theorem nibbleAt_field (flags : Bytes) (i nib : Nat) (h : nibbleAt flags i = some nib) :
    field flags i = nib ∧ nib < 16 := by
  rw [nibbleAt_eq] at h
  split at h
  · cases h; exact ⟨rfl, field_lt flags i⟩
  · cases h

/-- an accepted run of `parse_dist_header_with_cache`'s loop, on any input, is a run of the protocol's reader with the same
atoms (by position), the same remaining bytes, and caches that still agree -/
theorem parseRefs_sound (long : Bool) (flags : Bytes) :
    ∀ (k i : Nat) (c : Cache) (s : Slots) (bs : Bytes) (c' : Cache) (rest : Bytes),
      SlotsAgree c s → parseRefs long flags k i c bs = (c', .ok rest) →
      ∃ as s', readRefs long flags k i s bs = some (as, s', rest) ∧ SlotsAgree c' s' ∧ Positions c'.atoms c.atoms i as := by
  intro k
  induction k with
  | zero =>
    intro i c s bs c' rest ha h
    simp only [parseRefs, Prod.mk.injEq, Except.ok.injEq] at h
    obtain ⟨rfl, rfl⟩ := h
    exact ⟨[], s, by simp [readRefs], ha, .nil _ _⟩
  | succ k ih =>
    intro i c s bs c' rest ha h
    simp only [parseRefs] at h
    cases h1 : rdU 1 bs with
    | error e => simp [h1] at h
    | ok v1 =>
      obtain ⟨idx, r⟩ := v1
      obtain ⟨b, rfl, rfl⟩ := rdU1_cons bs idx r h1
      simp only [h1] at h
      cases h2 : nibbleAt flags i with
      | none => simp [h2] at h
      | some nib =>
        obtain ⟨hfield, hnib⟩ := nibbleAt_field flags i nib h2
        simp only [h2] at h
        by_cases hnew : nib / 8 = 1
        · have hge : nib ≥ 8 := by omega
          simp only [hnew, BEq.rfl, ↓reduceIte] at h
          cases h3 : rdU (if long then 2 else 1) r with
          | error e => simp [h3] at h
          | ok v3 =>
            obtain ⟨len, r1⟩ := v3
            simp only [h3] at h
            cases h4 : takeE len r1 with
            | error e => simp [h4] at h
            | ok v4 =>
              obtain ⟨text, r2⟩ := v4
              simp only [h4] at h
              by_cases hu : validUtf8 text = true
              · simp only [hu, Bool.not_true, Bool.false_eq_true, ↓reduceIte] at h
                have ha' := ha.cons ((i, text) :: c.atoms) (nib % 8, b.toNat) text
                obtain ⟨as, s', hr, hs, hp⟩ := ih (i + 1) _ _ r2 c' rest ha' h
                refine ⟨text :: as, s', ?_, hs, hp.cons⟩
                simp only [readRefs, hfield, hge, ↓reduceIte, rdU_ok h3, takeE_takeN h4, hr]
              · simp [hu] at h
        · have hlt : ¬ nib ≥ 8 := by omega
          have hne : (nib / 8 == 1) = false := by simpa using hnew
          simp only [hne, Bool.false_eq_true, ↓reduceIte] at h
          cases h3 : c.slots.lookup (nib % 8, b.toNat) with
          | none => simp [h3] at h
          | some a =>
            simp only [h3] at h
            have hs3 : s.lookup (nib % 8, b.toNat) = some a := by rw [← ha]; exact h3
            obtain ⟨as, s', hr, hs, hp⟩ := ih (i + 1) { c with atoms := (i, a) :: c.atoms } s r c' rest ha h
            refine ⟨a :: as, s', ?_, hs, hp.cons⟩
            simp only [readRefs, hfield, hlt, ↓reduceIte, hs3, hr]

end Edp.DistHeader
