import EdpVerif.Impl.Receiver
import EdpVerif.Lemmas.Framing
import EdpVerif.Lemmas.Control
/-! C19: `routeCtl` arm by arm, the receiver loop on histories of whole frames (survival, cuts, idle limit), `classify` on a
pass-through body, and the operation numbers `route_message` has an arm for. -/
namespace Edp.Receiver
open Edp Edp.Framing

theorem find_sendTo (ps : List (PidKey × List LMsg)) (k k' : PidKey) (m : LMsg) :
    (ps.map fun p => if p.1 = k then (p.1, p.2 ++ [m]) else p).find? (fun p => p.1 = k') =
      (ps.find? (fun p => p.1 = k')).map (fun p => if p.1 = k then (p.1, p.2 ++ [m]) else p) := by
  rw [List.find?_map]
  congr 2
  funext p
  simp only [Function.comp]
  split <;> rfl

theorem mailbox_sendTo (st : NodeSt) (k k' : PidKey) (m : LMsg) :
    mailbox (sendTo st k m) k' = (mailbox st k').map fun mb => if k' = k then mb ++ [m] else mb := by
  unfold mailbox sendTo
  simp only
  rw [find_sendTo]
  cases hf : st.procs.find? (fun p => p.1 = k') with
  | none => rfl
  | some p =>
    have hp : p.1 = k' := by simpa using List.find?_some hf
    subst hp
    simp only [Option.map_some]
    split <;> rfl

theorem mailbox_sendTo_same (st : NodeSt) (k : PidKey) (m : LMsg) (mb : List LMsg) (h : mailbox st k = some mb) :
    mailbox (sendTo st k m) k = some (mb ++ [m]) := by
  rw [mailbox_sendTo, h, Option.map_some, if_pos rfl]

theorem mailbox_sendTo_other (st : NodeSt) (k k' : PidKey) (m : LMsg) (h : k' ≠ k) :
    mailbox (sendTo st k m) k' = mailbox st k' := by
  rw [mailbox_sendTo]
  simp only [h, if_false, Option.map_id']

theorem isLive_sendTo (st : NodeSt) (k k' : PidKey) (m : LMsg) : isLive (sendTo st k m) k' = isLive st k' := by
  unfold isLive
  rw [mailbox_sendTo, Option.isSome_map]

theorem isLive_of_mailbox {st : NodeSt} {k : PidKey} {mb : List LMsg} (h : mailbox st k = some mb) :
    isLive st k = true := by
  unfold isLive
  rw [h]
  rfl

theorem sendTo_pids (st : NodeSt) (k : PidKey) (m : LMsg) :
    (sendTo st k m).procs.map (·.1) = st.procs.map (·.1) := by
  unfold sendTo
  simp only [List.map_map]
  apply List.map_congr_left
  intro p _
  simp only [Function.comp]
  split <;> rfl

/-- `handle.send` to a live process, exactly: that message at the end of that mailbox; every other mailbox, the set of
processes, the names, the outstanding calls and their answers are untouched -/
theorem sendTo_exact (st : NodeSt) (k : PidKey) (m : LMsg) (mb : List LMsg) (h : mailbox st k = some mb) :
    mailbox (sendTo st k m) k = some (mb ++ [m]) ∧
    (∀ k', k' ≠ k → mailbox (sendTo st k m) k' = mailbox st k') ∧
    (sendTo st k m).procs.map (·.1) = st.procs.map (·.1) ∧
    (sendTo st k m).names = st.names ∧ (sendTo st k m).pending = st.pending ∧ (sendTo st k m).replies = st.replies :=
  ⟨mailbox_sendTo_same st k m mb h, fun k' hk => mailbox_sendTo_other st k k' m hk, sendTo_pids st k m, rfl, rfl, rfl⟩

/-- what the loop does with a frame whose control term is `ct` and whose message is `payload` -/
def routeCtl (tbl : Control.Table) (st : NodeSt) (ct : Term) (payload : Option Term) : NodeSt :=
  match Control.parse tbl ct with
  | .ok m => route st m payload
  | .error _ => st

/-! `routeCtl` arm by arm, for a control term the table parses to a known variant: what the arm does when the addressing
fields are what it expects, and that it does nothing when they are not. -/

section
variable {tbl : Control.Table} {ct : Term} {v : String} {fs : List (String × Control.FVal)}
  (hp : Control.parse tbl ct = .ok (.known v fs)) {st : NodeSt} {payload : Option Term}
include hp

theorem routeCtl_send {p : PidF} (hv : armOf v = .send) (hf : fld fs "to_pid" = some (.pid p)) {body : Term} :
    routeCtl tbl st ct (some body) =
      if isLive st p.key then sendTo st p.key (.regular body)
      else if rpcKey p ∈ st.pending then answer st (rpcKey p) body else st := by
  simp only [routeCtl, hp, route, hv, hf]

theorem routeCtl_regSend {n : Bytes} (hv : armOf v = .regSend) (hf : fld fs "to_name" = some (.atom n)) {body : Term} :
    routeCtl tbl st ct (some body) =
      match whereis st n with
      | some k => if isLive st k then sendTo st k (.regular body) else st
      | none => st := by
  simp only [routeCtl, hp, route, hv, hf]
  rfl

theorem routeCtl_exit {s to : PidF} {reason : Term} (hv : armOf v = .exit) (h1 : fld fs "from_pid" = some (.pid s))
    (h2 : fld fs "to_pid" = some (.pid to)) (h3 : fld fs "reason" = some reason) :
    routeCtl tbl st ct payload = if isLive st to.key then sendTo st to.key (.exit s reason) else st := by
  simp only [routeCtl, hp, route, hv, h1, h2, h3]

theorem routeCtl_monitorExit {s to : PidF} {n : Bytes} {c : Nat} {ids : List Nat} {l : Option Bytes} {reason : Term}
    (hv : armOf v = .monitorExit) (h1 : fld fs "from_proc" = some (.pid s)) (h2 : fld fs "to_pid" = some (.pid to))
    (h3 : fld fs "reference" = some (.ref n c ids l)) (h4 : fld fs "reason" = some reason) :
    routeCtl tbl st ct payload =
      if isLive st to.key then sendTo st to.key (.monitorExit s (.ref n c ids l) reason) else st := by
  simp only [routeCtl, hp, route, hv, h1, h2, h3, h4]

/- `h` is what the catch-all equation of the arm's `match` asks for; `simp` finds it among the hypotheses. -/
theorem routeCtl_send_unaddressed (hv : armOf v = .send)
    (h : ∀ body p, payload = some body → fld fs "to_pid" = some (.pid p) → False) :
    routeCtl tbl st ct payload = st := by
  simp only [routeCtl, hp, route, hv]

theorem routeCtl_regSend_unaddressed (hv : armOf v = .regSend)
    (h : ∀ body n, payload = some body → fld fs "to_name" = some (.atom n) → False) :
    routeCtl tbl st ct payload = st := by
  simp only [routeCtl, hp, route, hv]

theorem routeCtl_exit_unaddressed (hv : armOf v = .exit)
    (h : ∀ s to reason, fld fs "from_pid" = some (.pid s) → fld fs "to_pid" = some (.pid to) →
      fld fs "reason" = some reason → False) :
    routeCtl tbl st ct payload = st := by
  simp only [routeCtl, hp, route, hv]

theorem routeCtl_monitorExit_unaddressed (hv : armOf v = .monitorExit)
    (h : ∀ s to n c ids l reason, fld fs "from_proc" = some (.pid s) → fld fs "to_pid" = some (.pid to) →
      fld fs "reference" = some (.ref n c ids l) → fld fs "reason" = some reason → False) :
    routeCtl tbl st ct payload = st := by
  simp only [routeCtl, hp, route, hv]

end

theorem route_ignored {v : String} {fs : List (String × Control.FVal)} (st : NodeSt) (hv : armOf v = .ignored)
    (payload : Option Term) : route st (.known v fs) payload = st := by
  simp only [route, hv]

theorem keepGoing_ofRead (e : RErr) : keepGoing (.ofRead e) = false := by
  cases e <;> rfl

theorem recvMsg_eq (x : Ext) (tbl : Control.Table) (evs : List Ev) :
    recvMsg x tbl evs =
      (match (recvBody connCap evs).res with
        | .error e => .error (.ofRead e)
        | .ok body => classify x tbl body,
       (recvBody connCap evs).rest) := by
  unfold recvMsg
  cases recvBody connCap evs with
  | mk res r a => cases res <;> rfl

theorem loopF_succ (x : Ext) (tbl : Control.Table) (f : Nat) (st : NodeSt) (evs : List Ev) :
    loopF x tbl (f + 1) st evs =
      match step st (recvMsg x tbl evs).1 with
      | .ok st' => loopF x tbl f st' (recvMsg x tbl evs).2
      | .error e => ⟨st, e, (recvMsg x tbl evs).2⟩ := by
  simp only [loopF]
  cases recvMsg x tbl evs with
  | mk res r => rfl

theorem step_ok_weight (x : Ext) (tbl : Control.Table) (st st' : NodeSt) (evs : List Ev)
    (h : step st (recvMsg x tbl evs).1 = .ok st') : weight (recvMsg x tbl evs).2 < weight evs := by
  rw [recvMsg_eq] at h ⊢
  cases hr : (recvBody connCap evs).res with
  | error e =>
    rw [hr] at h
    simp [step, keepGoing_ofRead] at h
  | ok body => exact recvBody_step connCap evs body hr

theorem loopF_unfold (x : Ext) (tbl : Control.Table) (f : Nat) (st : NodeSt) (evs : List Ev) (h : weight evs < f) :
    loopF x tbl f st evs =
      match step st (recvMsg x tbl evs).1 with
      | .ok st' => loop x tbl st' (recvMsg x tbl evs).2
      | .error e => ⟨st, e, (recvMsg x tbl evs).2⟩ := by
  refine fuelRec (fun f s => loopF x tbl f s.1 s.2) (fun s => weight s.2) (fun s k =>
    match step s.1 (recvMsg x tbl s.2).1 with
    | .ok st' => k (st', (recvMsg x tbl s.2).2)
    | .error e => ⟨s.1, e, (recvMsg x tbl s.2).2⟩) (fun s g g' hg => ?_) (fun f s => loopF_succ x tbl f s.1 s.2)
    f (st, evs) h
  cases hs : step s.1 (recvMsg x tbl s.2).1 with
  | error e => rfl
  | ok st' => exact hg _ (step_ok_weight x tbl s.1 st' s.2 hs)

theorem loop_unfold (x : Ext) (tbl : Control.Table) (st : NodeSt) (evs : List Ev) :
    loop x tbl st evs =
      match step st (recvMsg x tbl evs).1 with
      | .ok st' => loop x tbl st' (recvMsg x tbl evs).2
      | .error e => ⟨st, e, (recvMsg x tbl evs).2⟩ :=
  loopF_unfold x tbl _ st evs (Nat.lt_succ_self _)

theorem loopF_fuel (x : Ext) (tbl : Control.Table) : ∀ (f1 f2 : Nat) (st : NodeSt) (evs : List Ev),
    weight evs < f1 → weight evs < f2 → loopF x tbl f1 st evs = loopF x tbl f2 st evs :=
  fun f1 f2 st evs h1 h2 => (loopF_unfold x tbl f1 st evs h1).trans (loopF_unfold x tbl f2 st evs h2).symm

theorem loop_congr (x : Ext) (tbl : Control.Table) (st : NodeSt) (e1 e2 : List Ev)
    (h : recvBody connCap e1 = recvBody connCap e2) : loop x tbl st e1 = loop x tbl st e2 := by
  rw [loop_unfold, loop_unfold x tbl st e2, recvMsg_eq, recvMsg_eq, h]

theorem loop_pending (x : Ext) (tbl : Control.Table) (st : NodeSt) (r : List Ev) :
    loop x tbl st (.pending :: r) = loop x tbl st r :=
  loop_congr x tbl st _ _ (recvBody_pending connCap r)

/-- a frame body the loop survives: it is routed or skipped -/
def Survivable (x : Ext) (tbl : Control.Table) (body : Bytes) : Prop :=
  ∀ e, classify x tbl body = .error e → keepGoing e = true

/-- bodies a frame can carry: the length fits the prefix and is within the limit -/
def Framable (body : Bytes) : Prop := fits .distribution body ∧ body.length ≤ connCap

theorem step_survivable (x : Ext) (tbl : Control.Table) (st : NodeSt) (body : Bytes) (h : Survivable x tbl body) :
    ∃ st', step st (classify x tbl body) = .ok st' := by
  cases hc : classify x tbl body with
  | ok r => exact ⟨route st r.1 r.2, by cases r; rfl⟩
  | error e => exact ⟨st, by simp [step, h e hc]⟩

theorem routeAll_nil_body (x : Ext) (tbl : Control.Table) (st : NodeSt) (bs : List Bytes) :
    routeAll x tbl st ([] :: bs) = routeAll x tbl st bs := by
  simp [routeAll, classify, step, keepGoing]

/-- **survival**: any number of complete frames (ticks are the empty bodies) that are each survivable, delivered in any
segmentation with any number of `Pending` polls: the loop is then where a fresh loop on the routed state would be -/
theorem loop_clean_frames (x : Ext) (tbl : Control.Table) (tail : List Ev) :
    ∀ (bodies : List Bytes) (st : NodeSt) (c : List Ev),
      (∀ b ∈ bodies, Framable b ∧ (b ≠ [] → Survivable x tbl b)) → Clean c →
      payload c = (bodies.map (frame .distribution)).flatten →
      loop x tbl st (c ++ tail) = loop x tbl (routeAll x tbl st bodies) tail := by
  intro bodies
  induction bodies with
  | nil =>
    intro st c _ hc hp
    exact skip_pendings (loop x tbl st) (loop_pending x tbl st) tail c hc hp
  | cons b bs ih =>
    intro st c hb hc hp
    simp only [List.map_cons, List.flatten_cons] at hp
    obtain ⟨⟨hf, hcap⟩, hs⟩ := hb b (by simp)
    by_cases hne : b = []
    · subst hne
      obtain ⟨c', k1, k2, k3⟩ := recvBody_clean_tick connCap c _ tail hc hp
      rw [loop_congr x tbl st _ _ k3, routeAll_nil_body]
      exact ih st c' (fun y hy => hb y (by simp [hy])) k1 k2
    · obtain ⟨c', k1, k2, k3⟩ := recvBody_clean_msg connCap c b _ tail hc hp hne hf hcap
      obtain ⟨st', hst⟩ := step_survivable x tbl st b (hs hne)
      rw [loop_unfold, recvMsg_eq, k3]
      simp only [routeAll, hst]
      exact ih st' c' (fun y hy => hb y (by simp [hy])) k1 k2

/-- the stream is cut off (it ends, fails, or the timeout fires) inside a frame: the loop ends with the error of the
cut, nothing of the partial frame is routed, what follows the cut is not read -/
theorem loop_cut (x : Ext) (tbl : Control.Table) (st : NodeSt) (c : List Ev) (m missing : Bytes) (tail : List Ev)
    (e : RErr) (r : List Ev) (hc : Clean c) (hp : payload c ++ missing = frame .distribution m) (hmiss : missing ≠ [])
    (hf : Framable m) (ht : cutErr tail = some (e, r)) :
    loop x tbl st (c ++ tail) = ⟨st, .ofRead e, r⟩ := by
  obtain ⟨h1, h2⟩ := recvBody_cut connCap c m missing tail e r hc hp hmiss hf.1 hf.2 ht
  rw [loop_unfold, recvMsg_eq, h1, h2]
  simp only [step, keepGoing_ofRead]
  rfl

/-- between frames -/
theorem loop_at_cut (x : Ext) (tbl : Control.Table) (st : NodeSt) (tail : List Ev) (e : RErr) (r : List Ev)
    (ht : cutErr tail = some (e, r)) : loop x tbl st tail = ⟨st, .ofRead e, r⟩ :=
  loop_cut x tbl st [] [] (frame .distribution []) tail e r trivial rfl (by decide) ⟨by decide, by decide⟩ ht

theorem loop_clean_overlong (x : Ext) (tbl : Control.Table) (st : NodeSt) (c : List Ev) (len : Nat) (rest : Bytes)
    (tail : List Ev) (hc : Clean c) (hp : payload c = beN 4 len ++ rest) (hl : len < 2 ^ 32) (hcap : connCap < len) :
    ∃ c', Clean c' ∧ payload c' = rest ∧ loop x tbl st (c ++ tail) = ⟨st, .tooLarge len, c' ++ tail⟩ := by
  obtain ⟨c', k1, k2, k3⟩ := recvBody_clean_overcap connCap c len rest tail hc hp (by simpa using hl) hcap
  refine ⟨c', k1, k2, ?_⟩
  rw [loop_unfold, recvMsg_eq, k3]
  rfl

theorem step_error {st : NodeSt} {res : Except RxErr Received} {e : RxErr} (h : step st res = .error e) :
    keepGoing e = false := by
  cases res with
  | ok r => cases h
  | error e' =>
    simp only [step] at h
    split at h
    · cases h
    · cases h
      exact Bool.eq_false_iff.mpr ‹_›

/-- whatever the script: the loop never ends for a reason it is supposed to survive -/
theorem loopF_why (x : Ext) (tbl : Control.Table) : ∀ (f : Nat) (st : NodeSt) (evs : List Ev),
    keepGoing (loopF x tbl f st evs).why = false := by
  intro f
  induction f with
  | zero => intro st evs; rfl
  | succ f ih =>
    intro st evs
    rw [loopF_succ]
    cases hs : step st (recvMsg x tbl evs).1 with
    | ok st' => exact ih st' _
    | error e => exact step_error hs

/-- a pass-through body whose control term decodes and parses: the result carries exactly that message and the decoded
payload (or none when nothing follows the control term); bytes after the payload term make the whole frame an
`Error::Decode` (`TrailingData`) -/
theorem classify_pass (x : Ext) (tbl : Control.Table) (r rest : Bytes) (ct : Term) (m : Control.Msg)
    (hd : decodeTrailing x r = .ok (ct, rest)) (hm : Control.parse tbl ct = .ok m) :
    (rest = [] → classify x tbl (112 :: r) = .ok (m, none)) ∧
    (∀ p, rest ≠ [] → decodeTrailing x rest = .ok (p, []) → classify x tbl (112 :: r) = .ok (m, some p)) ∧
    (∀ p rr, rest ≠ [] → rr ≠ [] → decodeTrailing x rest = .ok (p, rr) → classify x tbl (112 :: r) = .error .decode) := by
  refine ⟨?_, ?_, ?_⟩
  · intro h0
    subst h0
    simp [classify, hd, hm]
  · intro p h0 hp
    cases rest with
    | nil => exact absurd rfl h0
    | cons a t => simp [classify, hd, hm, hp]
  · intro p rr h0 h1 hp
    cases rest with
    | nil => exact absurd rfl h0
    | cons a t =>
      cases rr with
      | nil => exact absurd rfl h1
      | cons b u => simp [classify, hd, hm, hp]

/-- the errors `classify` can give -/
theorem classify_error_cases (x : Ext) (tbl : Control.Table) (body : Bytes) (e : RxErr)
    (h : classify x tbl body = .error e) :
    e = .empty ∨ (∃ b, e = .marker b) ∨ e = .decode ∨ e = .control ∨ e = .panic := by
  unfold classify at h
  split at h
  · cases h; exact Or.inl rfl
  · split at h
    · cases h; exact Or.inr (Or.inl ⟨_, rfl⟩)
    · split at h
      · cases h; simp
      · cases h; simp
      · split at h
        · cases h; simp
        · cases h; simp
        · split at h
          · cases h
          · split at h
            · cases h; simp
            · cases h; simp
            · cases h
            · cases h; simp

theorem survivable_iff (x : Ext) (tbl : Control.Table) (body : Bytes) :
    Survivable x tbl body ↔ classify x tbl body ≠ .error .empty ∧ classify x tbl body ≠ .error .panic := by
  refine ⟨fun h => ⟨fun he => Bool.noConfusion (h _ he), fun he => Bool.noConfusion (h _ he)⟩, ?_⟩
  · intro ⟨h1, h2⟩ e he
    rcases classify_error_cases x tbl body e he with rfl | ⟨b, rfl⟩ | rfl | rfl | rfl
    · exact absurd he h1
    · rfl
    · rfl
    · rfl
    · exact absurd he h2

/-- a body with no effect on any state: the loop goes on as if it had not arrived -/
def Inert (x : Ext) (tbl : Control.Table) (body : Bytes) : Prop :=
  ∀ st, step st (classify x tbl body) = .ok st

theorem inert_survivable (x : Ext) (tbl : Control.Table) (body : Bytes) (h : Inert x tbl body) :
    Survivable x tbl body := by
  intro e he
  have := h default
  rw [he] at this
  simp only [step] at this
  split at this
  · assumption
  · simp at this

theorem routeAll_append (x : Ext) (tbl : Control.Table) : ∀ (a b : List Bytes) (st : NodeSt),
    routeAll x tbl st (a ++ b) = routeAll x tbl (routeAll x tbl st a) b := by
  intro a
  induction a with
  | nil => intro b st; rfl
  | cons y t ih =>
    intro b st
    simp only [List.cons_append, routeAll]
    split <;> exact ih b _

theorem routeAll_inert (x : Ext) (tbl : Control.Table) (st : NodeSt) (b : Bytes) (bs : List Bytes)
    (h : Inert x tbl b) : routeAll x tbl st (b :: bs) = routeAll x tbl st bs := by
  simp only [routeAll, h st]

/-- a history the receiver has to survive: complete frames that fit and are survivable, ticks, and silences that do not
add up to the limit while one read is waiting (`w` = milliseconds already waited) -/
def Calm (x : Ext) (tbl : Control.Table) (limit : Nat) : Nat → List Item → Prop
  | _, [] => True
  | _, .frame b :: r => Framable b ∧ (b ≠ [] → Survivable x tbl b) ∧ Calm x tbl limit 0 r
  | _, .tick :: r => Calm x tbl limit 0 r
  | w, .quiet d :: r => w + d < limit ∧ Calm x tbl limit (w + d) r
  | _, _ => False

def bodiesOf : List Item → List Bytes
  | [] => []
  | .frame b :: r => b :: bodiesOf r
  | _ :: r => bodiesOf r

theorem frame_ne_nil (b : Bytes) : frame .distribution b ≠ [] := by
  intro h
  have := congrArg List.length h
  simp [frame, beN_length, Mode.prefixSize] at this

theorem loop_one_frame (x : Ext) (tbl : Control.Table) (st : NodeSt) (b : Bytes) (tail : List Ev)
    (hf : Framable b) (hs : b ≠ [] → Survivable x tbl b) :
    loop x tbl st (.chunk (frame .distribution b) :: tail) = loop x tbl (routeAll x tbl st [b]) tail := by
  have := loop_clean_frames x tbl tail [b] st [.chunk (frame .distribution b)]
    (by intro y hy; simp at hy; subst hy; exact ⟨hf, hs⟩) (by simp [Clean, frame_ne_nil])
    (by simp [payload])
  simpa using this

theorem loop_calm (x : Ext) (tbl : Control.Table) (limit : Nat) (tail : List Ev) :
    ∀ (h : List Item) (w : Nat) (st : NodeSt), Calm x tbl limit w h →
      loop x tbl st (wire limit w h ++ tail) = loop x tbl (routeAll x tbl st (bodiesOf h)) tail := by
  intro h
  induction h with
  | nil => intro w st _; rfl
  | cons it r ih =>
    intro w st hc
    cases it with
    | frame b =>
      obtain ⟨hf, hs, hr⟩ := hc
      simp only [wire, bodiesOf, List.cons_append]
      rw [loop_one_frame x tbl st b _ hf hs, ih 0 _ hr]
      rw [← routeAll_append]
      rfl
    | tick =>
      simp only [wire, bodiesOf, List.cons_append]
      have hfr : Framable ([] : Bytes) := ⟨by unfold fits; simp [Mode.prefixSize], by simp⟩
      rw [loop_one_frame x tbl st [] _ hfr (fun h => absurd rfl h), routeAll_nil_body]
      exact ih 0 _ hc
    | quiet d =>
      obtain ⟨hlt, hr⟩ := hc
      simp only [wire, hlt, if_true, bodiesOf, List.cons_append]
      rw [loop_pending]
      exact ih (w + d) st hr
    | overlong len | cut len part | raw bs | close => exact hc.elim

/-- the operation numbers `route_message` has an arm for -/
def routedTags : List Nat := [2, 3, 6, 8, 12, 13, 16, 18, 21]

/-- in this table, only the operations in `routedTags` construct a variant that `route_message` has an arm for -/
def tableRoutesOnly (tbl : Control.Table) : Bool :=
  tbl.fromArms.all fun a => armOf a.variant == .ignored ||
    tbl.tryFrom.all fun p => !(p.2 == a.ty) || routedTags.contains p.1

theorem routeCtl_unrouted (tbl : Control.Table) (ht : tableRoutesOnly tbl = true) (st : NodeSt) (tag : Int)
    (args : List Term) (payload : Option Term) (h : tag.toNat ∉ routedTags) :
    routeCtl tbl st (.tuple (.int tag :: args)) payload = st := by
  unfold routeCtl
  by_cases hr : 0 ≤ tag ∧ tag ≤ 255
  · simp only [Control.parse, hr, and_self, if_true]
    cases hsel : Control.selectArm tbl (Control.fromU8 tbl tag.toNat) (args.length + 1) with
    | none => rfl
    | some arm =>
      simp only
      cases Control.evalFields (Term.int tag :: args) arm.fields with
      | error e => rfl
      | ok fs =>
        -- the arm was selected for an operation number of the table, and that number is not a routed one
        obtain ⟨harm, hty, _⟩ := Control.selectArm_some hsel
        have h1 := List.all_eq_true.mp ht arm harm
        simp only [Bool.or_eq_true, beq_iff_eq] at h1
        rcases h1 with h1 | h1
        · exact route_ignored st h1 payload
        · have := List.all_eq_true.mp h1 _ (Control.fromU8_some hty)
          simp only [beq_self_eq_true, Bool.not_true, Bool.false_or, List.contains_eq_mem, decide_eq_true_eq] at this
          exact absurd this h
  · simp only [Control.parse, hr, if_false]

end Edp.Receiver
