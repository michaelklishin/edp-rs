import EdpVerif.Lemmas.Send
import EdpVerif.Impl.SendConn
/-!
C07: sequences of operations on one connection, with operations that stop in the middle of their frame (`runOps`).
`runOps_wire`: the stream is the whole frames of the operations that returned `Ok`, which the independent reader reads as
exactly their items in order, followed by nothing or by a prefix of the frame of ONE operation that was cut.
-/
namespace Edp.Send
open Edp Edp.Spec Edp.Spec.Wire Edp.Term
open Edp.Impl.Handshake (ConnState)

theorem sendOp_closed (c : Conn) (order : List Bytes) (op : Op) : sendOp c.closed order op = .error .invalidState := by
  simp [sendOp, Conn.closed]

theorem sendOpF_closed (c : Conn) (order : List Bytes) (op : Op) (fate : Fate) :
    sendOpF c.closed order op fate = (c.closed, [], .err .invalidState) := by
  unfold sendOpF
  rw [sendOp_closed]

theorem runOps_closed (c : Conn) : ∀ calls : List Call,
    runOps c.closed calls = ([], calls.map fun _ => .err .invalidState) := by
  intro calls
  induction calls with
  | nil => rfl
  | cons x xs ih =>
    simp only [runOps, sendOpF_closed, List.map_cons]
    rw [ih]
    simp

theorem itemsOf_errs (calls : List Call) (e : Err) : itemsOf calls (calls.map fun _ => .err e) = [] := by
  induction calls with
  | nil => rfl
  | cons x xs ih => simpa [itemsOf] using ih

theorem cutBytes_prefix (ws : List Bytes) (i k : Nat) : ∃ rest, ws.flatten = cutBytes ws i k ++ rest := by
  refine ⟨((ws[i]?).getD []).drop k ++ (ws.drop (i + 1)).flatten, ?_⟩
  rw [cutBytes, List.append_assoc, ← List.append_assoc (List.take k _), List.take_append_drop]
  conv => lhs; rw [← List.take_append_drop i ws, List.flatten_append]
  congr 1
  by_cases hi : i < ws.length
  · rw [List.drop_eq_getElem_cons hi, List.flatten_cons]
    simp [hi]
  · have hi : ws.length ≤ i := by omega
    simp [List.drop_eq_nil_of_le hi, List.drop_eq_nil_of_le (Nat.le_succ_of_le hi), List.getElem?_eq_none hi]

theorem sendOpF_error (c : Conn) (order : List Bytes) (op : Op) (fate : Fate) (e : Err)
    (h : sendOp c order op = .error e) :
    sendOpF c order op fate = (if e = .noStream then c.closed else c, [], .err e) := by
  unfold sendOpF
  rw [h]
  cases e <;> simp

theorem sendOpF_whole (c : Conn) (order : List Bytes) (op : Op) (ws : List Bytes) (h : sendOp c order op = .ok ws) :
    sendOpF c order op .whole = (c, ws.flatten, .ok) := by
  unfold sendOpF
  rw [h]

theorem sendOpF_cut (c : Conn) (order : List Bytes) (op : Op) (ws : List Bytes) (i k : Nat)
    (h : sendOp c order op = .ok ws) :
    sendOpF c order op (.cut i k) = (c.closed, cutBytes ws i k, .cut) := by
  unfold sendOpF
  rw [h]

theorem runOps_wire (c : Conn) : ∀ (calls : List Call), (∀ x ∈ calls, OpOk x.op ∧ PayOk x.op) → ∀ (cache : Cache),
    ∃ whole tail, (runOps c calls).1 = whole ++ tail ∧
      readFramesFrom (modeOf c) cache whole = some (itemsOf calls (runOps c calls).2) ∧
      (tail = [] ∨ ∃ x ∈ calls, x.fate ≠ .whole ∧ ∃ ws rest, sendOp c x.order x.op = .ok ws ∧ ws.flatten = tail ++ rest) := by
  intro calls
  induction calls with
  | nil => intro _ cache; exact ⟨[], [], rfl, by simp [itemsOf, readFrames_nil], Or.inl rfl⟩
  | cons x xs ih =>
    intro hall cache
    have hx := hall x (by simp)
    have hxs : ∀ y ∈ xs, OpOk y.op ∧ PayOk y.op := fun y hy => hall y (by simp [hy])
    cases hs : sendOp c x.order x.op with
    | error e =>
      have hF := sendOpF_error c x.order x.op x.fate e hs
      by_cases he : e = .noStream
      · subst he
        simp only [↓reduceIte] at hF
        refine ⟨[], [], ?_, ?_, Or.inl rfl⟩
        · simp [runOps, hF, runOps_closed]
        · simp [runOps, hF, runOps_closed, itemsOf, itemsOf_errs, readFrames_nil]
      · simp only [he, ↓reduceIte] at hF
        obtain ⟨whole, tail, h1, h2, h3⟩ := ih hxs cache
        exact ⟨whole, tail, by simp [runOps, hF, h1], by simpa [runOps, hF, itemsOf] using h2,
          h3.imp_right fun ⟨y, hy, h3⟩ => ⟨y, by simp [hy], h3⟩⟩
    | ok ws =>
      cases hf : x.fate with
      | whole =>
        have hF := sendOpF_whole c x.order x.op ws hs
        obtain ⟨body, hflat, hlen, hne, hrb⟩ := op_frame c x.order x.op ws hs hx.1 hx.2
        obtain ⟨cache', hc'⟩ := hrb cache
        obtain ⟨whole, tail, h1, h2, h3⟩ := ih hxs cache'
        refine ⟨ws.flatten ++ whole, tail, by simp [runOps, hf, hF, h1], ?_,
          h3.imp_right fun ⟨y, hy, h3⟩ => ⟨y, by simp [hy], h3⟩⟩
        rw [hflat, readFrames_cons (modeOf c) cache body whole hlen hne _ cache' hc', h2]
        simp [runOps, hf, hF, itemsOf]
      | cut i k =>
        have hF := sendOpF_cut c x.order x.op ws i k hs
        obtain ⟨rest, hrest⟩ := cutBytes_prefix ws i k
        refine ⟨[], cutBytes ws i k, ?_, ?_, Or.inr ⟨x, by simp, by simp [hf], ws, rest, hs, hrest⟩⟩
        · simp [runOps, hf, hF, runOps_closed]
        · simp [runOps, hf, hF, runOps_closed, itemsOf, itemsOf_errs, readFrames_nil]

/-- the connection after a sequence of operations -/
def connAfter : Conn → List Call → Conn
  | c, [] => c
  | c, x :: xs => connAfter (sendOpF c x.order x.op x.fate).1 xs

theorem runOps_append (c : Conn) (pre post : List Call) :
    runOps c (pre ++ post) =
      ((runOps c pre).1 ++ (runOps (connAfter c pre) post).1, (runOps c pre).2 ++ (runOps (connAfter c pre) post).2) := by
  induction pre generalizing c with
  | nil => simp [runOps, connAfter]
  | cons x xs ih =>
    simp only [List.cons_append, runOps, connAfter]
    rw [ih]
    simp

theorem sendOpF_conn (c : Conn) (order : List Bytes) (op : Op) (fate : Fate) :
    ((sendOpF c order op fate).2.2 = .cut → (sendOpF c order op fate).1 = c.closed) ∧
    ((sendOpF c order op fate).2.2 = .ok → (sendOpF c order op fate).1 = c) ∧
    (∀ e, (sendOpF c order op fate).2.2 = .err e → e ≠ .noStream →
      (sendOpF c order op fate).1 = c ∧ (sendOpF c order op fate).2.1 = []) := by
  unfold sendOpF
  cases sendOp c order op with
  | error e => cases e <;> simp
  | ok ws => cases fate <;> simp

theorem runOps_after_cut (c : Conn) (pre : List Call) (x : Call) (post : List Call)
    (h : (sendOpF (connAfter c pre) x.order x.op x.fate).2.2 = .cut) :
    (runOps c (pre ++ x :: post)).1 = (runOps c (pre ++ [x])).1 ∧
    (runOps c (pre ++ x :: post)).2 = (runOps c (pre ++ [x])).2 ++ post.map (fun _ => .err .invalidState) := by
  have hcl := (sendOpF_conn _ _ _ _).1 h
  rw [runOps_append c pre (x :: post), runOps_append c pre [x]]
  simp only [runOps, hcl, runOps_closed]
  simp

end Edp.Send
