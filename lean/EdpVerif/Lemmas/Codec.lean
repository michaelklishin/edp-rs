import EdpVerif.Impl.Encode
import EdpVerif.Lemmas.DecArms
/-!
The layer between the codec model and the proofs about it (C01, C10): what the readers return on what the writers wrote,
what a successful result of the encoder looks like, constructor by constructor, and what the decoder does on each tag
the encoder writes, given what it does on the parts.
-/
namespace Edp

@[simp] theorem be8_length (n : Nat) : (be8 n).length = 1 := beN_length 1 n
@[simp] theorem be16_length (n : Nat) : (be16 n).length = 2 := beN_length 2 n
@[simp] theorem be32_length (n : Nat) : (be32 n).length = 4 := beN_length 4 n
@[simp] theorem be64_length (n : Nat) : (be64 n).length = 8 := beN_length 8 n

/-- big-endian value of a byte string -/
def beVal : Bytes → Nat
  | [] => 0
  | b :: r => b.toNat * 256 ^ r.length + beVal r

theorem rdN_append (a r : Bytes) : rdN a.length (a ++ r) = some (beVal a, r) := by
  induction a with
  | nil => simp [rdN, beVal]
  | cons b a ih => simp [rdN, ih, beVal]

@[simp] theorem rdU_beN (k n : Nat) (r : Bytes) (h : n < 256 ^ k) : rdU k (beN k n ++ r) = .ok (n, r) := by
  simp [rdU, rdN_beN k n r h]

theorem rdU_be8 (n : Nat) (r : Bytes) (h : n < 256) : rdU 1 (be8 n ++ r) = .ok (n, r) := rdU_beN 1 n r h
theorem rdU_be16 (n : Nat) (r : Bytes) (h : n < 65536) : rdU 2 (be16 n ++ r) = .ok (n, r) := rdU_beN 2 n r h
theorem rdU_be32 (n : Nat) (r : Bytes) (h : n < 4294967296) : rdU 4 (be32 n ++ r) = .ok (n, r) := rdU_beN 4 n r h
theorem rdU_be64 (n : Nat) (r : Bytes) (h : n < 18446744073709551616) : rdU 8 (be64 n ++ r) = .ok (n, r) :=
  rdU_beN 8 n r h

/-- a wider value is written modulo the field's width (`as u32`) -/
theorem rdU_be32_mod (n : Nat) (r : Bytes) : rdU 4 (be32 n ++ r) = .ok (n % 4294967296, r) := by
  rw [be32, beN_mod]; exact rdU_beN 4 _ r (Nat.mod_lt _ (by omega))

theorem rdN_of_length (k : Nat) (a r : Bytes) (h : a.length = k) : rdN k (a ++ r) = some (beVal a, r) := by
  subst h; exact rdN_append a r

theorem rdU_of_length (k : Nat) (a r : Bytes) (h : a.length = k) : rdU k (a ++ r) = .ok (beVal a, r) := by
  simp [rdU, rdN_of_length k a r h]

@[simp] theorem takeE_append (a r : Bytes) : takeE a.length (a ++ r) = .ok (a, r) := by
  simp [takeE, takeN_append]

theorem takeE_of_length (n : Nat) (a r : Bytes) (h : a.length = n) : takeE n (a ++ r) = .ok (a, r) := by
  subst h; exact takeE_append a r

theorem rdU_byte (n : Nat) (r : Bytes) (h : n < 256) : rdU 1 (UInt8.ofNat n :: r) = .ok (n, r) := by
  simpa [be8, beN] using rdU_be8 n r h

/-! The reader of the format (Spec/Etf.lean) uses `rdN` and `takeN` bare, the decoder wraps them as `rdU` and `takeE`:
the same facts once more for the bare ones. -/

theorem rdN_byte (n : Nat) (r : Bytes) (h : n < 256) : rdN 1 (UInt8.ofNat n :: r) = some (n, r) := by
  have := rdN_beN 1 n r (by simpa using h)
  simpa [beN] using this

theorem rdN_be8 (n : Nat) (r : Bytes) (h : n < 256) : rdN 1 (be8 n ++ r) = some (n, r) := rdN_beN 1 n r (by simpa using h)
theorem rdN_be16 (n : Nat) (r : Bytes) (h : n < 65536) : rdN 2 (be16 n ++ r) = some (n, r) := rdN_beN 2 n r (by simpa using h)
theorem rdN_be32 (n : Nat) (r : Bytes) (h : n < 4294967296) : rdN 4 (be32 n ++ r) = some (n, r) := rdN_beN 4 n r (by simpa using h)
theorem rdN_be64 (n : Nat) (r : Bytes) (h : n < 18446744073709551616) : rdN 8 (be64 n ++ r) = some (n, r) :=
  rdN_beN 8 n r (by simpa using h)

theorem takeN_of_length (n : Nat) (a r : Bytes) (h : a.length = n) : takeN n (a ++ r) = some (a, r) := by
  subst h; exact takeN_append a r

theorem rdN_be32_mod (n : Nat) (r : Bytes) : rdN 4 (be32 n ++ r) = some (n % 4294967296, r) := by
  rw [be32, beN_mod]; exact rdN_beN 4 _ r (Nat.mod_lt _ (by omega))

theorem rdWords_map (ids : List Nat) (r : Bytes) (h : ∀ i ∈ ids, i < 4294967296) :
    rdWords ids.length ((ids.map be32).flatten ++ r) = .ok (ids, r) := by
  induction ids with
  | nil => simp [rdWords]
  | cons i ids ih =>
    simp [rdWords, rdU_be32 i _ (h i (by simp)), ih fun j hj => h j (by simp [hj])]

section enc
variable {cache : List Bytes} {bs : Bytes}

theorem enc_atomC_ok (cache : List Bytes) (a bs : Bytes) (h : encAtom cache a = .ok bs) :
    (∃ i, indexOf? a cache = some i ∧ bs = [82, UInt8.ofNat i]) ∨
    (indexOf? a cache = none ∧ a.length ≤ 255 ∧ bs = 119 :: be8 a.length ++ a) ∨
    (indexOf? a cache = none ∧ 255 < a.length ∧ a.length ≤ 65535 ∧ bs = 118 :: be16 a.length ++ a) := by
  unfold encAtom u16max at h
  split at h
  · exact .inl ⟨_, ‹_›, by simpa using h.symm⟩
  · refine .inr ?_
    split at h
    · cases h
    · split at h <;> cases h
      · exact .inr ⟨‹_›, ‹_›, by omega, rfl⟩
      · exact .inl ⟨‹_›, by omega, rfl⟩

theorem encBinary_ok {b : Bytes} (h : encBinary b = .ok bs) : b.length ≤ u32max ∧ bs = 109 :: be32 b.length ++ b := by
  unfold encBinary at h
  split at h <;> cases h
  exact ⟨by omega, rfl⟩

theorem encBits_ok {b : Bytes} {n : Nat} (h : encBits b n = .ok bs) :
    b.length ≤ u32max ∧ bs = 77 :: be32 b.length ++ UInt8.ofNat n :: b := by
  unfold encBits at h
  split at h <;> cases h
  exact ⟨by omega, rfl⟩

theorem encPid_ok {p : PidF} (h : encPid cache p = .ok bs) (hl : p.loc = none) :
    ∃ ab, encAtom cache p.node = .ok ab ∧ bs = 88 :: ab ++ be32 p.id ++ be32 p.serial ++ be32 p.creation := by
  simp only [encPid, hl] at h
  split at h <;> cases h
  exact ⟨_, ‹_›, rfl⟩

theorem encPort_ok {n : Bytes} {i c : Nat} (h : encPort cache n i c none = .ok bs) :
    ∃ ab, encAtom cache n = .ok ab ∧ bs = 120 :: ab ++ be64 i ++ be32 c := by
  simp only [encPort] at h
  split at h <;> cases h
  exact ⟨_, ‹_›, rfl⟩

theorem encRef_ok {n : Bytes} {c : Nat} {ids : List Nat} (h : encRef cache n c ids none = .ok bs) :
    ids.length ≤ u16max ∧
      ∃ ab, encAtom cache n = .ok ab ∧ bs = 90 :: be16 ids.length ++ ab ++ be32 c ++ (ids.map be32).flatten := by
  simp only [encRef] at h
  split at h
  · cases h
  · split at h <;> cases h
    exact ⟨by omega, _, ‹_›, rfl⟩

/-- an identifier that carries preserved bytes is written as `LOCAL_EXT` and those bytes, whatever its fields -/
theorem encPid_loc {p : PidF} {l : Bytes} (h : p.loc = some l) : encPid cache p = .ok (121 :: l) := by
  simp [encPid, h]

theorem enc_xfun_ok {m f : Bytes} {a : Nat} (h : enc cache (.xfun m f a) = .ok bs) :
    ∃ mb fb, encAtom cache m = .ok mb ∧ encAtom cache f = .ok fb ∧ bs = 113 :: mb ++ fb ++ encInt a := by
  simp only [enc] at h
  split at h
  · split at h <;> cases h
    exact ⟨_, _, ‹_›, ‹_›, rfl⟩
  · cases h

theorem encL_cons_ok {t : Term} {ts : List Term} (h : encL cache (t :: ts) = .ok bs) :
    ∃ a b, enc cache t = .ok a ∧ encL cache ts = .ok b ∧ bs = a ++ b := by
  simp only [encL] at h
  split at h
  · split at h <;> cases h
    exact ⟨_, _, ‹_›, ‹_›, rfl⟩
  · cases h

theorem encKV_cons_ok {k v : Term} {r : List (Term × Term)} (h : encKV cache ((k, v) :: r) = .ok bs) :
    ∃ a b c, enc cache k = .ok a ∧ enc cache v = .ok b ∧ encKV cache r = .ok c ∧ bs = a ++ b ++ c := by
  simp only [encKV] at h
  split at h
  · split at h
    · split at h <;> cases h
      exact ⟨_, _, _, ‹_›, ‹_›, ‹_›, rfl⟩
    · cases h
  · cases h

/-- SMALL_TUPLE_EXT with a one-byte arity, or LARGE_TUPLE_EXT -/
def tupleHead (n : Nat) : Bytes := if n ≤ 255 then 104 :: be8 n else 105 :: be32 n

theorem enc_tuple_ok {l : List Term} (h : enc cache (.tuple l) = .ok bs) :
    l.length ≤ u32max ∧ ∃ lb, encL cache l = .ok lb ∧ bs = tupleHead l.length ++ lb := by
  simp only [enc] at h
  unfold tupleHead
  split at h
  · split at h <;> cases h
    exact ⟨by simp only [u32max]; omega, _, ‹_›, by simp [*]⟩
  · split at h
    · cases h
    · split at h <;> cases h
      exact ⟨by omega, _, ‹_›, by simp [*]⟩

theorem enc_list_ok {l : List Term} (h : enc cache (.list l) = .ok bs) :
    (l = [] ∧ bs = [106]) ∨
      (l ≠ [] ∧ l.length ≤ u32max ∧ ∃ lb, encL cache l = .ok lb ∧ bs = 108 :: be32 l.length ++ lb ++ [106]) := by
  simp only [enc] at h
  split at h
  · cases h; exact .inl ⟨by simpa using ‹l.isEmpty = true›, rfl⟩
  · split at h
    · cases h
    · split at h <;> cases h
      exact .inr ⟨by simpa using ‹¬ l.isEmpty = true›, by omega, _, ‹_›, rfl⟩

theorem enc_ilist_ok {l : List Term} {t : Term} (h : enc cache (.ilist l t) = .ok bs) :
    l.length ≤ u32max ∧
      ∃ lb tb, encL cache l = .ok lb ∧ enc cache t = .ok tb ∧ bs = 108 :: be32 l.length ++ lb ++ tb := by
  simp only [enc] at h
  split at h
  · cases h
  · split at h
    · split at h <;> cases h
      exact ⟨by omega, _, _, ‹_›, ‹_›, rfl⟩
    · cases h

theorem enc_map_ok {kvs : List (Term × Term)} (h : enc cache (.map kvs) = .ok bs) :
    kvs.length ≤ u32max ∧ ∃ b, encKV cache kvs = .ok b ∧ bs = 116 :: be32 kvs.length ++ b := by
  simp only [enc] at h
  split at h
  · cases h
  · split at h <;> cases h
    exact ⟨by omega, _, ‹_›, rfl⟩

/-- the part of NEW_FUN_EXT that its size field counts (the field itself, 4 bytes, is counted too) -/
def funBody (a : Nat) (u : Bytes) (i nf : Nat) (mb : Bytes) (oi ou : Nat) (pb fb : Bytes) : Bytes :=
  UInt8.ofNat a :: u ++ be32 i ++ be32 nf ++ mb ++ encInt oi ++ encInt ou ++ pb ++ fb

theorem enc_ifun_ok {a i nf oi ou : Nat} {u m : Bytes} {p : PidF} {fr : List Term}
    (h : enc cache (.ifun a u i nf m oi ou p fr) = .ok bs) :
    ∃ mb pb fb, encAtom cache m = .ok mb ∧ encPid cache p = .ok pb ∧ encL cache fr = .ok fb ∧
      bs = 112 :: be32 ((funBody a u i nf mb oi ou pb fb).length + 4) ++ funBody a u i nf mb oi ou pb fb := by
  simp only [enc] at h
  split at h
  · split at h
    · split at h <;> cases h
      exact ⟨_, _, _, ‹_›, ‹_›, ‹_›, rfl⟩
    · cases h
  · cases h

end enc

/-! What the decoder does on each tag the encoder writes, from the tag's equation (Lemmas/DecArms.lean).  The hypotheses
say what the decoder returns on the parts, so nothing here mentions `enc`; inputs are written right-nested
(`a :: (b ++ (c ++ r))`), the normal form of `simp only [List.cons_append, List.append_assoc]`. -/

theorem decBig_ok (k : Nat) (neg : Bool) (dg r : Bytes) (hl : dg.length < 256 ^ k) :
    decBig k (beN k dg.length ++ (if neg then (1 : UInt8) else 0) :: (dg ++ r)) = .ok (.big neg dg, r) := by
  have e : rdU 1 ((if neg then (1 : UInt8) else 0) :: (dg ++ r)) = .ok (if neg then 1 else 0, dg ++ r) := by
    cases neg
    · exact rdU_byte 0 _ (by omega)
    · exact rdU_byte 1 _ (by omega)
  rw [decBig, rdU_beN k _ _ hl]
  simp only [e, takeE_append]
  cases neg <;> rfl

/-- LIST_EXT as the decoder returns it: a proper list when the tail is NIL_EXT -/
def listOf (l : List Term) : Term → Term
  | .nil => .list l
  | t => .ilist l t

theorem dec_local_inv {x : Ext} {cfg : DecCfg} {fuel d : Nat} {bs r : Bytes} {t : Term}
    (h : dec x cfg fuel d (121 :: bs) = .ok (t, r)) :
    ∃ f hash r0 t0, fuel = f + 1 ∧ rdU 8 bs = .ok (hash, r0) ∧ dec x cfg f (d + 1) r0 = .ok (t0, r) ∧
      t = withLoc (bs.take (8 + (r0.length - r.length))) t0 := by
  cases fuel with
  | zero => simp [dec] at h
  | succ f =>
    rw [dec_121] at h
    obtain ⟨-, -, h⟩ := guardTag_ok h
    split at h
    · cases h
    split at h <;> cases h
    exact ⟨f, _, _, _, rfl, ‹_›, ‹_›, rfl⟩

section dec
variable (x : Ext) (cfg : DecCfg) (fuel : Nat) {d : Nat} (hd : d ≤ MAX_NESTING_DEPTH) {r : Bytes}
include hd

theorem dec_nil : dec x cfg (fuel + 1) d (106 :: r) = .ok (.nil, r) := by
  rw [dec_106, guardTag_pass hd (.inr rfl)]

theorem dec_small_int {n : Nat} (hn : n < 256) : dec x cfg (fuel + 1) d (97 :: UInt8.ofNat n :: r) = .ok (.int n, r) := by
  rw [dec_97, guardTag_pass hd (.inr rfl), rdU_byte n r hn]

theorem dec_int32 {n : Nat} (hn : n < 4294967296) :
    dec x cfg (fuel + 1) d (98 :: (be32 n ++ r)) = .ok (.int (i32OfU32 n), r) := by
  rw [dec_98, guardTag_pass hd (.inr rfl), rdU_be32 n r hn]

theorem dec_float {b : Nat} (hb : b < 18446744073709551616) :
    dec x cfg (fuel + 1) d (70 :: (be64 b ++ r)) = .ok (.float b, r) := by
  rw [dec_70, guardTag_pass hd (.inr rfl), rdU_be64 b r hb]

theorem dec_bin {b : Bytes} (hl : b.length ≤ MAX_BINARY_SIZE) :
    dec x cfg (fuel + 1) d (109 :: (be32 b.length ++ (b ++ r))) = .ok (.bin b, r) := by
  have h32 : b.length < 4294967296 := by simp only [MAX_BINARY_SIZE] at hl; omega
  rw [dec_109, guardTag_pass hd (.inr rfl), rdU_be32 _ _ h32]
  simp only [if_neg (Nat.not_lt.mpr hl), takeE_append]

theorem dec_bits {b : Bytes} {n : Nat} (hl : b.length ≤ MAX_BINARY_SIZE) (hn : 1 ≤ n ∧ n ≤ 8) (he : b = [] → n = 8) :
    dec x cfg (fuel + 1) d (77 :: (be32 b.length ++ UInt8.ofNat n :: (b ++ r))) = .ok (.bits b n, r) := by
  have h32 : b.length < 4294967296 := by simp only [MAX_BINARY_SIZE] at hl; omega
  have hz : ¬ (n = 0 ∨ 8 < n) := by omega
  rw [dec_77, guardTag_pass hd (.inr rfl), rdU_be32 _ _ h32]
  simp [Nat.not_lt.mpr hl, rdU_byte n _ (by omega : n < 256), hz]
  exact he

theorem dec_big (neg : Bool) {dg : Bytes} (hl : dg.length < 4294967296) :
    dec x cfg (fuel + 1) d (encBig neg dg ++ r) = .ok (.big neg dg, r) := by
  unfold encBig
  split
  · rw [List.append_assoc, List.cons_append, dec_110, guardTag_pass hd (.inr rfl)]
    exact decBig_ok 1 neg dg r (by omega)
  · rw [List.append_assoc, List.cons_append, dec_111, guardTag_pass hd (.inr rfl)]
    exact decBig_ok 4 neg dg r hl

theorem dec_atom_utf8 {a : Bytes} (hu : validUtf8 a = true) (hl : a.length ≤ 65535) :
    dec x cfg (fuel + 1) d ((if a.length ≤ 255 then 119 :: be8 a.length else 118 :: be16 a.length) ++ (a ++ r)) =
      .ok (.atom a, r) := by
  have body : ∀ k, a.length < 256 ^ k → decAtomBody k (beN k a.length ++ (a ++ r)) = .ok (.atom a, r) := fun k hk => by
    rw [decAtomBody, rdU_beN k _ _ hk]
    simp only [if_neg (Nat.not_lt.mpr hl : ¬ a.length > MAX_ATOM_SIZE), takeE_append, hu, if_true]
  split
  · rw [List.cons_append, dec_119, guardTag_pass hd (.inr rfl)]; exact body 1 (by omega)
  · rw [List.cons_append, dec_118, guardTag_pass hd (.inr rfl)]; exact body 2 (by omega)

/-- ATOM_CACHE_REF (owned decoder only) -/
theorem dec_atom_ref {i : Nat} {a : Bytes} (hb : cfg.borrowed = false) (hi : i < 256) (hc : cfg.cache.lookup i = some a) :
    dec x cfg (fuel + 1) d (82 :: UInt8.ofNat i :: r) = .ok (.atom a, r) := by
  rw [dec_82, guardTag_pass hd (.inl hb), rdU_byte i r hi]; simp only [hc]

theorem dec_tuple {n : Nat} {bs : Bytes} {l : List Term} (hn : n ≤ MAX_TUPLE_SIZE)
    (h : decN x cfg fuel (d + 1) n bs = .ok (l, r)) :
    dec x cfg (fuel + 1) d (tupleHead n ++ bs) = .ok (.tuple l, r) := by
  have h32 : n < 4294967296 := by simp only [MAX_TUPLE_SIZE] at hn; omega
  unfold tupleHead
  split
  · rw [List.cons_append, dec_104, guardTag_pass hd (.inr rfl), rdU_be8 n bs (by omega)]
    simp only [h]
  · rw [List.cons_append, dec_105, guardTag_pass hd (.inr rfl), rdU_be32 n bs h32]
    simp only [if_neg (Nat.not_lt.mpr hn), h]

theorem dec_list {n : Nat} {bs r1 : Bytes} {l : List Term} {tl : Term} (hn : n ≤ MAX_LIST_SIZE)
    (h1 : decN x cfg fuel (d + 1) n bs = .ok (l, r1)) (h2 : dec x cfg fuel (d + 1) r1 = .ok (tl, r)) :
    dec x cfg (fuel + 1) d (108 :: (be32 n ++ bs)) = .ok (listOf l tl, r) := by
  have h32 : n < 4294967296 := by simp only [MAX_LIST_SIZE] at hn; omega
  rw [dec_108, guardTag_pass hd (.inr rfl), rdU_be32 n bs h32]
  simp only [if_neg (Nat.not_lt.mpr hn), h1, h2]
  cases tl <;> rfl

theorem dec_map {n : Nat} {bs : Bytes} {m : List (Term × Term)} (hn : n ≤ MAX_MAP_SIZE)
    (h : decKV x cfg fuel (d + 1) n bs [] = .ok (m, r)) :
    dec x cfg (fuel + 1) d (116 :: (be32 n ++ bs)) = .ok (.map m, r) := by
  have h32 : n < 4294967296 := by simp only [MAX_MAP_SIZE] at hn; omega
  rw [dec_116, guardTag_pass hd (.inr rfl), rdU_be32 n bs h32]
  simp only [if_neg (Nat.not_lt.mpr hn), h]

theorem dec_new_pid {bs node : Bytes} {id serial creation : Nat} (h1 : id < 4294967296) (h2 : serial < 4294967296)
    (h3 : creation < 4294967296)
    (h : dec x cfg fuel (d + 1) bs = .ok (.atom node, be32 id ++ (be32 serial ++ (be32 creation ++ r)))) :
    dec x cfg (fuel + 1) d (88 :: bs) = .ok (.pid { node, id, serial, creation }, r) := by
  rw [dec_88, guardTag_pass hd (.inr rfl)]
  simp only [h, rdU_be32 _ _ h1, rdU_be32 _ _ h2, rdU_be32 _ _ h3]

theorem dec_v4_port {bs node : Bytes} {id creation : Nat} (h1 : id < 18446744073709551616) (h2 : creation < 4294967296)
    (h : dec x cfg fuel (d + 1) bs = .ok (.atom node, be64 id ++ (be32 creation ++ r))) :
    dec x cfg (fuel + 1) d (120 :: bs) = .ok (.port node id creation none, r) := by
  rw [dec_120, guardTag_pass hd (.inr rfl)]
  simp only [h, rdU_be64 _ _ h1, rdU_be32 _ _ h2]

theorem dec_newer_ref {bs node : Bytes} {creation : Nat} {ids : List Nat} (hl : ids.length < 65536)
    (h1 : creation < 4294967296) (h2 : ∀ i ∈ ids, i < 4294967296)
    (h : dec x cfg fuel (d + 1) bs = .ok (.atom node, be32 creation ++ ((ids.map be32).flatten ++ r))) :
    dec x cfg (fuel + 1) d (90 :: (be16 ids.length ++ bs)) = .ok (.ref node creation ids none, r) := by
  rw [dec_90, guardTag_pass hd (.inr rfl), rdU_be16 _ _ hl]
  simp only [h, rdU_be32 _ _ h1, rdWords_map ids r h2]

theorem dec_export {bs r1 r2 m f : Bytes} {a : Nat} (ha : a ≤ 255)
    (h1 : dec x cfg fuel (d + 1) bs = .ok (.atom m, r1)) (h2 : dec x cfg fuel (d + 1) r1 = .ok (.atom f, r2))
    (h3 : dec x cfg fuel (d + 1) r2 = .ok (.int a, r)) :
    dec x cfg (fuel + 1) d (113 :: bs) = .ok (.xfun m f a, r) := by
  rw [dec_113, guardTag_pass hd (.inr rfl)]
  simp only [h1, h2, h3]
  rw [if_pos (by omega)]; rfl

/-- NEW_FUN_EXT; the size field is read and ignored -/
theorem dec_new_fun {sz a i nf oi ou : Nat} {u m bs r1 r2 r3 r4 : Bytes} {p : PidF} {fr : List Term}
    (ha : a < 256) (hu : u.length = 16) (hi : i < 4294967296) (hnf : nf < 4294967296)
    (h1 : dec x cfg fuel (d + 1) bs = .ok (.atom m, r1)) (h2 : dec x cfg fuel (d + 1) r1 = .ok (.int oi, r2))
    (h3 : dec x cfg fuel (d + 1) r2 = .ok (.int ou, r3)) (h4 : dec x cfg fuel (d + 1) r3 = .ok (.pid p, r4))
    (h5 : decN x cfg fuel (d + 1) nf r4 = .ok (fr, r)) :
    dec x cfg (fuel + 1) d (112 :: (be32 sz ++ UInt8.ofNat a :: (u ++ (be32 i ++ (be32 nf ++ bs))))) =
      .ok (.ifun a u i nf m oi ou p fr, r) := by
  have h0 (n : Nat) : ¬ (n : Int) < 0 := by omega
  rw [dec_112, guardTag_pass hd (.inr rfl)]
  simp [h0, rdU_be32_mod, rdU_byte a _ ha, takeE_of_length 16 u _ hu, rdU_be32 _ _ hi, rdU_be32 _ _ hnf, h1, h2, h3, h4, h5]

theorem dec_local {hash plain : Bytes} {t : Term} (hb : cfg.borrowed = false) (hh : hash.length = 8)
    (h : dec x cfg fuel (d + 1) (plain ++ r) = .ok (t, r)) :
    dec x cfg (fuel + 1) d (121 :: (hash ++ (plain ++ r))) = .ok (withLoc (hash ++ plain) t, r) := by
  have key : List.take (8 + plain.length) (hash ++ (plain ++ r)) = hash ++ plain := by
    rw [← List.append_assoc]; exact List.take_left' (by simp [hh])
  rw [dec_121, guardTag_pass hd (.inl hb), rdU_of_length 8 hash _ hh]
  simp [h, key]
end dec
end Edp
