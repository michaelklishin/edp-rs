import EdpVerif.Lemmas.Codec
import EdpVerif.Lemmas.Digits
/-!
Round trip of the codec model: `dec (enc t ++ r) = (wire t, r)`.
`wire t` is what comes back from the wire (integers beyond 32 bits as big integers, strings as binaries,
the empty list as nil, maps re-inserted in arrival order); `wfT` states exactly what the Rust types do not enforce.
-/
namespace Edp

/-- `mapInsert` folded over the pairs in arrival order (what `parse_map` builds) -/
def insertAll (m : List (Term × Term)) : List (Term × Term) → List (Term × Term)
  | [] => m
  | (k, v) :: r => insertAll (mapInsert m k v) r

theorem foldl_mapInsert_eq_insertAll {α : Type} (kf vf : α → Term) (l : List α) (acc : List (Term × Term)) :
    l.foldl (fun m e => mapInsert m (kf e) (vf e)) acc = insertAll acc (l.map fun e => (kf e, vf e)) := by
  induction l generalizing acc with
  | nil => rfl
  | cons a r ih => exact ih _

def inI64 (i : Int) : Prop := -9223372036854775808 ≤ i ∧ i ≤ 9223372036854775807
def inI32 (i : Int) : Prop := -2147483648 ≤ i ∧ i ≤ 2147483647

def wirePid (p : PidF) : PidF := p

mutual
/-- the term `decode (encode t)` returns -/
def wire : Term → Term
  | .int i =>
    if -2147483648 ≤ i ∧ i ≤ 2147483647 then .int i
    else .big (decide (i < 0)) ((leN 8 i.natAbs).take (sigLen (leN 8 i.natAbs)))
  | .str s => .bin s
  | .list l => match l with
    | [] => .nil
    | _ => .list (wireL l)
  | .ilist l t => match wire t with
    | .nil => .list (wireL l)
    | t' => .ilist (wireL l) t'
  | .map kvs => .map (insertAll [] (wireKV kvs))
  | .tuple l => .tuple (wireL l)
  | .ifun a u i nf m oi ou p fr => .ifun a u i nf m oi ou p (wireL fr)
  | t => t
def wireL : List Term → List Term
  | [] => []
  | t :: ts => wire t :: wireL ts
def wireKV : List (Term × Term) → List (Term × Term)
  | [] => []
  | (k, v) :: r => (wire k, wire v) :: wireKV r
end

def wfPid (p : PidF) : Bool :=
  validUtf8 p.node && decide (p.id < 4294967296) && decide (p.serial < 4294967296) &&
    decide (p.creation < 4294967296) && p.loc.isNone

mutual
/-- well-formedness: what the Rust types do not already enforce, plus the representable terms that the library's
own decoder refuses or changes (each such conjunct is a restriction of the round-trip theorem, listed here):

* field widths the Rust types enforce and the model's `Nat`/`Int`/`Bytes` do not: `i64` integers, `u32`/`u64`
  identifier fields, `u32` reference words, 64-bit float patterns, `u8` arities, 16-byte `uniq`, `u32` fun indices;
  atom names valid UTF-8 (`Atom` wraps a `String`); big-integer digit counts below 2^32 (the length field);
* EXCLUDED although representable — sizes above the decoder's own limits: binaries/strings/bit-strings longer than
  `MAX_BINARY_SIZE`, lists/tuples/maps with more than `MAX_LIST_SIZE`/`MAX_TUPLE_SIZE`/`MAX_MAP_SIZE` elements
  (the encoder accepts up to `u32::MAX`, the decoder rejects: encode succeeds, decode fails);
* EXCLUDED although representable — `BitBinary` with `bits` outside 1..8, or empty with `bits ≠ 8` (the encoder writes
  them, the decoder rejects them);
* EXCLUDED although representable — `InternalFun` with `num_free ≠ free_vars.len()` (the decoder reads `num_free`
  terms), and with `old_index`/`old_uniq ≥ 2^31` (written as SMALL_BIG_EXT, which the fun decoder refuses:
  `InternalFun{old_uniq: 0x8000_0000}` encodes and then fails to decode);
* identifiers in plain form (`loc = none`); the LOCAL_EXT-carrying form is covered by `wfX` below.

Nesting depth is a separate hypothesis (`dep t + d ≤ MAX_NESTING_DEPTH`). -/
def wfT : Term → Bool
  | .atom a => validUtf8 a
  | .int i => decide (-9223372036854775808 ≤ i ∧ i ≤ 9223372036854775807)
  | .float b => decide (b < 18446744073709551616)
  | .pid p => wfPid p
  | .port n i c l => validUtf8 n && decide (i < 18446744073709551616) && decide (c < 4294967296) && l.isNone
  | .ref n c ids l => validUtf8 n && decide (c < 4294967296) && ids.all (fun i => decide (i < 4294967296)) && l.isNone
  | .bin b => decide (b.length ≤ MAX_BINARY_SIZE)
  | .bits b n => decide (1 ≤ n ∧ n ≤ 8) && (!b.isEmpty || n == 8) && decide (b.length ≤ MAX_BINARY_SIZE)
  | .str s => decide (s.length ≤ MAX_BINARY_SIZE)
  | .list l => decide (l.length ≤ MAX_LIST_SIZE) && wfL l
  | .ilist l t => decide (l.length ≤ MAX_LIST_SIZE) && wfL l && wfT t
  | .map kvs => decide (kvs.length ≤ MAX_MAP_SIZE) && wfKV kvs
  | .tuple l => decide (l.length ≤ MAX_TUPLE_SIZE) && wfL l
  | .big _ d => decide (d.length < 4294967296)
  | .xfun m f a => validUtf8 m && validUtf8 f && decide (a ≤ 255)
  | .ifun a u i nf m oi ou p fr =>
    decide (a ≤ 255) && decide (u.length = 16) && decide (i < 4294967296) && decide (nf = fr.length) &&
      decide (nf < 4294967296) && validUtf8 m && decide (oi < 2147483648) && decide (ou < 2147483648) && wfPid p && wfL fr
  | .nil => true
def wfL : List Term → Bool
  | [] => true
  | t :: ts => wfT t && wfL ts
def wfKV : List (Term × Term) → Bool
  | [] => true
  | (k, v) :: r => wfT k && wfT v && wfKV r
end

mutual
/-- fuel that suffices to decode the encoding of a term: the decoder spends one unit per nesting level and one per
preceding sibling, so the need is a maximum over the children, not a sum; it never exceeds the encoding's length
(`tsz_le_length`), which is why `decode`'s `length + 1` always suffices -/
def tsz : Term → Nat
  | .list l => 1 + tszL l
  | .ilist l t => 1 + max (tszL l) (tsz t)
  | .map kvs => 1 + tszKV kvs
  | .tuple l => 1 + tszL l
  | .pid _ => 2
  | .port _ _ _ _ => 2
  | .ref _ _ _ _ => 2
  | .xfun _ _ _ => 2
  | .ifun _ _ _ _ _ _ _ _ fr => 1 + max 2 (tszL fr)
  | _ => 1
def tszL : List Term → Nat
  | [] => 0
  | t :: ts => 1 + max (tsz t) (tszL ts)
def tszKV : List (Term × Term) → Nat
  | [] => 0
  | (k, v) :: r => 1 + max (max (tsz k) (tsz v)) (tszKV r)
end

mutual
/-- nesting depth the decoder reaches below the term's own level -/
def dep : Term → Nat
  | .list l => 1 + depL l
  | .ilist l t => 1 + max (depL l) (dep t)
  | .map kvs => 1 + depKV kvs
  | .tuple l => 1 + depL l
  | .pid _ => 1
  | .port _ _ _ _ => 1
  | .ref _ _ _ _ => 1
  | .xfun _ _ _ => 1
  | .ifun _ _ _ _ _ _ _ _ fr => 2 + depL fr
  | _ => 0
def depL : List Term → Nat
  | [] => 0
  | t :: ts => max (dep t) (depL ts)
def depKV : List (Term × Term) → Nat
  | [] => 0
  | (k, v) :: r => max (max (dep k) (dep v)) (depKV r)
end

/-! `wfX cache` is `wfT`, except that an identifier (and the creator pid of a fun) may carry `loc = some (hash ++ plain)`
where `hash` is 8 bytes and `plain` is the encoding of its logical fields — which is what the decoder preserves.  Such an
identifier costs the decoder one more level of nesting and one more unit of fuel (`depX`, `tszX`). -/

def clearLoc : Term → Term
  | .pid p => .pid { p with loc := none }
  | .port n i c _ => .port n i c none
  | .ref n c ids _ => .ref n c ids none
  | t => t

def locOf : Term → Option Bytes
  | .pid p => p.loc
  | .port _ _ _ l => l
  | .ref _ _ _ l => l
  | _ => none

def isIdent : Term → Bool
  | .pid _ | .port _ _ _ _ | .ref _ _ _ _ => true
  | _ => false

theorem enc_ident_loc {cache : List Bytes} {t : Term} {l : Bytes} (hid : isIdent t = true) (hl : locOf t = some l) :
    enc cache t = .ok (121 :: l) := by
  match t, hid with
  | .pid p, _ => exact encPid_loc hl
  | .port n i c _, _ => cases hl; rfl
  | .ref n c ids _, _ => cases hl; rfl

theorem locOf_withLoc {t : Term} {l : Bytes} (hid : isIdent (withLoc l t) = true) : locOf (withLoc l t) = some l := by
  match t, hid with
  | .pid _, _ | .port _ _ _ _, _ | .ref _ _ _ _, _ => rfl

theorem isIdent_clearLoc (t : Term) : isIdent (clearLoc t) = isIdent t := by cases t <;> rfl

theorem withLoc_clearLoc {t : Term} {l : Bytes} (hid : isIdent t = true) (hl : locOf t = some l) :
    withLoc l (clearLoc t) = t := by
  match t, hid with
  | .pid ⟨_, _, _, _, _⟩, _ | .port _ _ _ _, _ | .ref _ _ _ _, _ => cases hl; rfl

theorem locOf_of_wfT (t : Term) (h : wfT t = true) : locOf t = none := by
  cases t <;> first
    | rfl
    | (simp only [wfT, wfPid, Bool.and_eq_true, Option.isNone_iff_eq_none] at h; exact h.2)

def locOk (cache : List Bytes) (t : Term) : Prop :=
  match locOf t with
  | none => wfT t = true
  | some l => ∃ hash plain, l = hash ++ plain ∧ hash.length = 8 ∧ wfT (clearLoc t) = true ∧ enc cache (clearLoc t) = .ok plain

def idTsz (t : Term) : Nat := match locOf t with | none => 2 | some _ => 3
def idDep (t : Term) : Nat := match locOf t with | none => 1 | some _ => 2

mutual
def wfX (cache : List Bytes) : Term → Prop
  | .pid p => locOk cache (.pid p)
  | .port n i c l => locOk cache (.port n i c l)
  | .ref n c ids l => locOk cache (.ref n c ids l)
  | .list l => l.length ≤ MAX_LIST_SIZE ∧ wfXL cache l
  | .ilist l t => l.length ≤ MAX_LIST_SIZE ∧ wfXL cache l ∧ wfX cache t
  | .map kvs => kvs.length ≤ MAX_MAP_SIZE ∧ wfXKV cache kvs
  | .tuple l => l.length ≤ MAX_TUPLE_SIZE ∧ wfXL cache l
  | .ifun a u i nf m oi ou p fr =>
    a ≤ 255 ∧ u.length = 16 ∧ i < 4294967296 ∧ nf = fr.length ∧ nf < 4294967296 ∧ validUtf8 m = true ∧
      oi < 2147483648 ∧ ou < 2147483648 ∧ locOk cache (.pid p) ∧ wfXL cache fr
  | t => wfT t = true
def wfXL (cache : List Bytes) : List Term → Prop
  | [] => True
  | t :: ts => wfX cache t ∧ wfXL cache ts
def wfXKV (cache : List Bytes) : List (Term × Term) → Prop
  | [] => True
  | (k, v) :: r => wfX cache k ∧ wfX cache v ∧ wfXKV cache r
end

mutual
def tszX : Term → Nat
  | .list l => 1 + tszXL l
  | .ilist l t => 1 + max (tszXL l) (tszX t)
  | .map kvs => 1 + tszXKV kvs
  | .tuple l => 1 + tszXL l
  | .pid p => idTsz (.pid p)
  | .port n i c l => idTsz (.port n i c l)
  | .ref n c ids l => idTsz (.ref n c ids l)
  | .ifun _ _ _ _ _ _ _ p fr => 1 + max (idTsz (.pid p)) (tszXL fr)
  | t => tsz t
def tszXL : List Term → Nat
  | [] => 0
  | t :: ts => 1 + max (tszX t) (tszXL ts)
def tszXKV : List (Term × Term) → Nat
  | [] => 0
  | (k, v) :: r => 1 + max (max (tszX k) (tszX v)) (tszXKV r)
end

mutual
def depX : Term → Nat
  | .list l => 1 + depXL l
  | .ilist l t => 1 + max (depXL l) (depX t)
  | .map kvs => 1 + depXKV kvs
  | .tuple l => 1 + depXL l
  | .pid p => idDep (.pid p)
  | .port n i c l => idDep (.port n i c l)
  | .ref n c ids l => idDep (.ref n c ids l)
  | .ifun _ _ _ _ _ _ _ p fr => 1 + max (idDep (.pid p)) (depXL fr)
  | t => dep t
def depXL : List Term → Nat
  | [] => 0
  | t :: ts => max (depX t) (depXL ts)
def depXKV : List (Term × Term) → Nat
  | [] => 0
  | (k, v) :: r => max (max (depX k) (depX v)) (depXKV r)
end

theorem sigLen_le (d : Bytes) (h : 1 ≤ d.length) : sigLen d ≤ d.length := by
  unfold sigLen
  split
  · exact h
  · simpa using (List.dropWhile_sublist (· == (0 : UInt8)) (l := d.reverse)).length_le

theorem sigLen_pos (d : Bytes) : 1 ≤ sigLen d := by
  unfold sigLen
  split
  · exact Nat.le_refl 1
  · rename_i r hr
    cases h : List.dropWhile (fun x => x == (0 : UInt8)) d.reverse with
    | nil => exact absurd h hr
    | cons a b => simp

/-- the decoder-side atom cache that corresponds to the encoder's atom order: position ↦ atom -/
def idxFrom (k : Nat) : List Bytes → List (Nat × Bytes)
  | [] => []
  | a :: r => (k, a) :: idxFrom (k + 1) r

def idxCache (cache : List Bytes) : List (Nat × Bytes) := idxFrom 0 cache

/-- the decoder configuration fits the encoder's cache: no cache at all (any configuration), or the owned decoder
whose table holds that cache's atoms at their positions (ATOM_CACHE_REF is not in the zero-copy decoder's tag set;
the table may hold other, stale positions as well) -/
def cfgFor (cache : List Bytes) (cfg : DecCfg) : Prop :=
  cache = [] ∨ (cfg.borrowed = false ∧ ∀ a i, indexOf? a cache = some i → cfg.cache.lookup i = some a)

theorem cfgFor_nil (cfg : DecCfg) : cfgFor [] cfg := Or.inl rfl

theorem indexOf?_cons {a x : Bytes} {xs : List Bytes} {i : Nat} (h : indexOf? a (x :: xs) = some i) :
    (x = a ∧ i = 0) ∨ ∃ j, indexOf? a xs = some j ∧ i = j + 1 := by
  simp only [indexOf?] at h
  split at h
  · cases h; exact .inl ⟨by simpa using ‹(x == a) = true›, rfl⟩
  · obtain ⟨j, hj, rfl⟩ := Option.map_eq_some_iff.mp h; exact .inr ⟨j, hj, rfl⟩

theorem indexOf?_lt (a : Bytes) (c : List Bytes) (i : Nat) (h : indexOf? a c = some i) : i < c.length := by
  induction c generalizing i with
  | nil => cases h
  | cons x xs ih =>
    rcases indexOf?_cons h with ⟨_, rfl⟩ | ⟨j, hj, rfl⟩
    · simp
    · simpa using ih j hj

theorem indexOf?_get (a : Bytes) (c : List Bytes) (i : Nat) (h : indexOf? a c = some i) : c[i]? = some a := by
  induction c generalizing i with
  | nil => cases h
  | cons x xs ih =>
    rcases indexOf?_cons h with ⟨rfl, rfl⟩ | ⟨j, hj, rfl⟩
    · rfl
    · simpa using ih j hj

theorem lookup_idxFrom (a : Bytes) (c : List Bytes) (k i : Nat) (h : indexOf? a c = some i) :
    (idxFrom k c).lookup (k + i) = some a := by
  induction c generalizing i k with
  | nil => cases h
  | cons x xs ih =>
    rcases indexOf?_cons h with ⟨rfl, rfl⟩ | ⟨j, hj, rfl⟩
    · simp [idxFrom]
    · have := ih (k + 1) j hj
      rw [show k + 1 + j = k + (j + 1) by omega] at this
      simp only [idxFrom, List.lookup, show (k + (j + 1) == k) = false by simp, this]

theorem lookup_idxCache (a : Bytes) (c : List Bytes) (i : Nat) (h : indexOf? a c = some i) :
    (idxCache c).lookup i = some a := by
  simpa [idxCache] using lookup_idxFrom a c 0 i h

theorem cfgFor_idx (cache : List Bytes) : cfgFor cache { cache := idxCache cache } :=
  Or.inr ⟨rfl, fun a => lookup_idxCache a cache⟩

section
variable (x : Ext) (cfg : DecCfg) (cache : List Bytes) (hc : cfgFor cache cfg) (hlen : cache.length ≤ 256)
include hc hlen

theorem dec_atomC (a bs r : Bytes) (fuel d : Nat) (hu : validUtf8 a = true) (h : encAtom cache a = .ok bs)
    (hd : d ≤ MAX_NESTING_DEPTH) : dec x cfg (fuel + 1) d (bs ++ r) = .ok (.atom a, r) := by
  rcases enc_atomC_ok cache a bs h with ⟨i, hi, rfl⟩ | ⟨_, hl, rfl⟩ | ⟨_, hl, hl2, rfl⟩
  · rcases hc with rfl | ⟨hb, hcc⟩
    · cases hi
    · exact dec_atom_ref x cfg fuel hd hb (by have := indexOf?_lt a cache i hi; omega) (hcc a i hi)
  · simpa [hl] using dec_atom_utf8 x cfg fuel hd (r := r) hu (by omega)
  · simpa [Nat.not_le.mpr hl] using dec_atom_utf8 x cfg fuel hd (r := r) hu hl2

theorem dec_ident_plain (t : Term) (hid : isIdent t = true) (bs r : Bytes) (fuel d : Nat) (hw : wfT t = true)
    (he : enc cache t = .ok bs) (hd : d + 1 ≤ MAX_NESTING_DEPTH) : dec x cfg (fuel + 2) d (bs ++ r) = .ok (t, r) := by
  have hl := locOf_of_wfT t hw
  match t, hid with
  | .pid ⟨node, id, serial, creation, _⟩, _ =>
    cases hl
    simp only [wfT, wfPid, Bool.and_eq_true, decide_eq_true_eq] at hw
    obtain ⟨ab, ha, rfl⟩ := encPid_ok he rfl
    simp only [List.cons_append, List.append_assoc]
    exact dec_new_pid x cfg (fuel + 1) (by omega) hw.1.1.1.2 hw.1.1.2 hw.1.2
      (dec_atomC x cfg cache hc hlen node ab _ fuel (d + 1) hw.1.1.1.1 ha hd)
  | .port n i c _, _ =>
    cases hl
    simp only [wfT, Bool.and_eq_true, decide_eq_true_eq] at hw
    obtain ⟨ab, ha, rfl⟩ := encPort_ok he
    simp only [List.cons_append, List.append_assoc]
    exact dec_v4_port x cfg (fuel + 1) (by omega) hw.1.1.2 hw.1.2 (dec_atomC x cfg cache hc hlen n ab _ fuel (d + 1) hw.1.1.1 ha hd)
  | .ref n c ids _, _ =>
    cases hl
    simp only [wfT, Bool.and_eq_true, decide_eq_true_eq, List.all_eq_true] at hw
    obtain ⟨hl, ab, ha, rfl⟩ := encRef_ok he
    simp only [List.cons_append, List.append_assoc]
    exact dec_newer_ref x cfg (fuel + 1) (by omega) (by simp only [u16max] at hl; omega) hw.1.1.2 hw.1.2
      (dec_atomC x cfg cache hc hlen n ab _ fuel (d + 1) hw.1.1.1 ha hd)

omit hc hlen in
theorem encInt_big {v : Int} (h : ¬ (-2147483648 ≤ v ∧ v ≤ 2147483647)) :
    encInt v = encBig (decide (v < 0)) ((leN 8 v.natAbs).take (sigLen (leN 8 v.natAbs))) := by
  have hs := sigLen_le (leN 8 v.natAbs) (by simp [leN_length])
  rw [leN_length] at hs
  have hl : ((leN 8 v.natAbs).take (sigLen (leN 8 v.natAbs))).length = sigLen (leN 8 v.natAbs) := by
    simp [leN_length]; omega
  have h0 : ¬ (0 ≤ v ∧ v ≤ 255) := by omega
  have h255 : sigLen (leN 8 v.natAbs) ≤ 255 := by omega
  simp only [encInt, h0, h, encBig, hl, h255, ↓reduceIte, be8, beN]
  by_cases hn : v < 0
  · simp [hn, Int.not_le.mpr hn]
  · simp [hn, Int.not_lt.mp hn]

omit hc hlen in
theorem dec_int (v : Int) (r : Bytes) (fuel d : Nat) (hd : d ≤ MAX_NESTING_DEPTH) :
    dec x cfg (fuel + 1) d (encInt v ++ r) = .ok (wire (.int v), r) := by
  by_cases h2 : -2147483648 ≤ v ∧ v ≤ 2147483647
  · rw [wire, if_pos h2]
    by_cases h1 : 0 ≤ v ∧ v ≤ 255
    · simpa [encInt, h1, Int.toNat_of_nonneg h1.1] using dec_small_int x cfg fuel hd (r := r) (n := v.toNat) (by omega)
    · rw [show encInt v = 98 :: be32 (v % 4294967296).toNat by simp [encInt, h1, h2], List.cons_append,
        dec_int32 x cfg fuel hd (by omega), i32OfU32]
      congr 3
      split <;> omega
  · rw [wire, if_neg h2, encInt_big h2]
    exact dec_big x cfg fuel hd _ (by simp [leN_length]; omega)

omit hc hlen in
theorem wire_small (a : Nat) (h : a < 2147483648) : wire (.int (a : Int)) = .int a := by
  rw [wire, if_pos (by omega)]

theorem dec_enc_local (hb : cfg.borrowed = false) (t : Term) (hash plain r : Bytes) (fuel d : Nat)
    (hid : isIdent t = true) (hh : hash.length = 8) (hw : wfT (clearLoc t) = true)
    (hp : enc cache (clearLoc t) = .ok plain) (hl : locOf t = some (hash ++ plain))
    (hd : d + 2 ≤ MAX_NESTING_DEPTH) :
    enc cache t = .ok (121 :: (hash ++ plain)) ∧
      dec x cfg (fuel + 3) d (121 :: (hash ++ plain) ++ r) = .ok (t, r) := by
  refine ⟨enc_ident_loc hid hl, ?_⟩
  simpa [withLoc_clearLoc hid hl] using dec_local x cfg (fuel + 2) (by omega) hb hh
    (dec_ident_plain x cfg cache hc hlen _ (by rwa [isIdent_clearLoc]) plain r fuel (d + 1) hw hp hd)

theorem dec_enc_ident (t : Term) (hb : cfg.borrowed = false ∨ locOf t = none) (hid : isIdent t = true) (bs r : Bytes)
    (fuel d : Nat) (hw : locOk cache t) (hd : idDep t + d ≤ MAX_NESTING_DEPTH) (he : enc cache t = .ok bs)
    (hf : idTsz t ≤ fuel) : dec x cfg fuel d (bs ++ r) = .ok (t, r) := by
  cases hl : locOf t with
  | none =>
    simp only [locOk, idDep, idTsz, hl] at hw hd hf
    obtain ⟨g, rfl⟩ : ∃ g, fuel = g + 2 := ⟨fuel - 2, by omega⟩
    exact dec_ident_plain x cfg cache hc hlen t hid bs r g d hw he (by omega)
  | some l =>
    simp only [locOk, idDep, idTsz, hl] at hw hd hf
    obtain ⟨hash, plain, rfl, hh, hwf, hp⟩ := hw
    obtain ⟨g, rfl⟩ : ∃ g, fuel = g + 3 := ⟨fuel - 3, by omega⟩
    obtain ⟨h1, h2⟩ := dec_enc_local x cfg cache hc hlen (hb.resolve_right (by simp [hl])) t hash plain r g d hid hh hwf hp hl (by omega)
    cases h1.symm.trans he
    exact h2

end

theorem dec_atom (x : Ext) (cfg : DecCfg) (a bs r : Bytes) (fuel d : Nat) (hu : validUtf8 a = true)
    (h : encAtom [] a = .ok bs) (hd : d ≤ MAX_NESTING_DEPTH) :
    dec x cfg (fuel + 1) d (bs ++ r) = .ok (.atom a, r) :=
  dec_atomC x cfg [] (cfgFor_nil cfg) (by simp) a bs r fuel d hu h hd

theorem max_le_max' {a b c d : Nat} (h1 : a ≤ c) (h2 : b ≤ d) : max a b ≤ max c d := by omega
theorem max_add_le {a b d m : Nat} (h : max a b + d ≤ m) : a + d ≤ m ∧ b + d ≤ m := by omega
theorem succ_max_le {a b f : Nat} (h : 1 + max a b ≤ f + 1) : a ≤ f ∧ b ≤ f := by omega

mutual
theorem plain_of_wfT (cache : List Bytes) : ∀ (t : Term), wfT t = true → wfX cache t ∧ tszX t = tsz t ∧ depX t ≤ dep t
  | .atom _, h | .int _, h | .float _, h | .bin _, h | .bits _ _, h | .str _, h | .big _ _, h | .xfun _ _ _, h
  | .nil, h => ⟨h, rfl, Nat.le_refl _⟩
  | .pid ⟨_, _, _, _, _⟩, h | .port _ _ _ _, h | .ref _ _ _ _, h => by
    cases locOf_of_wfT _ h; exact ⟨h, rfl, Nat.le_refl _⟩
  | .tuple l, h | .list l, h => by
    simp only [wfT, Bool.and_eq_true, decide_eq_true_eq] at h
    obtain ⟨h1, h2, h3⟩ := plainL_of_wfL cache l h.2
    simp only [wfX, tszX, depX, tsz, dep]; exact ⟨⟨h.1, h1⟩, by omega, by omega⟩
  | .ilist l t, h => by
    simp only [wfT, Bool.and_eq_true, decide_eq_true_eq] at h
    obtain ⟨h1, h2, h3⟩ := plainL_of_wfL cache l h.1.2
    obtain ⟨h4, h5, h6⟩ := plain_of_wfT cache t h.2
    simp only [wfX, tszX, depX, tsz, dep]
    exact ⟨⟨h.1.1, h1, h4⟩, by rw [h2, h5], Nat.add_le_add_left (max_le_max' h3 h6) 1⟩
  | .map kvs, h => by
    simp only [wfT, Bool.and_eq_true, decide_eq_true_eq] at h
    obtain ⟨h1, h2, h3⟩ := plainKV_of_wfKV cache kvs h.2
    simp only [wfX, tszX, depX, tsz, dep]; exact ⟨⟨h.1, h1⟩, by omega, by omega⟩
  | .ifun a u i nf m oi ou p fr, h => by
    simp only [wfT, Bool.and_eq_true, decide_eq_true_eq, and_assoc] at h
    obtain ⟨ha, hu, hi, hnf, hnf32, hm, hoi, hou, hp, hfr⟩ := h
    have hl : p.loc = none := locOf_of_wfT (.pid p) hp
    obtain ⟨h1, h2, h3⟩ := plainL_of_wfL cache fr hfr
    simp only [wfX, locOk, tszX, idTsz, depX, idDep, locOf, hl, tsz, dep, wfT]
    exact ⟨⟨ha, hu, hi, hnf, hnf32, hm, hoi, hou, hp, h1⟩, by rw [h2], by omega⟩
theorem plainL_of_wfL (cache : List Bytes) :
    ∀ (l : List Term), wfL l = true → wfXL cache l ∧ tszXL l = tszL l ∧ depXL l ≤ depL l
  | [], _ => ⟨trivial, rfl, Nat.le_refl _⟩
  | t :: ts, h => by
    simp only [wfL, Bool.and_eq_true] at h
    obtain ⟨h1, h2, h3⟩ := plain_of_wfT cache t h.1
    obtain ⟨h4, h5, h6⟩ := plainL_of_wfL cache ts h.2
    simp only [wfXL, tszXL, depXL, tszL, depL]; exact ⟨⟨h1, h4⟩, by rw [h2, h5], max_le_max' h3 h6⟩
theorem plainKV_of_wfKV (cache : List Bytes) :
    ∀ (l : List (Term × Term)), wfKV l = true → wfXKV cache l ∧ tszXKV l = tszKV l ∧ depXKV l ≤ depKV l
  | [], _ => ⟨trivial, rfl, Nat.le_refl _⟩
  | (k, v) :: r, h => by
    simp only [wfKV, Bool.and_eq_true] at h
    obtain ⟨h1, h2, h3⟩ := plain_of_wfT cache k h.1.1
    obtain ⟨h4, h5, h6⟩ := plain_of_wfT cache v h.1.2
    obtain ⟨h7, h8, h9⟩ := plainKV_of_wfKV cache r h.2
    simp only [wfXKV, tszXKV, depXKV, tszKV, depKV]
    exact ⟨⟨h1, h4, h7⟩, by rw [h2, h5, h8], max_le_max' (max_le_max' h3 h6) h9⟩
end

theorem wire_ilist (l : List Term) (t : Term) : wire (.ilist l t) = listOf (wireL l) (wire t) := by
  simp only [wire]; cases wire t <;> rfl

theorem tszX_pos (t : Term) : 1 ≤ tszX t := by
  cases t <;> simp only [tszX, tsz, idTsz] <;> (try split) <;> omega

section
variable (x : Ext) (cfg : DecCfg) (cache : List Bytes)

mutual
/-- identifiers in either form at any depth; the zero-copy decoder, which has no LOCAL_EXT arm, for plain terms only -/
theorem dec_encG (hc : cfgFor cache cfg) (hlen : cache.length ≤ 256) (t : Term) (bs r : Bytes) (fuel d : Nat)
    (hw : wfX cache t) (hb : cfg.borrowed = false ∨ wfT t = true) (hd : depX t + d ≤ MAX_NESTING_DEPTH)
    (he : enc cache t = .ok bs) (hf : tszX t ≤ fuel) : dec x cfg fuel d (bs ++ r) = .ok (wire t, r) := by
  obtain ⟨f, rfl⟩ : ∃ f, fuel = f + 1 := ⟨fuel - 1, by have := tszX_pos t; omega⟩
  have hd0 : d ≤ MAX_NESTING_DEPTH := Nat.le_trans (Nat.le_add_left _ _) hd
  match t with
  | .atom a => exact dec_atomC x cfg cache hc hlen a bs r f d hw he hd0
  | .int i => cases he; exact dec_int x cfg i r f d hd0
  | .float b => cases he; exact dec_float x cfg f hd0 (of_decide_eq_true hw)
  | .bin b | .str b => obtain ⟨_, rfl⟩ := encBinary_ok he; exact dec_bin x cfg f hd0 (of_decide_eq_true hw)
  | .bits b n =>
    obtain ⟨_, rfl⟩ := encBits_ok he
    simp only [wfX, wfT, Bool.and_eq_true, decide_eq_true_eq, Bool.or_eq_true, Bool.not_eq_true', beq_iff_eq] at hw
    exact dec_bits x cfg f hd0 hw.2 hw.1.1 (fun hb => by subst hb; simpa using hw.1.2)
  | .big neg dg => cases he; exact dec_big x cfg f hd0 neg (of_decide_eq_true hw)
  | .nil => cases he; exact dec_nil x cfg f hd0
  | .xfun m fn a =>
    simp only [tszX, tsz, depX, dep] at hf hd
    obtain ⟨g, rfl⟩ : ∃ g, f = g + 1 := ⟨f - 1, by omega⟩
    simp only [wfX, wfT, Bool.and_eq_true, decide_eq_true_eq] at hw
    obtain ⟨mb, fb, hm, hfn, rfl⟩ := enc_xfun_ok he
    have hd1 : d + 1 ≤ MAX_NESTING_DEPTH := by omega
    simp only [List.cons_append, List.append_assoc]
    refine dec_export x cfg (g + 1) hd0 hw.2 (dec_atomC x cfg cache hc hlen m mb _ g (d + 1) hw.1.1 hm hd1)
      (dec_atomC x cfg cache hc hlen fn fb _ g (d + 1) hw.1.2 hfn hd1) ?_
    rw [← wire_small a (by omega)]
    exact dec_int x cfg a r g (d + 1) hd1
  | .pid _ | .port _ _ _ _ | .ref _ _ _ _ =>
    exact dec_enc_ident x cfg cache hc hlen _ (hb.imp_right (locOf_of_wfT _)) rfl bs r _ d hw hd he hf
  | .tuple l =>
    obtain ⟨_, lb, hl, rfl⟩ := enc_tuple_ok he
    simp only [wfX, wfT, depX, tszX, Bool.and_eq_true] at hw hb hd hf
    rw [List.append_assoc, wire]
    exact dec_tuple x cfg f hd0 hw.1
      (decN_encLG hc hlen l lb r f (d + 1) hw.2 (hb.imp_right (·.2)) (by omega) hl (by omega))
  | .list l =>
    simp only [wfX, wfT, depX, tszX, Bool.and_eq_true] at hw hb hd hf
    rcases enc_list_ok he with ⟨rfl, rfl⟩ | ⟨hne, _, lb, hl, rfl⟩
    · exact dec_nil x cfg f hd0
    · -- the recursive call must stay on the pattern variable `l` for the recursion to be structural
      have e : wire (.list l) = listOf (wireL l) .nil ∧ 1 ≤ tszXL l := by
        cases l with
        | nil => exact absurd rfl hne
        | cons _ _ => exact ⟨rfl, by simp only [tszXL]; omega⟩
      obtain ⟨g, rfl⟩ : ∃ g, f = g + 1 := ⟨f - 1, by omega⟩
      simp only [List.cons_append, List.append_assoc, List.nil_append, e.1]
      exact dec_list x cfg (g + 1) hd0 hw.1
        (decN_encLG hc hlen l lb (106 :: r) (g + 1) (d + 1) hw.2 (hb.imp_right (·.2)) (by omega) hl (by omega))
        (dec_nil x cfg g (by omega))
  | .ilist l tl =>
    obtain ⟨_, lb, tb, hl, ht, rfl⟩ := enc_ilist_ok he
    simp only [wfX, wfT, depX, tszX, Bool.and_eq_true] at hw hb hd hf
    simp only [List.cons_append, List.append_assoc, wire_ilist]
    have ar : depXL l + (d + 1) ≤ MAX_NESTING_DEPTH ∧ depX tl + (d + 1) ≤ MAX_NESTING_DEPTH ∧ tszXL l ≤ f ∧ tszX tl ≤ f := by
      omega
    exact dec_list x cfg f hd0 hw.1
      (decN_encLG hc hlen l lb (tb ++ r) f (d + 1) hw.2.1 (hb.imp_right (·.1.2)) ar.1 hl ar.2.2.1)
      (dec_encG hc hlen tl tb r f (d + 1) hw.2.2 (hb.imp_right (·.2)) ar.2.1 ht ar.2.2.2)
  | .map kvs =>
    obtain ⟨_, b, hl, rfl⟩ := enc_map_ok he
    simp only [wfX, wfT, depX, tszX, Bool.and_eq_true] at hw hb hd hf
    simp only [List.cons_append, List.append_assoc, wire]
    exact dec_map x cfg f hd0 hw.1
      (decKV_encKVG hc hlen kvs b r f (d + 1) [] hw.2 (hb.imp_right (·.2)) (by omega) hl (by omega))
  | .ifun a u i nf m oi ou p fr =>
    obtain ⟨mb, pb, fb, hm, hp, hfr, rfl⟩ := enc_ifun_ok he
    simp only [wfX, wfT, depX, tszX, Bool.and_eq_true] at hw hb hd hf
    obtain ⟨ha, hu, hi, rfl, hnf32, hmu, hoi, hou, hpk, hwfr⟩ := hw
    have hp1 : 1 ≤ idDep (.pid p) ∧ 2 ≤ idTsz (.pid p) := by unfold idDep idTsz; split <;> omega
    obtain ⟨g, rfl⟩ : ∃ g, f = g + 1 := ⟨f - 1, by omega⟩
    obtain ⟨ha256, hd1, hpd, hfd, hpt, hft⟩ : a < 256 ∧ d + 1 ≤ MAX_NESTING_DEPTH ∧ idDep (.pid p) + (d + 1) ≤ MAX_NESTING_DEPTH ∧
        depXL fr + (d + 1) ≤ MAX_NESTING_DEPTH ∧ idTsz (.pid p) ≤ g + 1 ∧ tszXL fr ≤ g + 1 := by omega
    simp only [funBody, List.cons_append, List.append_assoc, wire]
    have h2 := dec_int x cfg oi (encInt ou ++ (pb ++ (fb ++ r))) g (d + 1) hd1
    have h3 := dec_int x cfg ou (pb ++ (fb ++ r)) g (d + 1) hd1
    rw [wire_small oi hoi] at h2
    rw [wire_small ou hou] at h3
    exact dec_new_fun x cfg (g + 1) hd0 ha256 hu hi hnf32
      (dec_atomC x cfg cache hc hlen m mb _ g (d + 1) hmu hm hd1) h2 h3
      (dec_enc_ident x cfg cache hc hlen (.pid p) (hb.imp_right fun h => locOf_of_wfT (.pid p) h.1.2) rfl pb _ _ (d + 1)
        hpk hpd hp hpt)
      (decN_encLG hc hlen fr fb r (g + 1) (d + 1) hwfr (hb.imp_right (·.2)) hfd hfr hft)
theorem decN_encLG (hc : cfgFor cache cfg) (hlen : cache.length ≤ 256) (l : List Term) (bs r : Bytes) (fuel d : Nat)
    (hw : wfXL cache l) (hb : cfg.borrowed = false ∨ wfL l = true) (hd : depXL l + d ≤ MAX_NESTING_DEPTH)
    (he : encL cache l = .ok bs) (hf : tszXL l ≤ fuel) :
    decN x cfg fuel d l.length (bs ++ r) = .ok (wireL l, r) := by
  match l with
  | [] => cases he; simp [decN, wireL]
  | t :: ts =>
    obtain ⟨a, b, ha, hb', rfl⟩ := encL_cons_ok he
    simp only [wfXL, wfL, depXL, tszXL, Bool.and_eq_true] at hw hb hd hf
    obtain ⟨f, rfl⟩ : ∃ f, fuel = f + 1 := ⟨fuel - 1, by omega⟩
    have ⟨hd1, hd2⟩ := max_add_le hd
    have ⟨hf1, hf2⟩ := succ_max_le hf
    simp only [List.length_cons, decN, List.append_assoc, wireL,
      dec_encG hc hlen t a (b ++ r) f d hw.1 (hb.imp_right (·.1)) hd1 ha hf1,
      decN_encLG hc hlen ts b r f d hw.2 (hb.imp_right (·.2)) hd2 hb' hf2]
theorem decKV_encKVG (hc : cfgFor cache cfg) (hlen : cache.length ≤ 256) (kvs : List (Term × Term)) (bs r : Bytes)
    (fuel d : Nat) (acc : List (Term × Term)) (hw : wfXKV cache kvs) (hb : cfg.borrowed = false ∨ wfKV kvs = true)
    (hd : depXKV kvs + d ≤ MAX_NESTING_DEPTH) (he : encKV cache kvs = .ok bs) (hf : tszXKV kvs ≤ fuel) :
    decKV x cfg fuel d kvs.length (bs ++ r) acc = .ok (insertAll acc (wireKV kvs), r) := by
  match kvs with
  | [] => cases he; simp [decKV, wireKV, insertAll]
  | (k, v) :: ts =>
    obtain ⟨a, b, c, ha, hb', hc', rfl⟩ := encKV_cons_ok he
    simp only [wfXKV, wfKV, depXKV, tszXKV, Bool.and_eq_true] at hw hb hd hf
    obtain ⟨f, rfl⟩ : ∃ f, fuel = f + 1 := ⟨fuel - 1, by omega⟩
    have ⟨hd12, hd3⟩ := max_add_le hd
    have ⟨hd1, hd2⟩ := max_add_le hd12
    have ⟨hf12, hf3⟩ := succ_max_le hf
    have ⟨hf1, hf2⟩ := Nat.max_le.mp hf12
    simp only [List.length_cons, decKV, List.append_assoc, wireKV, insertAll,
      dec_encG hc hlen k a (b ++ (c ++ r)) f d hw.1 (hb.imp_right (·.1.1)) hd1 ha hf1,
      dec_encG hc hlen v b (c ++ r) f d hw.2.1 (hb.imp_right (·.1.2)) hd2 hb' hf2,
      decKV_encKVG hc hlen ts c r f d _ hw.2.2 (hb.imp_right (·.2)) hd3 hc' hf3]
end

end

theorem dec_enc (x : Ext) (cfg : DecCfg) (cache : List Bytes) (hc : cfgFor cache cfg) (hlen : cache.length ≤ 256) (t : Term) (bs r : Bytes) (fuel d : Nat)
    (hw : wfT t = true) (hd : dep t + d ≤ MAX_NESTING_DEPTH) (he : enc cache t = .ok bs) (hf : tsz t ≤ fuel) :
    dec x cfg fuel d (bs ++ r) = .ok (wire t, r) := by
  obtain ⟨h1, h2, h3⟩ := plain_of_wfT cache t hw
  exact dec_encG x cfg cache hc hlen t bs r fuel d h1 (.inr hw) (by omega) he (by omega)

theorem decN_encL (x : Ext) (cfg : DecCfg) (cache : List Bytes) (hc : cfgFor cache cfg) (hlen : cache.length ≤ 256) (l : List Term) (bs r : Bytes) (fuel d : Nat)
    (hw : wfL l = true) (hd : depL l + d ≤ MAX_NESTING_DEPTH) (he : encL cache l = .ok bs) (hf : tszL l ≤ fuel) :
    decN x cfg fuel d l.length (bs ++ r) = .ok (wireL l, r) := by
  obtain ⟨h1, h2, h3⟩ := plainL_of_wfL cache l hw
  exact decN_encLG x cfg cache hc hlen l bs r fuel d h1 (.inr hw) (by omega) he (by omega)

theorem decKV_encKV (x : Ext) (cfg : DecCfg) (cache : List Bytes) (hc : cfgFor cache cfg) (hlen : cache.length ≤ 256) (kvs : List (Term × Term)) (bs r : Bytes) (fuel d : Nat)
    (acc : List (Term × Term))
    (hw : wfKV kvs = true) (hd : depKV kvs + d ≤ MAX_NESTING_DEPTH) (he : encKV cache kvs = .ok bs) (hf : tszKV kvs ≤ fuel) :
    decKV x cfg fuel d kvs.length (bs ++ r) acc = .ok (insertAll acc (wireKV kvs), r) := by
  obtain ⟨h1, h2, h3⟩ := plainKV_of_wfKV cache kvs hw
  exact decKV_encKVG x cfg cache hc hlen kvs bs r fuel d acc h1 (.inr hw) (by omega) he (by omega)

theorem encAtom_len (cache : List Bytes) (a bs : Bytes) (h : encAtom cache a = .ok bs) : 2 ≤ bs.length := by
  rcases enc_atomC_ok cache a bs h with ⟨i, _, rfl⟩ | ⟨_, _, rfl⟩ | ⟨_, _, _, rfl⟩ <;> simp <;> omega

theorem encInt_len (v : Int) : 2 ≤ (encInt v).length := by
  -- the three forms: `[97, _]`, `98 :: be32 _`, `110 :: _ :: _ :: _`
  unfold encInt; split
  · simp
  · split <;> simp

theorem encPid_len (cache : List Bytes) (p : PidF) (bs : Bytes) (h : encPid cache p = .ok bs) (hl : p.loc = none) :
    2 ≤ bs.length := by
  obtain ⟨ab, _, rfl⟩ := encPid_ok h hl; simp

theorem idTsz_le_length (cache : List Bytes) (t : Term) (bs : Bytes) (hid : isIdent t = true) (hw : locOk cache t)
    (he : enc cache t = .ok bs) : idTsz t ≤ bs.length := by
  cases hl : locOf t with
  | none =>
    rw [idTsz, hl]
    match t, hid with
    | .pid p, _ => exact encPid_len cache p bs he hl
    | .port n i c l, _ => cases hl; obtain ⟨ab, _, rfl⟩ := encPort_ok he; simp
    | .ref n c ids l, _ => cases hl; obtain ⟨_, ab, _, rfl⟩ := encRef_ok he; simp; omega
  | some l =>
    simp only [locOk, idTsz, hl] at hw ⊢
    obtain ⟨hash, plain, rfl, hh, _, _⟩ := hw
    have e := enc_ident_loc (cache := cache) hid hl
    cases e.symm.trans he
    simp [hh]; omega

mutual
theorem tszX_le_length (cache : List Bytes) (t : Term) (bs : Bytes) (hw : wfX cache t) (he : enc cache t = .ok bs) :
    tszX t ≤ bs.length := by
  match t with
  | .atom a => exact Nat.le_of_succ_le (encAtom_len cache a bs he)
  | .int i => cases he; have := encInt_len i; simp only [tszX, tsz]; omega
  | .float b | .nil => cases he; simp [tszX, tsz]
  | .big neg dg => cases he; simp only [encBig, tszX, tsz]; split <;> simp  -- `110 :: be8 _ ++ _`, `111 :: be32 _ ++ _`: not empty
  | .bin b | .str b => obtain ⟨_, rfl⟩ := encBinary_ok he; simp [tszX, tsz]
  | .bits b n => obtain ⟨_, rfl⟩ := encBits_ok he; simp [tszX, tsz]
  | .xfun m fn a =>
    obtain ⟨mb, fb, hm, _, rfl⟩ := enc_xfun_ok he
    have := encAtom_len cache m mb hm
    simp [tszX, tsz]; omega
  | .pid _ | .port _ _ _ _ | .ref _ _ _ _ => exact idTsz_le_length cache _ bs rfl hw he
  | .tuple l =>
    obtain ⟨_, lb, hl, rfl⟩ := enc_tuple_ok he
    have := tszXL_le_length cache l lb hw.2 hl
    simp only [tszX, tupleHead]; split <;> simp <;> omega
  | .list l =>
    rcases enc_list_ok he with ⟨rfl, rfl⟩ | ⟨_, _, lb, hl, rfl⟩
    · simp [tszX, tszXL]
    · have := tszXL_le_length cache l lb hw.2 hl
      simp [tszX]; omega
  | .ilist l tl =>
    obtain ⟨_, lb, tb, hl, ht, rfl⟩ := enc_ilist_ok he
    have := tszXL_le_length cache l lb hw.2.1 hl
    have := tszX_le_length cache tl tb hw.2.2 ht
    simp [tszX]; omega
  | .map kvs =>
    obtain ⟨_, b, hl, rfl⟩ := enc_map_ok he
    have := tszXKV_le_length cache kvs b hw.2 hl
    simp [tszX]; omega
  | .ifun a u i nf m oi ou p fr =>
    obtain ⟨mb, pb, fb, _, hp, hfr, rfl⟩ := enc_ifun_ok he
    obtain ⟨_, _, _, _, _, _, _, _, hpk, hwfr⟩ := hw
    have := tszXL_le_length cache fr fb hwfr hfr
    have := idTsz_le_length cache (.pid p) pb rfl hpk (by simpa [enc] using hp)
    simp [tszX, funBody]; omega
theorem tszXL_le_length (cache : List Bytes) (l : List Term) (bs : Bytes) (hw : wfXL cache l) (he : encL cache l = .ok bs) :
    tszXL l ≤ bs.length + 1 := by
  match l with
  | [] => simp [tszXL]
  | t :: ts =>
    obtain ⟨a, b, ha, hb, rfl⟩ := encL_cons_ok he
    have := tszX_le_length cache t a hw.1 ha
    have := tszXL_le_length cache ts b hw.2 hb
    have := tszX_pos t
    simp [tszXL]; omega
theorem tszXKV_le_length (cache : List Bytes) (kvs : List (Term × Term)) (bs : Bytes) (hw : wfXKV cache kvs)
    (he : encKV cache kvs = .ok bs) : tszXKV kvs ≤ bs.length + 1 := by
  match kvs with
  | [] => simp [tszXKV]
  | (k, v) :: ts =>
    obtain ⟨a, b, c, ha, hb, hc, rfl⟩ := encKV_cons_ok he
    have := tszX_le_length cache k a hw.1 ha
    have := tszX_le_length cache v b hw.2.1 hb
    have := tszXKV_le_length cache ts c hw.2.2 hc
    have := tszX_pos k
    have := tszX_pos v
    simp [tszXKV]; omega
end

theorem tsz_le_length (cache : List Bytes) (t : Term) (bs : Bytes) (hw : wfT t = true) (he : enc cache t = .ok bs) :
    tsz t ≤ bs.length := by
  obtain ⟨h1, h2, _⟩ := plain_of_wfT cache t hw
  exact h2 ▸ tszX_le_length cache t bs h1 he

theorem tszL_le_length (cache : List Bytes) (l : List Term) (bs : Bytes) (hw : wfL l = true) (he : encL cache l = .ok bs) :
    tszL l ≤ bs.length + 1 := by
  obtain ⟨h1, h2, _⟩ := plainL_of_wfL cache l hw
  exact h2 ▸ tszXL_le_length cache l bs h1 he

theorem tszKV_le_length (cache : List Bytes) (kvs : List (Term × Term)) (bs : Bytes) (hw : wfKV kvs = true)
    (he : encKV cache kvs = .ok bs) : tszKV kvs ≤ bs.length + 1 := by
  obtain ⟨h1, h2, _⟩ := plainKV_of_wfKV cache kvs hw
  exact h2 ▸ tszXKV_le_length cache kvs bs h1 he

theorem encode_ok {t : Term} {b : Bytes} (h : encode t = .ok b) : ∃ tb, enc [] t = .ok tb ∧ b = 131 :: tb := by
  unfold encode at h
  split at h <;> cases h
  exact ⟨_, ‹_›, rfl⟩

theorem encode_err {t : Term} {e : EncErr} (h : encode t = .error e) : enc [] t = .error e := by
  unfold encode at h
  split at h <;> cases h
  assumption

/-- the fuel and depth `decodeWith` starts from suffice for what `encode` wrote -/
theorem decodeWith_encode (x : Ext) (cfg : DecCfg) (t : Term) (bs : Bytes) (hw : wfX [] t)
    (hb : cfg.borrowed = false ∨ wfT t = true) (hd : depX t ≤ MAX_NESTING_DEPTH) (he : encode t = .ok bs) :
    decodeWith x cfg bs = .ok (wire t) := by
  obtain ⟨b, h, rfl⟩ := encode_ok he
  have := dec_encG x cfg [] (cfgFor_nil _) (by simp) t b [] (b.length + 1 + x.extra) 0 hw hb (by omega) h
    (by have := tszX_le_length [] t b hw h; omega)
  rw [List.append_nil] at this
  simp [decodeWith, this]

end Edp
