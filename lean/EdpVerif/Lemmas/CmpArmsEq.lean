import EdpVerif.Impl.CmpArms
/-!
The arm-by-arm model of `impl Ord for BorrowedTerm` computes the same result as the arm-by-arm model of
`impl Ord for OwnedTerm`, for every pair of terms and every amount of fuel: the helper copies agree one by one, the
fast path of the owned comparison returns what the main match would, and the loops agree by induction on the fuel.
-/
open Edp Edp.Term
namespace Edp

theorem skipEmptyB_eq (t : Term) : skipEmptyB t = skipEmptyO t := by
  fun_induction skipEmptyB t with
  | case1 t ih => rw [skipEmptyO]; exact ih
  | case2 t h => cases t <;> first | rfl | (rename_i l t'; cases l <;> first | rfl | exact absurd rfl (h _))

theorem rankB_eq (t : Term) : rankB t = rankO t := by cases t <;> rfl

theorem bitPartsB_eq (t : Term) : bitPartsB t = bitPartsO t := by cases t <;> rfl

theorem tailNextB_eq (t : Term) : tailNextB t = tailNextO t := by
  fun_induction tailNextB t <;> simp_all [tailNextO]

theorem nextB_eq (e : List Term) (t : Option Term) : nextB e t = nextO e t := by
  cases e with
  | cons x r => rfl
  | nil => cases t with
    | none => rfl
    | some t => simp [nextB, nextO, tailNextB_eq]

/-- the `discriminant` fast path answers exactly for these five pairs -/
theorem fastO_some {a b : Term} {o : Ordering} (h : fastO a b = some o) :
    (∃ x y, a = .int x ∧ b = .int y ∧ o = compare x y) ∨ (∃ x y, a = .atom x ∧ b = .atom y ∧ o = bytesCmp x y) ∨
    (∃ x y, a = .bin x ∧ b = .bin y ∧ o = bytesCmp x y) ∨ (∃ x y, a = .str x ∧ b = .str y ∧ o = bytesCmp x y) ∨
    (a = .nil ∧ b = .nil ∧ o = .eq) := by
  unfold fastO at h
  split at h <;> cases h
  · exact .inl ⟨_, _, rfl, rfl, rfl⟩
  · exact .inr (.inl ⟨_, _, rfl, rfl, rfl⟩)
  · exact .inr (.inr (.inl ⟨_, _, rfl, rfl, rfl⟩))
  · exact .inr (.inr (.inr (.inl ⟨_, _, rfl, rfl, rfl⟩)))
  · exact .inr (.inr (.inr (.inr ⟨rfl, rfl, rfl⟩)))

theorem armsB_eq_armsO (f : Nat) :
    (∀ a b, cmpB f a b = cmpO f a b) ∧
    (∀ ea ta eb tb, cellsLoopB f ea ta eb tb = cellsLoopO f ea ta eb tb) ∧
    (∀ x y, zipLoopB f x y = zipLoopO f x y) ∧
    (∀ x y, keysLoopB f x y = keysLoopO f x y) ∧
    (∀ x y, valsLoopB f x y = valsLoopO f x y) := by
  induction f with
  | zero => refine ⟨?_, ?_, ?_, ?_, ?_⟩ <;> intros <;> simp [cmpB, cmpO, cellsLoopB, cellsLoopO, zipLoopB, zipLoopO,
      keysLoopB, keysLoopO, valsLoopB, valsLoopO]
  | succ f ih =>
    obtain ⟨hc, hcells, hzip, hkeys, hvals⟩ := ih
    refine ⟨?_, ?_, ?_, ?_, ?_⟩
    · intro a0 b0
      rw [cmpB, cmpO]
      simp only [skipEmptyB_eq, rankB_eq, hzip, hkeys, hvals, hcells, bitPartsB_eq]
      generalize skipEmptyO a0 = a
      generalize skipEmptyO b0 = b
      -- both sides are now the same match on `a`, `b`, the owned one behind the fast path
      cases hf : fastO a b with
      | none => rfl
      | some o =>
        rcases fastO_some hf with ⟨x, y, rfl, rfl, rfl⟩ | ⟨x, y, rfl, rfl, rfl⟩ | ⟨x, y, rfl, rfl, rfl⟩ |
          ⟨x, y, rfl, rfl, rfl⟩ | ⟨rfl, rfl, rfl⟩ <;> rfl
    · intro ea ta eb tb
      rw [cellsLoopB, cellsLoopO]
      simp only [nextB_eq, rankB_eq, hc, hcells, listTypeOrderB, listTypeOrderO]
    · intro x y
      cases x <;> cases y <;> simp [zipLoopB, zipLoopO, hc, hzip]
    · intro x y
      cases x <;> cases y <;> simp [keysLoopB, keysLoopO, hc, hkeys]
    · intro x y
      cases x <;> cases y <;> simp [valsLoopB, valsLoopO, hc, hvals]

theorem cmpB_eq_cmpO (f : Nat) (a b : Term) : cmpB f a b = cmpO f a b := (armsB_eq_armsO f).1 a b

theorem cmpBorrowed_eq_cmpOwned (a b : Term) : cmpBorrowed a b = cmpOwned a b := cmpB_eq_cmpO _ a b

end Edp
