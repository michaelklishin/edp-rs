import EdpVerif.Impl.Send
import EdpVerif.Lemmas.SpecValid
import EdpVerif.Lemmas.Control
/-!
C07: what the independent reader (`Spec.parse`, `Spec.Wire`) makes of the bytes the send side writes.

`Reads env b v`: the bytes `b`, with whatever follows, are an encoding of the value `v` for a reader whose distribution
header (if any) is `env`, for any fuel from `b.length` up.  `Reads` is built compositionally for control tuples; for a
payload within C01's guard it is C01's validity theorem (`spec_enc`).  `op_frame`: in either framing mode the bytes of a
successful operation are one length-prefixed body that the reader accepts as the operation's item.
-/
namespace Edp.Send
open Edp Edp.Spec Edp.Spec.Wire
open Edp.Impl.Handshake (ConnState)

/-- `b` reads as `v` and nothing else, whatever follows -/
def Reads (env : Env) (b : Bytes) (v : Value) : Prop :=
  ∀ (fuel : Nat) (r : Bytes), b.length ≤ fuel → parse env fuel (b ++ r) = some (v, r)

theorem Reads.ne_nil {env : Env} {b : Bytes} {v : Value} (h : Reads env b v) : 1 ≤ b.length := by
  cases b with
  | nil => simpa [parse] using h 0 [] (by simp)
  | cons x xs => simp

/-- the reader spends `k` units of fuel on the outermost levels of `b`, and `b` has at least `k` bytes -/
theorem Reads.of_parse {env : Env} {b : Bytes} {v : Value} (k : Nat) (hk : k ≤ b.length)
    (h : ∀ (f : Nat) (r : Bytes), parse env (f + k) (b ++ r) = some (v, r)) : Reads env b v := by
  intro fuel r hf
  obtain ⟨f, rfl⟩ : ∃ f, fuel = f + k := ⟨fuel - k, by omega⟩
  exact h f r

theorem Reads.alone {env : Env} {b : Bytes} {v : Value} (h : Reads env b v) {fuel : Nat} (hf : b.length ≤ fuel) :
    parse env fuel b = some (v, []) := by
  simpa using h fuel [] hf

/-- the reader's header environment is the encoder's atom cache -/
structure EnvFor (cache : List Bytes) (env : Env) : Prop where
  len : cache.length ≤ 256
  refs : env.refs = cache.map cps

theorem envFor_nil : EnvFor [] {} := ⟨by simp, rfl⟩

theorem EnvFor.ref {cache : List Bytes} {env : Env} (he : EnvFor cache env) (a : Bytes) (i : Nat)
    (hi : indexOf? a cache = some i) : i < 256 ∧ env.refs[i]? = some (cps a) := by
  have := indexOf?_lt a cache i hi
  have := he.len
  exact ⟨by omega, by simp [he.refs, indexOf?_get a cache i hi]⟩

/-- an atom as the encoder writes it reads as that atom: its text under any header environment, a cache reference
under an environment that holds the atom at that index -/
theorem parse_encAtom (env : Env) {cache : List Bytes} {a bs : Bytes} (r : Bytes) (fuel : Nat)
    (hu : validUtf8 a = true) (h : encAtom cache a = .ok bs)
    (href : ∀ i, indexOf? a cache = some i → i < 256 ∧ env.refs[i]? = some (cps a)) :
    parse env (fuel + 1) (bs ++ r) = some (.atom (cps a), r) := by
  rcases enc_atomC_ok cache a bs h with ⟨i, hi, rfl⟩ | ⟨_, hl, rfl⟩ | ⟨_, _, hl, rfl⟩
  · rw [List.cons_append, parse.eq_3]
    simp [rdN_byte i r (href i hi).1, (href i hi).2]
  · simp only [List.cons_append, List.append_assoc]
    rw [parse.eq_3]
    simp [rdN_be8 a.length (a ++ r) (by omega), takeN_append, utf8_cps a hu]
  · simp only [List.cons_append, List.append_assoc]
    rw [parse.eq_3]
    simp [rdN_be16 a.length (a ++ r) (by omega), takeN_append, utf8_cps a hu]

theorem reads_binary (env : Env) (b bs : Bytes) (h : encBinary b = .ok bs) : Reads env bs (Value.mkBits b 8) := by
  obtain ⟨hl, rfl⟩ := encBinary_ok h
  refine .of_parse 1 (by simp) fun f r => ?_
  simp only [List.cons_append, List.append_assoc]
  rw [parse.eq_3]
  simp [rdN_be32 b.length _ (by simp [u32max] at hl; omega), takeN_append]

theorem reads_float (env : Env) (v : Nat) (hv : v < 18446744073709551616) (hfin : v / 2 ^ 52 % 2048 ≠ 2047) :
    Reads env (70 :: be64 v) (.float v) := by
  refine .of_parse 1 (by simp) fun f r => ?_
  rw [List.cons_append, parse.eq_3]
  simp [rdN_be64 v r hv, hfin]

theorem reads_nil (env : Env) : Reads env [106] .nil := by
  refine .of_parse 1 (by simp) fun f r => ?_
  rw [List.cons_append, parse.eq_3]
  simp

/-- preserved node-local bytes (`LOCAL_EXT`: 8 bytes of hash, then a term) that denote `v` -/
def LocReads (l : Bytes) (v : Value) : Prop :=
  8 ≤ l.length ∧ ∀ (env : Env) (fuel : Nat) (r : Bytes), parse env (fuel + 2) (l.drop 8 ++ r) = some (v, r)

/-- what the Rust types guarantee of an `ExternalPid` (UTF-8 node name, 32-bit numbers), plus: preserved node-local
bytes, if any, denote the same pid -/
structure PidOk (p : PidF) : Prop where
  utf8 : validUtf8 p.node = true
  id : p.id < 4294967296
  serial : p.serial < 4294967296
  creation : p.creation < 4294967296
  loc : ∀ l, p.loc = some l → LocReads l (pidDen p)

theorem pidDen_eq (p : PidF) : pidDen p = .pid (cps p.node) p.id p.serial p.creation := rfl

theorem reads_local (env : Env) (l : Bytes) (v : Value) (h : LocReads l v) : Reads env (121 :: l) v := by
  refine .of_parse 3 (by have := h.1; simp; omega) fun f r => ?_
  rw [List.cons_append, parse.eq_3]
  have e := rdN_of_length 8 (l.take 8) (l.drop 8 ++ r) (by have := h.1; simp; omega)
  rw [← List.append_assoc, List.take_append_drop] at e
  simp only [show (121 : UInt8).toNat = 121 from rfl, e]
  exact h.2 env f r

theorem parse_encPid (env : Env) {cache : List Bytes} (p : PidF) (bs r : Bytes) (fuel : Nat)
    (hu : validUtf8 p.node = true) (h1 : p.id < 4294967296) (h2 : p.serial < 4294967296) (h3 : p.creation < 4294967296)
    (hl : p.loc = none) (h : encPid cache p = .ok bs)
    (href : ∀ i, indexOf? p.node cache = some i → i < 256 ∧ env.refs[i]? = some (cps p.node)) :
    parse env (fuel + 2) (bs ++ r) = some (pidDen p, r) := by
  obtain ⟨a, ha, rfl⟩ := encPid_ok h hl
  simp only [List.cons_append, List.append_assoc]
  rw [parse.eq_3]
  simp [parse_encAtom env _ fuel hu ha href, rdN_be32 _ _ h1, rdN_be32 _ _ h2, rdN_be32 _ _ h3, pidDen_eq]

theorem reads_pid {cache : List Bytes} {env : Env} (he : EnvFor cache env) (p : PidF) (bs : Bytes) (hp : PidOk p)
    (h : encPid cache p = .ok bs) : Reads env bs (pidDen p) := by
  cases hl : p.loc with
  | some l =>
    simp only [encPid, hl, Except.ok.injEq] at h
    subst h
    exact reads_local env l _ (hp.loc l hl)
  | none =>
    exact .of_parse 2 (encPid_len cache p bs h hl) fun f r =>
      parse_encPid env p bs r f hp.utf8 hp.id hp.serial hp.creation hl h (he.ref p.node)

/-- what the Rust types guarantee of an `ExternalReference`, plus coherence of preserved node-local bytes -/
structure RefOk (x : RefF) : Prop where
  utf8 : validUtf8 x.node = true
  creation : x.creation < 4294967296
  ids : ∀ i ∈ x.ids, i < 4294967296
  loc : ∀ l, x.loc = some l → LocReads l x.term.den

theorem reads_ref {cache : List Bytes} {env : Env} (he : EnvFor cache env) (x : RefF) (bs : Bytes) (hx : RefOk x)
    (h : encRef cache x.node x.creation x.ids x.loc = .ok bs) : Reads env bs x.term.den := by
  cases hl : x.loc with
  | some l =>
    simp only [encRef, hl, Except.ok.injEq] at h
    subst h
    exact reads_local env l _ (hx.loc l hl)
  | none =>
    rw [hl] at h
    have hw : wfT (.ref x.node x.creation x.ids none) = true := by
      simpa [wfT, hx.utf8, hx.creation] using hx.ids
    exact .of_parse 2 (tsz_le_length cache _ bs hw h) fun f r =>
      spec_ref env cache he.refs he.len x.node x.creation x.ids bs r f hw h

theorem parseN_encL {cache : List Bytes} {env : Env} : ∀ (l : List Term) (bs : Bytes), encL cache l = .ok bs →
    (∀ t ∈ l, ∀ b, enc cache t = .ok b → Reads env b t.den) →
    ∀ (fuel : Nat) (r : Bytes), bs.length + 1 ≤ fuel → parseN env fuel l.length (bs ++ r) = some (Term.denL l, r)
  | [], bs, h, _, fuel, r, _ => by
    cases h
    cases fuel <;> simp [parseN, Term.denL]
  | t :: ts, bs, h, hel, fuel, r, hf => by
    obtain ⟨a, b, ha, hb, rfl⟩ := encL_cons_ok h
    obtain ⟨f, rfl⟩ : ∃ f, fuel = f + 1 := ⟨fuel - 1, by omega⟩
    have hra := hel t (by simp) a ha
    have := hra.ne_nil
    simp only [List.length_append] at hf
    simp [parseN, hra f (b ++ r) (by omega),
      parseN_encL ts b hb (fun t' ht' => hel t' (by simp [ht'])) f r (by omega), Term.denL]

theorem reads_tuple {cache : List Bytes} {env : Env} (l : List Term) (bs : Bytes) (hn : l.length ≤ 255)
    (h : enc cache (.tuple l) = .ok bs) (hel : ∀ t ∈ l, ∀ b, enc cache t = .ok b → Reads env b t.den) :
    Reads env bs (Term.tuple l).den := by
  obtain ⟨_, b, hb, rfl⟩ := enc_tuple_ok h
  intro fuel r hf
  simp only [tupleHead, hn, ↓reduceIte] at hf ⊢
  simp only [List.length_cons, List.length_append, be8, beN_length] at hf
  obtain ⟨f, rfl⟩ : ∃ f, fuel = f + 1 := ⟨fuel - 1, by omega⟩
  simp only [List.cons_append, List.append_assoc]
  rw [parse.eq_3]
  simp [rdN_be8 l.length _ (by omega), parseN_encL l b hb hel f r (by omega), Term.den]

theorem reads_list {cache : List Bytes} {env : Env} (l : List Term) (bs : Bytes)
    (h : enc cache (.list l) = .ok bs) (hel : ∀ t ∈ l, ∀ b, enc cache t = .ok b → Reads env b t.den) :
    Reads env bs (Term.list l).den := by
  rcases enc_list_ok h with ⟨rfl, rfl⟩ | ⟨_, hlen, b, hb, rfl⟩
  · exact reads_nil env
  · intro fuel r hf
    simp only [List.length_cons, List.length_append, be32, beN_length, List.length_nil] at hf
    obtain ⟨f, rfl⟩ : ∃ f, fuel = f + 2 := ⟨fuel - 2, by omega⟩
    simp only [List.cons_append, List.append_assoc, List.nil_append]
    rw [parse.eq_3]
    simp only [show (108 : UInt8).toNat = 108 from rfl, rdN_be32 l.length _ (by simp [u32max] at hlen; omega),
      parseN_encL l b hb hel (f + 1) (106 :: r) (by omega)]
    rw [parse.eq_3]
    simp [Term.den]

/-- payload terms for which this development proves conformance of the encoder itself (the rest is C01's subject):
64-bit integers, big integers, finite floats, atoms, binaries, strings, pids and references, nil, and lists and
tuples (up to 255 elements) of these -/
inductive Basic : Term → Prop where
  | int (v : Int) (h : -9223372036854775808 ≤ v ∧ v ≤ 9223372036854775807) : Basic (.int v)
  | big (neg : Bool) (d : Bytes) (h : d.length < 4294967296) : Basic (.big neg d)
  | atom (a : Bytes) (h : validUtf8 a = true) : Basic (.atom a)
  | pid (p : PidF) (h : PidOk p) : Basic (.pid p)
  | ref (x : RefF) (h : RefOk x) : Basic x.term
  | nil : Basic .nil
  | float (v : Nat) (hv : v < 18446744073709551616) (hfin : v / 2 ^ 52 % 2048 ≠ 2047) : Basic (.float v)
  | bin (b : Bytes) : Basic (.bin b)
  | str (s : Bytes) : Basic (.str s)
  | list (l : List Term) (h : ∀ t ∈ l, Basic t) : Basic (.list l)
  | tuple (l : List Term) (hn : l.length ≤ 255) (h : ∀ t ∈ l, Basic t) : Basic (.tuple l)

theorem reads_basic {cache : List Bytes} {env : Env} (he : EnvFor cache env) (t : Term) (hb : Basic t) :
    ∀ b, enc cache t = .ok b → Reads env b t.den := by
  induction hb with
  | int v h =>
    intro b hb; cases hb
    exact .of_parse 1 (by have := encInt_len v; omega) fun f r => spec_int env v r f h
  | big neg d h =>
    intro b hb; cases hb
    exact .of_parse 1 (by unfold encBig; split <;> simp) fun f r => spec_big env neg d r f h
  | atom a h =>
    intro b hb
    exact .of_parse 1 (by have := encAtom_len cache a b hb; omega) fun f r => parse_encAtom env r f h hb (he.ref a)
  | pid p h => intro b hb; exact reads_pid he p b h hb
  | ref x h => intro b hb; exact reads_ref he x b h hb
  | nil => intro b hb; cases hb; exact reads_nil env
  | float v hv hfin => intro b hb; cases hb; exact reads_float env v hv hfin
  | bin x => intro b hb; exact reads_binary env x b hb
  | str x => intro b hb; exact reads_binary env x b hb
  | list l _ ih => intro b hb; exact reads_list l b hb ih
  | tuple l hn _ ih => intro b hb; exact reads_tuple l b hn hb ih

theorem mem_collectAtomsL {a : Bytes} : ∀ {l : List Term}, a ∈ collectAtomsL l → ∃ t ∈ l, a ∈ collectAtoms t
  | t :: ts, h => by
    simp only [collectAtomsL, List.mem_append] at h
    rcases h with h | h
    · exact ⟨t, by simp, h⟩
    · obtain ⟨t', ht', h'⟩ := mem_collectAtomsL h
      exact ⟨t', by simp [ht'], h'⟩

theorem basic_atoms_utf8 {t : Term} (hb : Basic t) : ∀ a ∈ collectAtoms t, validUtf8 a = true := by
  induction hb with
  | atom a h => simpa [collectAtoms] using h
  | pid p h => simpa [collectAtoms] using h.utf8
  | ref x h => simpa [collectAtoms, RefF.term] using h.utf8
  | list l _ ih | tuple l _ _ ih =>
    intro a ha
    obtain ⟨t, ht, h⟩ := mem_collectAtomsL (by simpa [collectAtoms] using ha)
    exact ih t ht a h
  | _ => simp [collectAtoms]

open Edp.Control in
/-- the control tuple each operation serialises (what `ControlMessage::to_term` returns for the value it builds) -/
def controlTerm : Op → Term
  | .send _ to _ => .tuple [.int 2, .atom [], .pid to]
  | .regSend frm name _ => .tuple [.int 6, .pid frm, .atom [], .atom name]
  | .link frm to => .tuple [.int 1, .pid frm, .pid to]
  | .unlink frm to id => .tuple [.int 35, unlinkIdToTerm id, .pid frm, .pid to]
  | .monitor frm to r => .tuple [.int 19, .pid frm, .pid to, r.term]
  | .demonitor frm to r => .tuple [.int 20, .pid frm, .pid to, r.term]

theorem toTerm_control (op : Op) : Control.toTerm Gen.controlTable op.control = some (controlTerm op) := by
  cases op <;> rfl

/-- the arguments are values of the Rust types (UTF-8 names, 32-bit fields, `u64` id), node-local bytes coherent -/
def OpOk : Op → Prop
  | .send _ to _ => PidOk to
  | .regSend frm name _ => PidOk frm ∧ validUtf8 name = true
  | .link frm to => PidOk frm ∧ PidOk to
  | .unlink frm to id => PidOk frm ∧ PidOk to ∧ id < 2 ^ 64
  | .monitor frm to r => PidOk frm ∧ PidOk to ∧ RefOk r
  | .demonitor frm to r => PidOk frm ∧ PidOk to ∧ RefOk r

open Edp.Control in
theorem basic_unlinkId (id : Nat) : Basic (unlinkIdToTerm id) := by
  unfold unlinkIdToTerm
  split
  · exact .int _ (by omega)
  · exact .big _ _ (by simp [leN_length])

theorem basic_control (op : Op) (h : OpOk op) : Basic (controlTerm op) := by
  have hempty : Basic (.atom []) := .atom [] (by decide)
  cases op <;> refine .tuple _ (by simp) ?_ <;>
    simp only [List.forall_mem_cons, List.not_mem_nil, false_imp_iff, implies_true, and_true]
  · exact ⟨.int 2 (by omega), hempty, .pid _ h⟩
  · exact ⟨.int 6 (by omega), .pid _ h.1, hempty, .atom _ h.2⟩
  · exact ⟨.int 1 (by omega), .pid _ h.1, .pid _ h.2⟩
  · exact ⟨.int 35 (by omega), basic_unlinkId _, .pid _ h.1, .pid _ h.2.1⟩
  · exact ⟨.int 19 (by omega), .pid _ h.1, .pid _ h.2.1, .ref _ h.2.2⟩
  · exact ⟨.int 20 (by omega), .pid _ h.1, .pid _ h.2.1, .ref _ h.2.2⟩

theorem controlTerm_den (op : Op) (h : OpOk op) : (controlTerm op).den = controlFor op.den := by
  cases op <;> simp [controlTerm, Op.den, controlFor, Term.den, Term.denL, unused, pidDen, cps, utf8Decode]
  exact Control.intOf_den (Control.intOf_toTerm h.2.2)

theorem reads_control {cache : List Bytes} {env : Env} (he : EnvFor cache env) (op : Op) (hok : OpOk op) (b : Bytes)
    (h : enc cache (controlTerm op) = .ok b) : Reads env b (controlFor op.den) :=
  controlTerm_den op hok ▸ reads_basic he _ (basic_control op hok) b h

/-- C01's guard on a payload: a value of the Rust type within the decoder's limits, floats finite -/
def PayOk (op : Op) : Prop := ∀ m, op.payload = some m → wfT m = true ∧ finiteFloats m = true

/-- C01's validity theorem in the vocabulary of this property -/
theorem reads_wf {cache : List Bytes} {env : Env} (he : EnvFor cache env) (m : Term) (hw : wfT m = true)
    (hfin : finiteFloats m = true) (b : Bytes) (h : enc cache m = .ok b) (hsz : b.length < 4294967296) :
    Reads env b m.den := fun fuel r hf =>
  spec_enc env cache he.refs he.len m b r fuel hw hfin h hsz (by have := tsz_le_length cache m b hw h; omega)

mutual
theorem collectAtoms_wf (t : Term) (hw : wfT t = true) : ∀ a ∈ collectAtoms t, validUtf8 a = true := by
  match t with
  | .list l | .tuple l =>
    simp only [wfT, Bool.and_eq_true] at hw
    simpa [collectAtoms] using collectAtomsL_wf l hw.2
  | .map kvs =>
    simp only [wfT, Bool.and_eq_true] at hw
    simpa [collectAtoms] using collectAtomsKV_wf kvs hw.2
  | .ilist l t =>
    simp only [wfT, Bool.and_eq_true] at hw
    intro a ha
    simp only [collectAtoms, List.mem_append] at ha
    exact ha.elim (collectAtomsL_wf l hw.1.2 a) (collectAtoms_wf t hw.2 a)
  | .ifun _ _ _ _ m _ _ p fr =>
    simp only [wfT, wfPid, Bool.and_eq_true] at hw
    intro a ha
    simp only [collectAtoms, List.mem_cons] at ha
    rcases ha with rfl | rfl | ha
    · exact hw.1.1.1.1.2
    · exact hw.1.2.1.1.1.1
    · exact collectAtomsL_wf fr hw.2 a ha
  | .atom _ | .pid _ | .port .. | .ref .. | .xfun .. | .int _ | .float _ | .bin _ | .bits .. | .str _ | .big .. | .nil =>
    simp only [wfT, wfPid, Bool.and_eq_true] at hw
    simp [collectAtoms, hw]
theorem collectAtomsL_wf (l : List Term) (hw : wfL l = true) : ∀ a ∈ collectAtomsL l, validUtf8 a = true := by
  match l with
  | [] => simp [collectAtomsL]
  | t :: ts =>
    simp only [wfL, Bool.and_eq_true] at hw
    intro a ha
    simp only [collectAtomsL, List.mem_append] at ha
    exact ha.elim (collectAtoms_wf t hw.1 a) (collectAtomsL_wf ts hw.2 a)
theorem collectAtomsKV_wf (l : List (Term × Term)) (hw : wfKV l = true) : ∀ a ∈ collectAtomsKV l, validUtf8 a = true := by
  match l with
  | [] => simp [collectAtomsKV]
  | (k, v) :: r =>
    simp only [wfKV, Bool.and_eq_true] at hw
    intro a ha
    simp only [collectAtomsKV, List.mem_append] at ha
    exact ha.elim (fun h => h.elim (collectAtoms_wf k hw.1.1 a) (collectAtoms_wf v hw.1.2 a)) (collectAtomsKV_wf r hw.2 a)
end

theorem readTerms_ctl (env : Env) (ver : Bool) (cb : Bytes) (c : Value) (hc : Reads env cb c) :
    readTerms env ver (if ver then 131 :: cb else cb) = some (.msg c none) := by
  cases ver
  · simp [readTerms, hc.alone (Nat.le_succ _)]
  · simp [readTerms, hc.alone (Nat.le_add_right _ 2)]

theorem readTerms_msg (env : Env) (ver : Bool) (cb mb : Bytes) (c p : Value) (hc : Reads env cb c) (hp : Reads env mb p) :
    readTerms env ver (if ver then 131 :: cb ++ 131 :: mb else cb ++ mb) = some (.msg c (some p)) := by
  have hm := hp.ne_nil
  cases ver
  · obtain ⟨x, xs, rfl⟩ : ∃ x xs, mb = x :: xs := by cases mb <;> simp_all
    have h1 := hc ((cb ++ x :: xs).length + 1) (x :: xs) (by simp; omega)
    have h2 := hp.alone (fuel := (cb ++ x :: xs).length + 1) (by simp; omega)
    simp only [List.length_append, List.length_cons] at h1 h2
    simp [readTerms, h1, h2]
  · have h1 := hc ((131 :: cb ++ 131 :: mb).length + 1) (131 :: mb) (by simp; omega)
    have h2 := hp.alone (fuel := (131 :: cb ++ 131 :: mb).length + 1) (by simp; omega)
    simp only [List.cons_append, List.length_append, List.length_cons] at h1 h2
    simp [readTerms, h1, h2]

theorem splitFrames_mono : ∀ (f : Nat) (bs : Bytes), bs.length ≤ f → splitFrames f bs = splitFrames bs.length bs := by
  intro f
  induction f using Nat.strongRecOn with
  | _ f ih =>
    intro bs hf
    cases bs with
    | nil => cases f <;> simp [splitFrames]
    | cons b bs =>
      cases f with
      | zero => simp at hf
      | succ f =>
        simp only [List.length_cons]
        rw [splitFrames, splitFrames]
        · cases h4 : rdN 4 (b :: bs) with
          | none => rfl
          | some p =>
            obtain ⟨len, r⟩ := p
            simp only
            cases ht : takeN len r with
            | none => rfl
            | some q =>
              obtain ⟨body, rest⟩ := q
              simp only
              have hl := rdN_length 4 (b :: bs) len r h4
              have hrest : rest.length ≤ r.length := by
                unfold takeN at ht
                split at ht
                · injection ht with ht; injection ht with _ h2; subst h2; simp
                · simp at ht
              simp only [List.length_cons] at hl
              have e1 := ih f (by omega) rest (by simp at hf; omega)
              have e2 := ih bs.length (by simp at hf; omega) rest (by omega)
              rw [e1, e2]
        · simp
        · simp

theorem splitFrames_cons (body rest : Bytes) (hl : body.length < 4294967296) :
    splitFrames (be32 body.length ++ body ++ rest).length (be32 body.length ++ body ++ rest) =
      (splitFrames rest.length rest).map (body :: ·) := by
  have hlen : (be32 body.length ++ body ++ rest).length = (3 + body.length + rest.length) + 1 := by
    simp [be32, beN_length]; omega
  rw [hlen, splitFrames]
  · simp only [List.append_assoc]
    rw [rdN_be32 body.length _ hl]
    simp only [takeN_append]
    rw [splitFrames_mono (3 + body.length + rest.length) rest (by omega)]
    cases splitFrames rest.length rest <;> simp
  · intro h
    have := congrArg List.length h
    simp [be32, beN_length] at this

/-- stated for a stream `bs` that is a variable: with the concrete stream in the goal the kernel unfolds its length
prefix while it checks the rewrite -/
theorem readFrames_of_split (mode : Mode) (cache : Cache) (body rest bs : Bytes)
    (h1 : splitFrames bs.length bs = (splitFrames rest.length rest).map (body :: ·))
    (hne : body ≠ []) (it : Item) (cache' : Cache) (hb : readBody mode cache body = some (it, cache')) :
    readFramesFrom mode cache bs = (readFramesFrom mode cache' rest).map (it :: ·) := by
  simp only [readFramesFrom, h1]
  cases body with
  | nil => exact absurd rfl hne
  | cons x xs => cases splitFrames rest.length rest <;> simp [readBodies, hb]

theorem readFrames_cons (mode : Mode) (cache : Cache) (body rest : Bytes) (hl : body.length < 4294967296)
    (hne : body ≠ []) (it : Item) (cache' : Cache) (hb : readBody mode cache body = some (it, cache')) :
    readFramesFrom mode cache (be32 body.length ++ body ++ rest) = (readFramesFrom mode cache' rest).map (it :: ·) :=
  readFrames_of_split mode cache body rest _ (splitFrames_cons body rest hl) hne it cache' hb

theorem readFrames_nil (mode : Mode) (cache : Cache) : readFramesFrom mode cache [] = some [] := by
  simp [readFramesFrom, splitFrames, readBodies]

theorem readFrames_one (mode : Mode) (cache : Cache) (body : Bytes) (hl : body.length < 4294967296)
    (hne : body ≠ []) (it : Item) (cache' : Cache) (hb : readBody mode cache body = some (it, cache')) :
    readFramesFrom mode cache (be32 body.length ++ body) = some [it] := by
  simpa [readFrames_nil] using readFrames_cons mode cache body [] hl hne it cache' hb

/-- what a successful `distHeader` has checked and written -/
theorem distHeader_ok {order : List Bytes} {terms : List Term} {hb : Bytes} (h : distHeader order terms = .ok hb) :
    orderOk order (collectAtomsL terms) = true ∧ order.length ≤ 255 ∧ (∀ a ∈ order, a.length ≤ u16max) ∧
    ∃ tb, encL order terms = .ok tb ∧
      let long := order.any fun a => decide (a.length > 255)
      hb = 131 :: 68 :: (if order = [] then [0] else
        UInt8.ofNat order.length :: flagBytes order.length long ++ refBytes long 0 order) ++ tb := by
  unfold distHeader at h
  simp only at h
  split at h
  · cases h
  · rename_i hord
    refine ⟨by simpa using hord, ?_⟩
    split at h
    · rename_i he
      cases List.isEmpty_iff.mp he
      cases htb : encL [] terms with
      | error e => simp [htb] at h
      | ok tb =>
        simp only [htb, Except.ok.injEq] at h
        simp [← h]
    · rename_i hne
      split at h
      · cases h
      · split at h
        · cases h
        · rename_i hlen hbig
          have : Gen.C07_HEADER_MAX_ATOMS = 255 := rfl
          cases htb : encL order terms with
          | error e => simp [htb] at h
          | ok tb =>
            simp only [htb, Except.ok.injEq] at h
            exact ⟨by omega, by simpa using hbig, tb, rfl, by simp [← h, mt List.isEmpty_iff.mpr hne]⟩
theorem flagBytes_length (n : Nat) (long : Bool) : (flagBytes n long).length = n / 2 + 1 := by
  simp [flagBytes]

theorem flagByte_toNat (n : Nat) (long : Bool) (k : Nat) :
    (flagByte n long k).toNat = (if 2 * k < n then 8 else 0) + (if 2 * k + 1 < n then 128 else 0) +
      (if long && k == n / 2 then (if n % 2 = 0 then 1 else 16) else 0) := by
  unfold flagByte
  rw [UInt8.toNat_ofNat']
  apply Nat.mod_eq_of_lt
  split <;> split <;> split <;> (try split) <;> omega

theorem nibble_flagBytes (n : Nat) (long : Bool) (i : Nat) (hi : i ≤ n) :
    nibble (flagBytes n long) i =
      if i % 2 = 0 then (flagByte n long (i / 2)).toNat % 16 else (flagByte n long (i / 2)).toNat / 16 := by
  unfold nibble flagBytes
  have : i / 2 < n / 2 + 1 := by omega
  simp [this]

theorem nibble_new (n : Nat) (long : Bool) (i : Nat) (hi : i < n) : nibble (flagBytes n long) i = 8 := by
  rw [nibble_flagBytes n long i (by omega), flagByte_toNat]
  by_cases hl : long = true <;> by_cases hk : (i / 2 == n / 2) = true <;> simp [hl, hk] <;> (try simp at hk) <;>
    (split <;> split <;> (try split) <;> (try split) <;> omega)

theorem nibble_long (n : Nat) (long : Bool) : nibble (flagBytes n long) n % 2 = if long then 1 else 0 := by
  rw [nibble_flagBytes n long n (by omega), flagByte_toNat]
  cases long <;> simp <;> (split <;> (try split) <;> (try split) <;> omega)

theorem readRefs_new (flags : Bytes) (long : Bool) : ∀ (as : List Bytes) (i : Nat) (cache : Cache) (rest : Bytes),
    (∀ j, j < as.length → nibble flags (i + j) = 8) →
    (∀ a ∈ as, validUtf8 a = true ∧ a.length < (if long then 65536 else 256)) →
    ∃ cache', readRefs flags long as.length i cache (refBytes long i as ++ rest) = some (as.map cps, cache', rest)
  | [], i, cache, rest, _, _ => ⟨cache, by simp [readRefs, refBytes]⟩
  | a :: as, i, cache, rest, hn, ha => by
    have haa := ha a (by simp)
    obtain ⟨c', hc'⟩ := readRefs_new flags long as (i + 1) (cache.set (0, i % 256) (cps a)) rest
      (fun j hj => by rw [← hn (j + 1) (by simp; omega)]; congr 1; omega)
      (fun b hb => ha b (by simp [hb]))
    refine ⟨c', ?_⟩
    have hlen : rdN (if long = true then 2 else 1)
          ((if long = true then be16 a.length else be8 a.length) ++ (a ++ (refBytes long (i + 1) as ++ rest))) =
        some (a.length, a ++ (refBytes long (i + 1) as ++ rest)) := by
      cases long
      · exact rdN_be8 _ _ haa.2
      · exact rdN_be16 _ _ haa.2
    simp [readRefs, refBytes, show nibble flags i = 8 by simpa using hn 0 (by simp), rdN, hlen, takeN_append,
      utf8_cps a haa.1, hc']

/-- what the independent reader makes of the distribution header the send side writes: it accepts it, learns exactly
the atoms of the header in order, and goes on to the terms -/
theorem readBody_distHeader (order : List Bytes) (terms : List Term) (bs : Bytes) (h : distHeader order terms = .ok bs)
    (hu : ∀ a ∈ order, validUtf8 a = true) (cache : Cache) :
    ∃ env cache' tb, EnvFor order env ∧ encL order terms = .ok tb ∧
      readBody .distHeader cache bs = (readTerms env false tb).map (fun it => (it, cache')) := by
  obtain ⟨_, hlen, hbig, tb, htb, rfl⟩ := distHeader_ok h
  by_cases ho : order = []
  · subst ho
    exact ⟨{}, cache, tb, envFor_nil, htb, by
      simp [readBody, show rdN 1 ((0 : UInt8) :: tb) = some (0, tb) from rdN_byte 0 tb (by omega)]⟩
  · generalize hlong : order.any (fun a => decide (a.length > 255)) = long
    have has : ∀ a ∈ order, validUtf8 a = true ∧ a.length < (if long then 65536 else 256) := by
      intro a ha
      refine ⟨hu a ha, ?_⟩
      cases long
      · have := List.any_eq_false.mp hlong a ha
        simp at this ⊢
        omega
      · have := hbig a ha
        simp [u16max] at this ⊢
        omega
    obtain ⟨c', hc'⟩ := readRefs_new (flagBytes order.length long) long order 0 cache tb
      (fun j hj => by simpa using nibble_new order.length long j hj) has
    obtain ⟨m, hm⟩ : ∃ m, order.length = m + 1 := ⟨order.length - 1, by have := List.length_pos_iff.mpr ho; omega⟩
    have e2 := takeN_append (flagBytes order.length long) (refBytes long 0 order ++ tb)
    have e3 : decide (nibble (flagBytes order.length long) order.length % 2 = 1) = long := by
      rw [nibble_long]; cases long <;> simp
    rw [flagBytes_length] at e2
    refine ⟨{ refs := order.map cps }, c', tb, ⟨by omega, rfl⟩, htb, ?_⟩
    simp only [ho, ↓reduceIte, readBody, List.cons_append, List.append_assoc, rdN_byte _ _ (show order.length < 256 by omega)]
    rw [hm] at e2 e3 hc' ⊢
    simp only [e2, e3, hc']

/-- the write sequences the translator read off the source are the ones the protocol's frame needs -/
theorem ptWrites_payload (n : Nat) (ce me : Bytes) : ptWrites true n ce me = [be32 n, [112], ce, me] := by
  simp [ptWrites, writesFromSteps, writeOfStep, Gen.C07_SEND_BRANCHES, Gen.C07_PASS_THROUGH]

theorem ptWrites_control (n : Nat) (ce me : Bytes) : ptWrites false n ce me = [be32 n, [112], ce] := by
  simp [ptWrites, writesFromSteps, writeOfStep, Gen.C07_SEND_BRANCHES, Gen.C07_PASS_THROUGH]

theorem hdrWrites_eq (p : Bool) (enc : Bytes) : hdrWrites p enc = [be32 enc.length ++ enc] := by
  cases p <;> simp [hdrWrites, bufOf, Gen.C07_SEND_BRANCHES, Gen.C07_HEADER_BUFFER]

theorem sendOp_ok {c : Conn} {order : List Bytes} {op : Op} {ws : List Bytes} (h : sendOp c order op = .ok ws) :
    c.state = .connected ∧ sendControlMessage c order op.control op.payload = .ok ws := by
  unfold sendOp at h
  split at h
  · cases h
  · rename_i hst
    exact ⟨by simpa using hst, h⟩

/-- an `Ok` behind the two checks that precede the first write -/
theorem checks_ok {big : Prop} [Decidable big] {c : Conn} {x ws : List Bytes}
    (h : (if big then .error .tooLarge else if !c.stream then .error .noStream else .ok x : Except Err (List Bytes)) = .ok ws) :
    ¬ big ∧ c.stream = true ∧ ws = x := by
  split at h
  · cases h
  · split at h
    · cases h
    · rename_i h1 h2
      cases h
      exact ⟨h1, by simpa using h2, rfl⟩

theorem sendOp_pt_shape (c : Conn) (order : List Bytes) (op : Op) (ws : List Bytes)
    (h : sendOp c order op = .ok ws) (hpt : usePassThrough c = true) :
    c.state = .connected ∧ c.stream = true ∧
    ∃ ce, encode (controlTerm op) = .ok ce ∧
      ((op.payload = none ∧ ws = [be32 (1 + ce.length), [112], ce] ∧ 1 + ce.length < 2 ^ 32) ∨
       (∃ m me, op.payload = some m ∧ encode m = .ok me ∧ ws = [be32 (1 + ce.length + me.length), [112], ce, me] ∧
          1 + ce.length + me.length < 2 ^ 32)) := by
  obtain ⟨hst, h⟩ := sendOp_ok h
  have hmax : u32max = 4294967295 := rfl
  simp only [sendControlMessage, toTerm_control, hpt, ↓reduceIte, ptWrites_payload, ptWrites_control] at h
  cases hce : encode (controlTerm op) with
  | error e => simp [hce] at h
  | ok ce =>
    cases hp : op.payload with
    | none =>
      simp only [hce, hp] at h
      obtain ⟨hsz, hs, rfl⟩ := checks_ok h
      exact ⟨hst, hs, ce, rfl, .inl ⟨rfl, rfl, by omega⟩⟩
    | some m =>
      cases hme : encode m with
      | error e => simp [hce, hp, hme] at h
      | ok me =>
        simp only [hce, hp, hme] at h
        obtain ⟨hsz, hs, rfl⟩ := checks_ok h
        exact ⟨hst, hs, ce, rfl, .inr ⟨m, me, rfl, hme, rfl, by omega⟩⟩

theorem sendOp_hdr_shape (c : Conn) (order : List Bytes) (op : Op) (ws : List Bytes)
    (h : sendOp c order op = .ok ws) (hpt : usePassThrough c = false) :
    c.state = .connected ∧ c.stream = true ∧
    ∃ hb, distHeader order (controlTerm op :: op.payload.toList) = .ok hb ∧ ws = [be32 hb.length ++ hb] ∧
      hb.length < 2 ^ 32 := by
  obtain ⟨hst, h⟩ := sendOp_ok h
  have hmax : u32max = 4294967295 := rfl
  cases hp : op.payload <;>
    simp only [sendControlMessage, toTerm_control, hpt, hp, Bool.false_eq_true, ↓reduceIte, hdrWrites_eq] at h
  all_goals
    split at h
    · cases h
    · rename_i hb hd
      obtain ⟨hsz, hs, rfl⟩ := checks_ok h
      exact ⟨hst, hs, hb, hd, rfl, by omega⟩

theorem itemFor_den (op : Op) : itemFor op.den = .msg (controlFor op.den) (op.payload.map Term.den) := by
  cases op <;> rfl

theorem pt_frame (c : Conn) (order : List Bytes) (op : Op) (ws : List Bytes)
    (h : sendOp c order op = .ok ws) (hpt : usePassThrough c = true) (hok : OpOk op) (hpay : PayOk op) :
    ∃ body, ws.flatten = be32 body.length ++ body ∧ body.length < 4294967296 ∧ body ≠ [] ∧
      ∀ cache, readBody .passThrough cache body = some (itemFor op.den, cache) := by
  obtain ⟨_, _, ce, hce, hsh⟩ := sendOp_pt_shape c order op ws h hpt
  obtain ⟨cb, hcb, rfl⟩ := encode_ok hce
  have hc := reads_control envFor_nil op hok cb hcb
  rcases hsh with ⟨hp, rfl, hsz⟩ | ⟨m, me, hp, hme, rfl, hsz⟩
  · refine ⟨112 :: 131 :: cb, by simp; congr 1; omega, by simp at hsz ⊢; omega, by simp, fun cache => ?_⟩
    have := by simpa using readTerms_ctl {} true cb _ hc
    simp [readBody, this, itemFor_den, hp]
  · obtain ⟨mb, hmb, rfl⟩ := encode_ok hme
    have hm := reads_wf envFor_nil m (hpay m hp).1 (hpay m hp).2 mb hmb (by simp at hsz; omega)
    refine ⟨112 :: (131 :: cb ++ 131 :: mb), by simp; congr 1; omega, by simp at hsz ⊢; omega, by simp,
      fun cache => ?_⟩
    have := by simpa using readTerms_msg {} true cb mb _ _ hc hm
    simp [readBody, this, itemFor_den, hp]

theorem order_subset {order atoms : List Bytes} (h : orderOk order atoms = true) : ∀ a ∈ order, a ∈ atoms := by
  intro a ha
  simp only [orderOk, Bool.and_eq_true, List.all_eq_true] at h
  simpa using h.1.1 a ha

theorem hdr_frame (c : Conn) (order : List Bytes) (op : Op) (ws : List Bytes)
    (h : sendOp c order op = .ok ws) (hpt : usePassThrough c = false) (hok : OpOk op) (hpay : PayOk op) :
    ∃ body, ws.flatten = be32 body.length ++ body ∧ body.length < 4294967296 ∧ body ≠ [] ∧
      ∀ cache, ∃ cache', readBody .distHeader cache body = some (itemFor op.den, cache') := by
  obtain ⟨_, _, hb, hd, rfl, hsz⟩ := sendOp_hdr_shape c order op ws h hpt
  obtain ⟨hord, _, _, tb, htb, hbe⟩ := distHeader_ok hd
  have hu : ∀ a ∈ order, validUtf8 a = true := by
    intro a ha
    have hmem := order_subset hord a ha
    simp only [collectAtomsL, List.mem_append] at hmem
    rcases hmem with h1 | h2
    · exact basic_atoms_utf8 (basic_control op hok) a h1
    · cases hp : op.payload with
      | none => simp [hp, collectAtomsL] at h2
      | some m => exact collectAtoms_wf m (hpay m hp).1 a (by simpa [hp, collectAtomsL] using h2)
  refine ⟨hb, by simp, by omega, by simp [hbe], fun cache => ?_⟩
  obtain ⟨env, cache', tb', henv, htb', hrb⟩ := readBody_distHeader order _ hb hd hu cache
  cases htb.symm.trans htb'
  refine ⟨cache', ?_⟩
  rw [hrb]
  obtain ⟨cb, pb, hcb, hpb, rfl⟩ := encL_cons_ok htb
  have hc := reads_control henv op hok cb hcb
  cases hp : op.payload with
  | none =>
    cases hp ▸ hpb
    have := by simpa using readTerms_ctl env false cb _ hc
    simp [this, itemFor_den, hp]
  | some m =>
    obtain ⟨mb, _, hmb, he, rfl⟩ := encL_cons_ok (hp ▸ hpb)
    cases he
    have hm := reads_wf henv m (hpay m hp).1 (hpay m hp).2 mb hmb (by
      have := congrArg List.length hbe
      simp at this
      omega)
    have := by simpa using readTerms_msg env false cb mb _ _ hc hm
    simp [this, itemFor_den, hp]

/-- the framing mode a connection uses for what it sends -/
def modeOf (c : Conn) : Mode := if usePassThrough c then .passThrough else .distHeader

/-- in whichever mode the connection uses: the bytes of a successful operation are one length-prefixed body that the
independent reader, with any atom cache, reads as the operation's item -/
theorem op_frame (c : Conn) (order : List Bytes) (op : Op) (ws : List Bytes)
    (h : sendOp c order op = .ok ws) (hok : OpOk op) (hpay : PayOk op) :
    ∃ body, ws.flatten = be32 body.length ++ body ∧ body.length < 4294967296 ∧ body ≠ [] ∧
      ∀ cache, ∃ cache', readBody (modeOf c) cache body = some (itemFor op.den, cache') := by
  cases hpt : usePassThrough c with
  | true =>
    obtain ⟨body, h1, h2, h3, h4⟩ := pt_frame c order op ws h hpt hok hpay
    exact ⟨body, h1, h2, h3, fun cache => ⟨cache, by simpa [modeOf, hpt] using h4 cache⟩⟩
  | false => simpa [modeOf, hpt] using hdr_frame c order op ws h hpt hok hpay

/-- a pid whose node-local bytes are any 8-byte hash and the plain encoding of the same pid (what the decoder preserves
when the peer wrapped a canonically encoded pid, and what the harness generates) is coherent -/
theorem pidOk_local (p : PidF) (hash inner : Bytes) (hh : hash.length = 8) (hu : validUtf8 p.node = true)
    (h1 : p.id < 4294967296) (h2 : p.serial < 4294967296) (h3 : p.creation < 4294967296)
    (hi : encPid [] { p with loc := none } = .ok inner) (hl : p.loc = some (hash ++ inner)) : PidOk p :=
  ⟨hu, h1, h2, h3, fun l h => by
    cases hl.symm.trans h
    refine ⟨by simp [hh], fun env fuel r => ?_⟩
    rw [← hh, List.drop_left]
    exact parse_encPid env { p with loc := none } inner r fuel hu h1 h2 h3 rfl hi (fun i hi => by simp [indexOf?] at hi)⟩

end Edp.Send
