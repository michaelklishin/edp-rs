import EdpVerif.Lemmas.Rpc
/-! Further invariants of `Impl/Rpc.lean`: the connection table and stopped receivers (`ConnInv`), calls nobody answers
(`Unans`); the key text as the source builds it. -/
namespace Edp.Impl.Rpc
open Edp.Impl.PidAlloc (Pid Sh Res alloc seqState seqAlloc MAXP U32)

variable {s s' : St} {e : Step} {a0 : Sh}

/-- a connection id is out of the table exactly when its receiver has stopped -/
def ConnInv (s : St) : Prop := ∀ r, s.conns r = false ↔ s.recv r = .stopped

theorem conn_init (a : Sh) (n : Nat) : ConnInv (St.init a n) := by
  intro r; simp [St.init]

theorem conn_step (h : ConnInv s) (hn : Next s e s') : ConnInv s' := by
  intro r
  have := h r
  clear h
  cases hn <;> simp only [upd_apply, St.setCaller, removeKey_recv, removeKey_conns]
  all_goals grind

theorem conn_run (σ : List Step) (h : ConnInv s) : ConnInv (run s σ) :=
  run_induct (P := ConnInv) σ s h (fun _ _ _ _ h hn => conn_step h hn)

theorem stopped_step (hn : Next s e s') (r : Nat) (h : s.recv r = .stopped) :
    s'.recv r = .stopped := by
  rcases recv_step hn r with h' | ⟨_, _, hi, _⟩ | ⟨_, _, _, hr, _⟩ | ⟨hne, _⟩
  · rw [h', h]
  · rw [h] at hi; cases hi
  · rw [h] at hr; cases hr
  · exact absurd h hne

theorem stopped_run (σ : List Step) (s : St) (r : Nat) (h : s.recv r = .stopped) : (run s σ).recv r = .stopped :=
  run_induct (P := fun t => t.recv r = .stopped) σ s h (fun _ _ _ _ h hn => stopped_step hn r h)

/-- the log of inbound messages grows only by `rStart` -/
theorem inbox_len_step {s s' : St} {e : Step} (hs : step s e = some s') (h : ∀ r msg, e ≠ .rStart r msg) :
    s'.inbox = s.inbox :=
  (inbox_step (Next.of_step hs)).resolve_right (fun ⟨r, msg, he, _⟩ => h r msg he)

/-- call `i` waits (or is on its timeout path, or is over by its timer or by being dropped), and nothing addressed to
its key is in flight: no receiver is routing a message to its key or holds its sender, its channel is empty -/
structure Unans (s : St) (i : Nat) : Prop where
  noRoute : ∀ r msg m, s.recv r = .routing msg m → msg.pid ≠ (s.callers i).key
  noHold : ∀ r m b, s.recv r ≠ .holding i m b
  pcs : ((s.callers i).pc = .waiting ∧ (s.callers i).val = none) ∨ (s.callers i).pc = .timedOut ∨
        (s.callers i).pc = .exiting .timeout ∨
        ((s.callers i).pc = .done ∧ ((s.callers i).out = some .timeout ∨ (s.callers i).out = some .dropped))

theorem Unans.started {s : St} {i : Nat} (h : Unans s i) : (s.callers i).pc ≠ .start := by
  rcases h.pcs with ⟨h, _⟩ | h | h | ⟨h, _⟩ <;> rw [h] <;> simp

theorem unans_step {i : Nat} (he : EntryInv s) (hd : DoneInv s) (ht : TxInv s) (h : Unans s i)
    (hn : Next s e s') (hne : ∀ r msg, e = .rStart r msg → msg.pid ≠ (s.callers i).key) : Unans s' i where
  noRoute := by
    rw [(started_step hn i h.started).1]
    intro r msg m hr
    rcases recv_routing hn hr with hr | ⟨he, _⟩
    · exact h.noRoute r msg m hr
    · exact hne r msg he
  -- a receiver takes the sender of the call whose key the message it is routing carries: not this call's
  noHold := by
    intro r m b hr
    rcases recv_holding hn hr with hr | ⟨msg, hro, hl, _⟩
    · exact h.noHold r m b hr
    · exact h.noRoute r msg m hro (he _ _ (lookupKey_some hl)).1.symm
  pcs := by
    have h2 := h.noHold
    have h3 := h.pcs
    have htx := ht.tx i
    have hdi := hd i
    clear h ht hd
    cases hn <;>
      simp only [upd_apply, St.setCaller, apply_ite Caller.pc, apply_ite Caller.out, apply_ite Caller.val,
        removeKey_callers]
    all_goals grind [Pc.over]

theorem unans_run (τ : List Step) (hi : Inv a0 s) (ht : TxInv s)
    (hb : (run s τ).nalloc ≤ MAXP * U32) (i : Nat) (h : Unans s i)
    (hτ : ∀ r msg, Step.rStart r msg ∈ τ → msg.pid ≠ (s.callers i).key) : Unans (run s τ) i := by
  refine ((run_induct (P := fun t => Inv a0 t ∧ (t.nalloc ≤ MAXP * U32 →
    TxInv t ∧ Unans t i ∧ (t.callers i).key = (s.callers i).key)) τ s ⟨hi, fun _ => ⟨ht, h, rfl⟩⟩ ?_).2 hb).2.1
  intro t t' e he ⟨hi, hP⟩ hn
  refine ⟨inv_step hi hn, fun hb' => ?_⟩
  have hb := Nat.le_trans (nalloc_step hn) hb'
  obtain ⟨ht, hu, hk⟩ := hP hb
  refine ⟨tx_step hb hi.entry hi.done hi.alloc ht hn, unans_step hi.entry hi.done ht hu hn ?_,
    (started_step hn i hu.started).1.trans hk⟩
  rintro r msg rfl
  rw [hk]
  exact hτ r msg he

/-- the format string and the field list are those node.rs has at both places that build a key
(`Gen.RPC_KEY_FORMAT_CALL`, `Gen.RPC_KEY_FORMAT_ROUTE`) -/
theorem renderFmt_key (p : Pid) :
    keyCharsFrom ("{}.{}.{}", ["id", "serial", "creation"]) p = keyChars p := by
  have h : ("{}.{}.{}" : String).toList = ['{', '}', '.', '{', '}', '.', '{', '}'] := by decide
  simp [keyCharsFrom, h, renderFmt, Pid.field, keyChars]

end Edp.Impl.Rpc
