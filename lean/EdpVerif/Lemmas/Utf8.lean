import EdpVerif.Basic.Utf8
/-! `utf8Decode` on one character: its equation for each class of lead byte, and one scalar value encoded and decoded. -/
namespace Edp

theorem isCont_iff (b : UInt8) : isCont b = true ↔ 128 ≤ b.toNat ∧ b.toNat ≤ 191 := by
  simp only [isCont, beq_iff_eq]; omega

section
variable {b0 b1 b2 b3 : UInt8} {r : Bytes} {c : Nat}

theorem utf8Decode_one (h0 : b0.toNat < 128) : utf8Decode (b0 :: r) = (utf8Decode r).map (b0.toNat :: ·) := by
  conv => lhs; unfold utf8Decode
  simp only [h0, if_true]

theorem utf8Decode_two (h0 : 194 ≤ b0.toNat ∧ b0.toNat ≤ 223) (h1 : isCont b1 = true)
    (hc : b0.toNat % 32 * 64 + b1.toNat % 64 = c) : utf8Decode (b0 :: b1 :: r) = (utf8Decode r).map (c :: ·) := by
  rw [utf8Decode]
  simp only [show ¬ b0.toNat < 128 by omega, h0, h1, hc, and_self, if_true, if_false]

theorem utf8Decode_three (h0 : 224 ≤ b0.toNat ∧ b0.toNat ≤ 239) (h1 : isCont b1 = true) (h2 : isCont b2 = true)
    (hc : b0.toNat % 16 * 4096 + b1.toNat % 64 * 64 + b2.toNat % 64 = c) (hlo : 2048 ≤ c)
    (hs : ¬ (55296 ≤ c ∧ c ≤ 57343)) : utf8Decode (b0 :: b1 :: b2 :: r) = (utf8Decode r).map (c :: ·) := by
  rw [utf8Decode]
  simp [show ¬ b0.toNat < 128 by omega, show ¬ (194 ≤ b0.toNat ∧ b0.toNat ≤ 223) by omega, h0, h1, h2, hc, hlo, hs]

theorem utf8Decode_four (h0 : 240 ≤ b0.toNat ∧ b0.toNat ≤ 244) (h1 : isCont b1 = true) (h2 : isCont b2 = true)
    (h3 : isCont b3 = true)
    (hc : b0.toNat % 8 * 262144 + b1.toNat % 64 * 4096 + b2.toNat % 64 * 64 + b3.toNat % 64 = c)
    (hlo : 65536 ≤ c) (hhi : c ≤ 1114111) :
    utf8Decode (b0 :: b1 :: b2 :: b3 :: r) = (utf8Decode r).map (c :: ·) := by
  rw [utf8Decode]
  simp [show ¬ b0.toNat < 128 by omega, show ¬ (194 ≤ b0.toNat ∧ b0.toNat ≤ 223) by omega,
    show ¬ (224 ≤ b0.toNat ∧ b0.toNat ≤ 239) by omega, h0, h1, h2, h3, hc, hlo, hhi]
end

/-- what `utf8Decode` accepts, one character at a time: the decoder's own cases with the refused ones left out -/
theorem utf8Decode_cases {P : Bytes → Prop} (nil : P [])
    (one : ∀ b0 r, b0.toNat < 128 → (utf8Decode r).isSome = true → P (b0 :: r))
    (two : ∀ b0 b1 r, 194 ≤ b0.toNat ∧ b0.toNat ≤ 223 → isCont b1 = true → (utf8Decode r).isSome = true →
      P (b0 :: b1 :: r))
    (three : ∀ b0 b1 b2 r c, 224 ≤ b0.toNat ∧ b0.toNat ≤ 239 → isCont b1 = true → isCont b2 = true →
      b0.toNat % 16 * 4096 + b1.toNat % 64 * 64 + b2.toNat % 64 = c → 2048 ≤ c → ¬ (55296 ≤ c ∧ c ≤ 57343) →
      (utf8Decode r).isSome = true → P (b0 :: b1 :: b2 :: r))
    (four : ∀ b0 b1 b2 b3 r c, 240 ≤ b0.toNat ∧ b0.toNat ≤ 244 → isCont b1 = true → isCont b2 = true →
      isCont b3 = true → b0.toNat % 8 * 262144 + b1.toNat % 64 * 4096 + b2.toNat % 64 * 64 + b3.toNat % 64 = c →
      65536 ≤ c → c ≤ 1114111 → (utf8Decode r).isSome = true → P (b0 :: b1 :: b2 :: b3 :: r))
    (b : Bytes) : (utf8Decode b).isSome = true → P b := by
  fun_cases utf8Decode b <;> intro hv <;> (try cases hv; done) <;> (try rw [Option.isSome_map] at hv)
  · exact nil
  · exact one _ _ ‹_› hv
  · exact two _ _ _ ‹_ ∧ _› ‹_› hv
  · rename_i hc
    simp only [Bool.and_eq_true, decide_eq_true_eq, Bool.not_eq_true', Bool.and_eq_false_imp,
      decide_eq_false_iff_not, ← not_and] at hc
    exact three _ _ _ _ _ ‹_ ∧ _› hc.1.1.1 hc.1.1.2 rfl hc.1.2 hc.2 hv
  · rename_i hc
    simp only [Bool.and_eq_true, decide_eq_true_eq] at hc
    exact four _ _ _ _ _ _ ‹_ ∧ _› hc.1.1.1.1 hc.1.1.1.2 hc.1.1.2 rfl hc.1.2 hc.2 hv

/-- the continuation byte `char::encode_utf8` makes of the low six bits of `t` -/
theorem contByte (t : Nat) :
    isCont (UInt8.ofNat (128 + t % 64)) = true ∧ (UInt8.ofNat (128 + t % 64)).toNat % 64 = t % 64 := by
  simp only [isCont, UInt8.toNat_ofNat', beq_iff_eq]; omega

/-- one scalar value encoded, in front of any bytes -/
theorem utf8Decode_encodeCp_append (c : Nat) (h : c < 55296 ∨ 57343 < c ∧ c < 1114112) (r : Bytes) :
    utf8Decode (utf8EncodeCp c ++ r) = (utf8Decode r).map (c :: ·) := by
  unfold utf8EncodeCp
  split
  · have l := UInt8.toNat_ofNat_of_lt' (show c < 256 by omega)
    rw [List.singleton_append, utf8Decode_one (by omega), l]
  split
  · have l := UInt8.toNat_ofNat_of_lt' (show 192 + c / 64 < 256 by omega)
    exact utf8Decode_two (by omega) (contByte c).1 (by rw [l, (contByte c).2]; omega)
  split
  · have l := UInt8.toNat_ofNat_of_lt' (show 224 + c / 4096 < 256 by omega)
    exact utf8Decode_three (by omega) (contByte (c / 64)).1 (contByte c).1
      (by rw [l, (contByte (c / 64)).2, (contByte c).2]; omega) (by omega) (by omega)
  · have l := UInt8.toNat_ofNat_of_lt' (show 240 + c / 262144 < 256 by omega)
    exact utf8Decode_four (by omega) (contByte (c / 4096)).1 (contByte (c / 64)).1 (contByte c).1
      (by rw [l, (contByte (c / 4096)).2, (contByte (c / 64)).2, (contByte c).2]; omega) (by omega) (by omega)

theorem utf8Decode_encodeCp (c : Nat) (h : c < 55296 ∨ 57343 < c ∧ c < 1114112) :
    utf8Decode (utf8EncodeCp c) = some [c] := by
  simpa [utf8Decode] using utf8Decode_encodeCp_append c h []

end Edp
