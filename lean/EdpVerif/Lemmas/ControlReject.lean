import EdpVerif.Lemmas.Control
/-! C08: an unlink message whose id element does not stand for an integer `0 ≤ id < 2^64` is REJECTED (an error, not a
message and not a panic). -/
namespace Edp.Control
open Edp

/-- the elements are Rust values: `OwnedTerm::Integer` carries an `i64` -/
def IntsAreI64 (els : List Term) : Prop := ∀ e ∈ els, ∀ i : Int, e = .int i → -2 ^ 63 ≤ i ∧ i < 2 ^ 63

theorem unlinkId_some_range {e : Term} {n : Nat} (h : unlinkIdFromTerm e = some n)
    (hi : ∀ i : Int, e = .int i → i < 2 ^ 63) : n < 2 ^ 64 := by
  obtain ⟨h1, h2⟩ := unlinkId_some_iff.mp h
  cases e <;> simp only [intOf, reduceCtorEq, Option.some.injEq] at h1
  · have := hi _ rfl
    omega
  · exact h2 _ _ rfl

theorem evalSrc_bad {els : List Term} {s : Src} (hw : IntsAreI64 els) (hi : s.idx < els.length)
    (hg : srcIdOk els s = false) : evalSrc els s = .error .err := by
  cases s with
  | elem i => simp [srcIdOk] at hg
  | uid i =>
    simp only [Src.idx] at hi
    simp only [srcIdOk, List.getElem?_eq_getElem hi] at hg
    simp only [evalSrc, List.getElem?_eq_getElem hi]
    cases hu : unlinkIdFromTerm els[i] with
    | none => rfl
    | some n =>
      have h2 := unlinkId_some_range hu (fun j hj => (hw els[i] (List.getElem_mem hi) j hj).2)
      simp only [unlinkId_intOf hu, decide_eq_false_iff_not] at hg
      omega

theorem evalFields_bad (els : List Term) (hw : IntsAreI64 els) (flds : List (String × Src))
    (hidx : ∀ p ∈ flds, p.2.idx < els.length) (hbad : ∃ p ∈ flds, srcIdOk els p.2 = false) :
    evalFields els flds = .error .err := by
  have hsp := evalFields_spec els flds
  obtain ⟨p, hp, hbad⟩ := hbad
  cases he : evalFields els flds with
  | ok fs =>
    rw [he] at hsp
    obtain ⟨v, hv⟩ := hsp p hp
    cases (evalSrc_bad hw (hidx p hp) hbad).symm.trans hv
  | error e =>
    cases e with
    | err => rfl
    | panic => exact absurd he (evalFields_no_panic hidx)

theorem bad_id_rejected {tbl : Table} (h : TableOK tbl) (raw : Int) (rest : List Term) (h0 : 0 ≤ raw) (h255 : raw ≤ 255)
    (hw : IntsAreI64 rest) (hg : idGuard tbl (.tuple (.int raw :: rest)) = false) :
    parse tbl (.tuple (.int raw :: rest)) = .error .err := by
  have hw' : IntsAreI64 (.int raw :: rest) := by
    intro e he i hi
    rcases List.mem_cons.mp he with h1 | h1
    · cases h1.symm.trans hi
      omega
    · exact hw e h1 i hi
  simp only [idGuard] at hg
  simp only [parse, h0, h255, and_self, if_true]
  cases hsel : selectArm tbl (fromU8 tbl raw.toNat) (rest.length + 1) with
  | none => simp [hsel] at hg
  | some a =>
    simp only [hsel, List.all_eq_false] at hg ⊢
    obtain ⟨p, hp, hv⟩ := hg
    rw [evalFields_bad (.int raw :: rest) hw' a.fields (arm_ok h hsel).1 ⟨p, hp, by simpa using hv⟩]

end Edp.Control
