import EdpVerif.Impl.Elixir
import EdpVerif.Lemmas.Utf8
/-! C20: `String::from_utf8_lossy` is the identity on valid UTF-8 (so every Rust `String` satisfies `IsStr`). -/
namespace Edp.Ex
open Edp

/-- a three-byte sequence `from_utf8` accepts (no overlong form, no surrogate) has its second byte in the range of
Unicode table 3-7 -/
theorem seqInfo_three {n0 n1 n2 : Nat} (h : 224 ≤ n0 ∧ n0 ≤ 239) (h1 : 128 ≤ n1 ∧ n1 ≤ 191)
    (c3 : 2048 ≤ n0 % 16 * 4096 + n1 % 64 * 64 + n2 % 64)
    (c4 : 55296 ≤ n0 % 16 * 4096 + n1 % 64 * 64 + n2 % 64 → ¬ n0 % 16 * 4096 + n1 % 64 * 64 + n2 % 64 ≤ 57343) :
    ∃ lo hi, seqInfo n0 = some (3, lo, hi) ∧ lo ≤ n1 ∧ n1 ≤ hi := by
  unfold seqInfo
  rw [if_neg (by omega)]
  by_cases e0 : n0 = 224
  · exact ⟨160, 191, by rw [if_pos e0], by omega, by omega⟩
  · rw [if_neg e0]
    by_cases e1 : n0 = 237
    · exact ⟨128, 159, by rw [if_neg (by omega), if_pos e1], by omega, by omega⟩
    · exact ⟨128, 191, by rw [if_pos (by omega)], by omega, by omega⟩

/-- the same for a four-byte sequence (at most U+10FFFF) -/
theorem seqInfo_four {n0 n1 n2 n3 : Nat} (h : 240 ≤ n0 ∧ n0 ≤ 244) (h1 : 128 ≤ n1 ∧ n1 ≤ 191)
    (c4 : 65536 ≤ n0 % 8 * 262144 + n1 % 64 * 4096 + n2 % 64 * 64 + n3 % 64)
    (c5 : n0 % 8 * 262144 + n1 % 64 * 4096 + n2 % 64 * 64 + n3 % 64 ≤ 1114111) :
    ∃ lo hi, seqInfo n0 = some (4, lo, hi) ∧ lo ≤ n1 ∧ n1 ≤ hi := by
  unfold seqInfo
  rw [if_neg (by omega), if_neg (by omega), if_neg (by omega), if_neg (by omega)]
  by_cases e0 : n0 = 240
  · exact ⟨144, 191, by rw [if_pos e0], by omega, by omega⟩
  · rw [if_neg e0]
    by_cases e1 : n0 = 244
    · exact ⟨128, 143, by rw [if_neg (by omega), if_pos e1], by omega, by omega⟩
    · exact ⟨128, 191, by rw [if_pos (by omega)], by omega, by omega⟩

theorem lossyGo_valid : ∀ (fuel : Nat) (b : Bytes), b.length ≤ fuel → (utf8Decode b).isSome = true → lossyGo fuel b = b := by
  intro fuel
  induction fuel with
  | zero =>
    intro b hl _
    cases b with
    | nil => rfl
    | cons _ _ => simp at hl
  | succ fuel ih =>
    intro b hl hv
    revert hl
    refine utf8Decode_cases (P := fun b => b.length ≤ fuel + 1 → lossyGo (fuel + 1) b = b) ?_ ?_ ?_ ?_ ?_ b hv
    · intro _; rfl
    · intro b0 r h0 hv hl
      simp only [List.length_cons] at hl
      simp only [lossyGo, h0, if_true]
      rw [ih r (by omega) hv]
    · intro b0 b1 r h0 c1 hv hl
      simp only [List.length_cons] at hl
      have hs : seqInfo b0.toNat = some (2, 128, 191) := if_pos h0
      simp only [lossyGo, if_neg (show ¬ b0.toNat < 128 by omega), hs, (isCont_iff b1).mp c1, and_self,
        not_true_eq_false, if_false, if_true]
      rw [ih r (by omega) hv]
    · intro b0 b1 b2 r c h0 c1 c2 hc c3 c4 hv hl
      subst hc
      simp only [List.length_cons] at hl
      obtain ⟨lo, hi, hs, hlo, hhi⟩ := seqInfo_three h0 ((isCont_iff b1).mp c1) c3 (fun h1 h2 => c4 ⟨h1, h2⟩)
      simp only [lossyGo, if_neg (show ¬ b0.toNat < 128 by omega), hs, hlo, hhi, and_self, not_true_eq_false, if_false,
        c2, Bool.not_true, Bool.false_eq_true, show ¬ (3 = 2) by omega, if_true]
      rw [ih r (by omega) hv]
    · intro b0 b1 b2 b3 r c h0 c1 c2 c3 hc c4 c5 hv hl
      subst hc
      simp only [List.length_cons] at hl
      obtain ⟨lo, hi, hs, hlo, hhi⟩ := seqInfo_four h0 ((isCont_iff b1).mp c1) c4 c5
      simp only [lossyGo, if_neg (show ¬ b0.toNat < 128 by omega), hs, hlo, hhi, and_self, not_true_eq_false, if_false,
        c2, c3, Bool.not_true, Bool.false_eq_true, show ¬ (4 = 2) by omega, show ¬ (4 = 3) by omega]
      rw [ih r (by omega) hv]

theorem isStr_of_valid (b : Bytes) (h : validUtf8 b = true) : IsStr b :=
  lossyGo_valid b.length b (Nat.le_refl _) h

end Edp.Ex
