import EdpVerif.Lemmas.SerdeMem
/-! C15: the round trip through the wire form `wireT (ser v)`: `wireT` is a `Carrier`. -/
namespace Edp.Serde
open Edp Edp.Spec.Serde

theorem isUndef_wireT (t : Term) : isUndef (wireT t) = isUndef t := by
  cases t with
  | int i => simp only [wireT]; split <;> rfl
  | list l => simp only [wireT]; split <;> rfl
  | _ => simp [wireT, isUndef]

theorem wireL_eq_map : ∀ (l : List Term), wireL l = l.map wireT
  | [] => rfl
  | t :: r => by simp [wireL, wireL_eq_map r]

theorem wireKV_eq_map : ∀ (l : List (Term × Term)), wireKV l = l.map fun kv => (wireT kv.1, wireT kv.2)
  | [] => rfl
  | (k, v) :: r => by simp [wireKV, wireKV_eq_map r]


/-- across the wire: `decode ∘ encode` in its closed form, maps re-inserted -/
def wireC : Carrier where
  f := wireT
  ins := insertAll
  atom _ := rfl
  float _ := rfl
  bin _ := rfl
  int := deInt_wire
  char _ := rfl
  undef := isUndef_wireT
  tuple l := by simp [wireT, wireL_eq_map]
  seq _ l := by cases l <;> simp [wireT, wireL_eq_map, de, mapME]
  map m := by simp [wireT, wireKV_eq_map]
  ins_perm := insertAll_perm
  ins_asc := insertAll_asc

theorem deW : ∀ (ty : Ty) (v : Val), hasTy v ty = true → Ty.wf ty = true → plainWith id v = true →
    plainWith wireT v = true → de ty (wireT (ser v)) = .ok v :=
  de_carried wireC

theorem deLW : ∀ (ts : List Ty) (vs : List Val), hasTyL vs ts = true → wfL ts = true → plainL id vs = true →
    plainL wireT vs = true → deL ts (wireL (serL vs)) = .ok vs :=
  fun ts vs => wireL_eq_map (serL vs) ▸ deL_carried wireC ts vs

theorem deExFieldsW : ∀ (fts : List (Bytes × Ty)) (fs : List (Bytes × Val)) (m : List (Term × Term)),
    hasTyF fs fts = true → wfF fts = true → plainF id fs = true → plainF wireT fs = true →
    (∀ n ∈ fts.map (·.1), n ≠ sStructKey) →
    (∀ f ∈ fs, m.filter (keyIs f.1) = [(Term.atom f.1, wireT (ser f.2))]) → deExFields fts m = .ok fs :=
  deExFields_carried wireC

theorem deVariantW : ∀ (vs : List (Bytes × Ty)) (en vn : Bytes) (p : Val),
    hasTyV vn p vs = true → wfV vs = true → plainWith id p = true → plainWith wireT p = true →
    deVariant en vn vs (wireL (restOf p)) = .ok (.variant en vn p) :=
  fun vs en vn p => wireL_eq_map (restOf p) ▸ deVariant_carried wireC vs en vn p

/-! ### maps with wire-stable keys: the canonical order is the same before and after the wire -/

theorem stableKey_wire (k : Val) (h : stableKey k = true) : wireT (ser k) = ser k := by
  cases k with
  | int kk i =>
    simp only [stableKey, Bool.or_eq_true, Bool.and_eq_true, decide_eq_true_eq] at h
    simp only [ser, serInt]
    split
    · rfl
    · rename_i hc
      rcases h with h | h
      · simp [wireT, h]
      · exact absurd h hc
  | string _ | bytes _ | bool _ | unit | unitStruct _ => rfl
  | _ => cases h

theorem stableKey_plain (f : Term → Term) (k : Val) (h : stableKey k = true) : plainWith f k = true := by
  cases k with
  | int _ _ | string _ | bytes _ | bool _ | unit | unitStruct _ => rfl
  | _ => cases h

theorem keysOf_stable : ∀ (l : List (Val × Val)), keysStableKV l = true → ∀ k ∈ keysOf l, wireT k = id k
  | [], _, k, hk => by simp [keysOf] at hk
  | (a, b) :: r, h, k, hk => by
    simp only [keysStableKV, Bool.and_eq_true] at h
    simp only [keysOf, List.mem_cons] at hk
    rcases hk with rfl | hk
    · exact stableKey_wire a h.1.1
    · exact keysOf_stable r h.2 k hk

mutual
theorem plain_stable : ∀ (v : Val), keysStable v = true → plainWith wireT v = plainWith id v
  | .some v, h | .newtype _ v, h | .variant _ _ v, h => by
    simp only [keysStable] at h; simp only [plainWith, plain_stable v h]
  | .tuple vs, h | .seq vs, h | .tupleStruct _ vs, h => by
    simp only [keysStable] at h; simp only [plainWith, plainL_stable vs h]
  | .struct _ fs, h | .exStruct _ fs, h => by
    simp only [keysStable] at h; simp only [plainWith, plainF_stable fs h]
  | .map kvs, h => by
    simp only [keysStable] at h
    simp only [plainWith, plainKV_stable kvs h]
    rw [ascending_map wireT, List.map_congr_left (keysOf_stable kvs h), List.map_id]; rfl
  | .int _ _, _ | .f32 _, _ | .f64 _, _ | .bool _, _ | .char _, _ | .string _, _ | .bytes _, _ | .unit, _ | .none, _
  | .unitStruct _, _ => rfl
theorem plainL_stable : ∀ (vs : List Val), keysStableL vs = true → plainL wireT vs = plainL id vs
  | [], _ => rfl
  | v :: r, h => by
    simp only [keysStableL, Bool.and_eq_true] at h
    simp only [plainL, plain_stable v h.1, plainL_stable r h.2]
theorem plainKV_stable : ∀ (l : List (Val × Val)), keysStableKV l = true → plainKV wireT l = plainKV id l
  | [], _ => rfl
  | (k, v) :: r, h => by
    simp only [keysStableKV, Bool.and_eq_true] at h
    simp only [plainKV, stableKey_plain _ k h.1.1, plain_stable v h.1.2, plainKV_stable r h.2]
theorem plainF_stable : ∀ (fs : List (Bytes × Val)), keysStableF fs = true → plainF wireT fs = plainF id fs
  | [], _ => rfl
  | (_, v) :: r, h => by
    simp only [keysStableF, Bool.and_eq_true] at h
    simp only [plainF, plain_stable v h.1, plainF_stable r h.2]
end

end Edp.Serde
