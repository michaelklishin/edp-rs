import EdpVerif.Lemmas.RoundTrip
import EdpVerif.Lemmas.MapInsert
/-! `BTreeMap::insert` (model: `mapInsert`) never drops or merges an entry whose key compares `Equal` to no stored
key.  No law of the order is used (no transitivity, no antisymmetry): the statement holds for whatever `Term.cmp`
does, so it is free of the guards of C11. -/
namespace Edp
open Term

/-- `k` compares `Equal` to no key of `m` -/
def keyFresh (m : List (Term × Term)) (k : Term) : Prop := ∀ p ∈ m, Term.cmp k p.1 ≠ .eq

/-- every arriving key compares `Equal` to none that arrived before it -/
def arrivalDistinct (kvs : List (Term × Term)) : Prop := kvs.Pairwise (fun p q => Term.cmp q.1 p.1 ≠ .eq)

theorem insertAll_perm (acc kvs : List (Term × Term)) (hacc : ∀ q ∈ kvs, keyFresh acc q.1)
    (hd : arrivalDistinct kvs) : (insertAll acc kvs).Perm (acc ++ kvs) := by
  have := foldl_mapInsert_fresh_perm kvs acc hd (fun a ha b hb => hacc b hb a ha)
  rwa [foldl_mapInsert_eq_insertAll (fun kv : Term × Term => kv.1) (·.2),
    show (kvs.map fun e => (e.1, e.2)) = kvs from List.map_id' kvs] at this

end Edp
