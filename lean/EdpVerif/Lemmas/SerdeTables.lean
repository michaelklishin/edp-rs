import EdpVerif.Impl.Serde
/-!
C15: the model's type-mapping tables, computed from the model itself by probing — which constructor `ser` builds for the
values a `serialize_*` method receives, which constructors `de` accepts where a `deserialize_*` method is called — to be
compared with the tables the translator extracts from ser.rs / de.rs (Generated/MiscC15.lean, `C15_SER_TOP`, `C15_SER_PARTS`,
`C15_DE_ARMS`).  Changing an arm in the source changes the generated table and fails the comparison in Props/C15.lean.
-/
namespace Edp.SerdeTables
open Edp Edp.Serde

def ctorOf : Term → String
  | .atom _ => "Atom" | .int _ => "Integer" | .float _ => "Float" | .bin _ => "Binary" | .str _ => "String"
  | .list _ => "List" | .nil => "Nil" | .tuple _ => "Tuple" | .map _ => "Map" | .big _ _ => "BigInt" | _ => "Other"

mutual
/-- every constructor occurring in a term -/
def ctors : Term → List String
  | .list l => "List" :: ctorsL l
  | .tuple l => "Tuple" :: ctorsL l
  | .map kvs => "Map" :: ctorsKV kvs
  | t => [ctorOf t]
def ctorsL : List Term → List String
  | [] => []
  | t :: ts => ctors t ++ ctorsL ts
def ctorsKV : List (Term × Term) → List String
  | [] => []
  | (k, v) :: r => ctors k ++ ctors v ++ ctorsKV r
end

def sameSet (a b : List String) : Bool := a.all b.contains && b.all a.contains

def nx : Bytes := [120]
def ny : Bytes := [121]

/-- values that reach each `serialize_*` method / compound serializer (payloads are floats, so that the constructors of the
container itself can be told from those of its content) -/
def serProbes : List (String × List Val) := [
  ("bool", [.bool true, .bool false]),
  ("i8", [.int .i8 (-128), .int .i8 127]), ("i16", [.int .i16 (-32768), .int .i16 32767]),
  ("i32", [.int .i32 (-2147483648), .int .i32 2147483647]),
  ("i64", [.int .i64 (-9223372036854775808), .int .i64 0, .int .i64 9223372036854775807]),
  ("u8", [.int .u8 0, .int .u8 255]), ("u16", [.int .u16 65535]), ("u32", [.int .u32 4294967295]),
  ("u64", [.int .u64 0, .int .u64 9223372036854775807, .int .u64 9223372036854775808, .int .u64 18446744073709551615]),
  ("f32", [.f32 0]), ("f64", [.f64 0]), ("char", [.char 97]), ("str", [.string [97]]), ("bytes", [.bytes [1]]),
  ("none", [.none]), ("unit", [.unit]), ("unit_struct", [.unitStruct nx]), ("unit_variant", [.variant nx nx .unit]),
  ("newtype_variant", [.variant nx nx (.newtype [] (.f64 0))]),
  ("SerializeSeq", [.seq [], .seq [.f64 0]]),
  ("SerializeTuple", [.tuple [.f64 0]]),
  ("SerializeTupleStruct", [.tupleStruct nx [.f64 0]]),
  ("SerializeTupleVariant", [.variant nx nx (.tuple [.f64 0])]),
  ("SerializeMap", [.map [(.f64 0, .f64 0)]]),
  ("SerializeStruct", [.struct nx [(nx, .f64 0)]]),
  ("SerializeStructVariant", [.variant nx nx (.struct [] [(nx, .f64 0)])])]

def probesOf (m : String) : List Val := (serProbes.lookup m).getD []

/-- the outermost constructors the model's `ser` builds for the method's values -/
def modelTop (m : String) : List String := ((probesOf m).map fun v => ctorOf (ser v)).eraseDups

/-- all constructors the model's `ser` builds for the method's values, the float payload excepted -/
def modelParts (m : String) : List String := (((probesOf m).flatMap fun v => ctors (ser v)).eraseDups).filter (· != "Float")

def okB {α} : SRes α → Bool
  | .ok _ => true
  | .error _ => false

/-- the model's counterpart of each `deserialize_*` method: the Rust type whose `Deserialize` calls it -/
def deAcc : List (String × (Term → Bool)) := [
  ("bool", fun t => okB (de .bool t)),
  ("i8", fun t => okB (de (.int .i8) t)), ("i16", fun t => okB (de (.int .i16) t)), ("i32", fun t => okB (de (.int .i32) t)),
  ("i64", fun t => okB (de (.int .i64) t)), ("u8", fun t => okB (de (.int .u8) t)), ("u16", fun t => okB (de (.int .u16) t)),
  ("u32", fun t => okB (de (.int .u32) t)), ("u64", fun t => okB (de (.int .u64) t)),
  ("f32", fun t => okB (de .f32 t)), ("f64", fun t => okB (de .f64 t)), ("char", fun t => okB (de .char t)),
  ("str", fun t => okB (de .string t)), ("string", fun t => okB (de .string t)),
  ("bytes", fun t => okB (de .bytes t)), ("byte_buf", fun t => okB (de .bytes t)),
  ("unit", fun t => okB (de .unit t)), ("unit_struct", fun t => okB (de (.unitStruct nx) t)),
  ("seq", fun t => okB (de (.seq .f64) t)), ("tuple", fun t => okB (de (.tuple [.f64]) t)),
  ("tuple_struct", fun t => okB (de (.tupleStruct nx [.f64]) t)),
  ("map", fun t => okB (de (.map .f64 .f64) t)), ("struct", fun t => okB (de (.struct nx []) t)),
  ("enum", fun t => okB (de (.enum nx [(nx, .unit), (ny, .newtype [] .f64)]) t)),
  ("identifier", isOkStr)]

/-- small terms of every constructor of the serde fragment -/
def termProbes : List (String × List Term) := [
  ("Atom", [.atom sTrue, .atom sNil, .atom sUndefined, .atom nx]),
  ("Integer", [.int 0]), ("BigInt", [.big false [1]]), ("Float", [.float 0]),
  ("Binary", [.bin [97], .bin []]), ("String", [.str [97]]),
  ("List", [.list [.float 0]]), ("Nil", [.nil]),
  ("Tuple", [.tuple [.float 0], .tuple [.atom ny, .float 0], .tuple []]),
  ("Map", [.map [], .map [(.float 0, .float 0)]])]

/-- the constructors the model accepts where the method is called -/
def modelAccepts (m : String) : List String :=
  match deAcc.lookup m with
  | some f => (termProbes.filter fun p => p.2.any f).map (·.1)
  | none => []

/-- what a constructor can look like after `decode ∘ encode` -/
def wireCtors : String → List String
  | "Integer" => ["Integer", "BigInt"]
  | "String" => ["Binary"]
  | "List" => ["List", "Nil"]
  | c => [c]

/-- which `deserialize_*` reads what which `serialize_*` wrote (std / derived `Serialize`-`Deserialize` pairs) -/
def pairs : List (String × String) := [
  ("bool", "bool"), ("i8", "i8"), ("i16", "i16"), ("i32", "i32"), ("i64", "i64"), ("u8", "u8"), ("u16", "u16"),
  ("u32", "u32"), ("u64", "u64"), ("f32", "f32"), ("f64", "f64"), ("char", "char"), ("str", "str"), ("str", "string"),
  ("str", "identifier"), ("bytes", "bytes"), ("bytes", "byte_buf"), ("unit", "unit"), ("unit_struct", "unit_struct"),
  ("unit_variant", "enum"), ("newtype_variant", "enum"), ("SerializeSeq", "seq"), ("SerializeTuple", "tuple"),
  ("SerializeTupleStruct", "tuple_struct"), ("SerializeTupleVariant", "enum"), ("SerializeMap", "map"),
  ("SerializeStruct", "struct"), ("SerializeStructVariant", "enum")]

/-- on two tables: every constructor the writer produces is, as it is and in every form the wire can give it, among the
constructors the reader matches on -/
def allAccepted (serTop deArms : List (String × List String)) : Bool :=
  pairs.all fun p =>
    match serTop.lookup p.1, deArms.lookup p.2 with
    | some cs, some ds => cs.all fun c => ds.contains c && (wireCtors c).all ds.contains
    | _, _ => false

end Edp.SerdeTables
