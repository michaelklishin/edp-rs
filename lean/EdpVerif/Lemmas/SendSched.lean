import EdpVerif.Lemmas.Send
import EdpVerif.Lemmas.SendSchedF
/-!
C07, concurrency: the invariant of the lock/write semantics (`Send.step`) that holds after every schedule.  `step` is
`stepF` (Lemmas/SendSchedF.lean) with every operation's fate `whole`, and the invariant is read off `InvF`.
-/
namespace Edp.Send
open Edp Edp.Spec Edp.Spec.Wire

def flat (prog : Nat → List (List Bytes)) (acq : List (Nat × Nat)) : Bytes := (acq.map (frameOf prog)).flatten

/-- number of operations task `u` has acquired the lock for -/
def started (st : St) (u : Nat) : Nat := (st.ts u).next + (if (st.ts u).rem.isSome then 1 else 0)

structure Inv (prog : Nat → List (List Bytes)) (st : St) : Prop where
  /-- only the lock holder is inside an operation -/
  excl : ∀ u, (st.ts u).rem.isSome = true → st.lock = some u
  /-- with the lock free, the wire is the whole frames of the acquired operations in acquisition order -/
  free : st.lock = none → st.wire = flat prog st.acq
  /-- with the lock held, it is that for all but the last acquisition, followed by the writes the holder has done -/
  held : ∀ t, st.lock = some t → ∃ acq' pre rem full,
    st.acq = acq' ++ [(t, (st.ts t).next)] ∧ (st.ts t).rem = some rem ∧ (prog t)[(st.ts t).next]? = some full ∧
    full = pre ++ rem ∧ st.wire = flat prog acq' ++ pre.flatten
  /-- each task's operations were acquired in issue order, without gaps -/
  order : ∀ u, ((st.acq.filter (fun p => p.1 = u)).map (·.2)) = List.range (started st u)
  /-- every acquisition is of an operation the program has -/
  valid : ∀ p ∈ st.acq, ((prog p.1)[p.2]?).isSome = true

def liftProg (prog : Nat → List (List Bytes)) : Nat → List TOp := fun t => (prog t).map (⟨·, .whole⟩)

def St.lift (st : St) : StF := { wire := st.wire, lock := st.lock, closed := false, ts := st.ts, acq := st.acq }

theorem liftProg_get (prog : Nat → List (List Bytes)) (t i : Nat) :
    (liftProg prog t)[i]? = ((prog t)[i]?).map (⟨·, .whole⟩) := by
  simp [liftProg]

theorem stepF_lift (prog : Nat → List (List Bytes)) (st : St) (t : Nat) :
    stepF (liftProg prog) st.lift t = (step prog st t).map St.lift := by
  unfold stepF step
  simp only [St.lift, liftProg_get]
  cases (st.ts t).rem with
  | none => cases (prog t)[(st.ts t).next]? <;> cases st.lock <;> simp [TOp.eff, St.lift]
  | some rem => cases rem <;> cases (prog t)[(st.ts t).next]? <;> simp [TOp.isCut, St.lift]

theorem runF_lift (prog : Nat → List (List Bytes)) (σ : List Nat) : ∀ st : St,
    runF (liftProg prog) st.lift σ = (run prog st σ).lift := by
  induction σ with
  | nil => intro st; rfl
  | cons t σ ih =>
    intro st
    simp only [runF, run, List.foldl_cons, stepF_lift]
    cases step prog st t with
    | none => exact ih st
    | some st' => exact ih st'

theorem seqFrom_lift (prog : Nat → List (List Bytes)) : ∀ (acq : List (Nat × Nat)) (w : Bytes),
    seqFrom (liftProg prog) (w, false) acq = (w ++ flat prog acq, false)
  | [], w => by simp [seqFrom, flat]
  | p :: ps, w => by
    have ih := seqFrom_lift prog ps
    simp only [seqFrom, List.foldl_cons, seqStep, liftProg_get] at ih ⊢
    cases hp : (prog p.1)[p.2]? <;> simp [ih, flat, frameOf, hp, TOp.eff, TOp.isCut]

theorem seqRun_lift (prog : Nat → List (List Bytes)) (acq : List (Nat × Nat)) :
    seqRun (liftProg prog) acq = (flat prog acq, false) := by
  simpa [seqRun] using seqFrom_lift prog acq []

theorem inv_run (prog : Nat → List (List Bytes)) (σ : List Nat) : Inv prog (run prog St.init σ) := by
  have h := invF_run (liftProg prog) σ StF.init (invF_init _)
  rw [show StF.init = St.init.lift from rfl, runF_lift] at h
  refine ⟨h.excl, fun hl => ?_, fun t ht => ?_, h.order, fun p hp => ?_⟩
  · simpa [seqRun_lift, St.lift] using congrArg Prod.fst (h.free hl)
  · obtain ⟨acq', pre, rem, op, hacq, hrem, hop, hsplit, hwire, _⟩ := h.held t ht
    rw [liftProg_get, Option.map_eq_some_iff] at hop
    obtain ⟨full, hfull, rfl⟩ := hop
    exact ⟨acq', pre, rem, full, hacq, hrem, hfull, by simpa [St.lift, TOp.eff] using hsplit,
      by simpa [seqRun_lift, St.lift] using hwire⟩
  · simpa [liftProg_get] using h.valid p hp

theorem readFrames_flat (prog : Nat → List (List Bytes)) (item : Nat × Nat → Item) :
    ∀ (acq : List (Nat × Nat)),
    (∀ p ∈ acq, ∃ body, frameOf prog p = be32 body.length ++ body ∧ body.length < 4294967296 ∧ body ≠ [] ∧
        ∀ cache, readBody .passThrough cache body = some (item p, cache)) →
    ∀ cache, readFramesFrom .passThrough cache (flat prog acq) = some (acq.map item) := by
  intro acq
  induction acq with
  | nil => intro _ cache; simp [flat, readFrames_nil]
  | cons p acq ih =>
    intro h cache
    obtain ⟨body, hf, hl, hne, hrb⟩ := h p (by simp)
    have e : flat prog (p :: acq) = be32 body.length ++ body ++ flat prog acq := by
      simp [flat, hf]
    rw [e, readFrames_cons .passThrough cache body _ hl hne _ cache (hrb cache),
      ih (fun q hq => h q (by simp [hq])) cache]
    simp

/-- the writes of an operation (nothing when it fails) -/
def writesOf (r : Except Err (List Bytes)) : List Bytes :=
  match r with
  | .ok ws => ws
  | .error _ => []

/-! material for the examples of Props/C07.lean -/

def pA : PidF := { node := [97, 64, 104], id := 1, serial := 2, creation := 3 }
def pB : PidF := { node := [98, 64, 104], id := 4294967295, serial := 0, creation := 7 }
def rA : RefF := { node := [97, 64, 104], creation := 3, ids := [1, 2, 3] }
def ptConn : Conn := { state := .connected, neg := some 0, stream := true }
def hdrConn : Conn := { state := .connected, neg := some 0x2000, stream := true }

theorem pA_ok : PidOk pA := ⟨by decide, by decide, by decide, by decide, fun l h => by cases h⟩
theorem pB_ok : PidOk pB := ⟨by decide, by decide, by decide, by decide, fun l h => by cases h⟩
theorem rA_ok : RefOk rA := ⟨by decide, by decide, by decide, fun l h => by cases h⟩

end Edp.Send
