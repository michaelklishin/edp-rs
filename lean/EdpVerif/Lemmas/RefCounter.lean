import EdpVerif.Impl.RefCounter
/-! The inductive invariant of the small-step semantics of `make_reference` (`Impl/RefCounter.lean`):
every first word in circulation was issued by a distinct `fetch_add`, and fewer than 2^32 of them have happened. -/
namespace Edp.Impl.RefCounter

/-- `w` is the value returned by one of the first `n` `fetch_add`s -/
def issuedW (c0 n w : Nat) : Prop := ∃ k, k < n ∧ w = (c0 + k) % U32

theorem issuedW_mono {c0 n m w : Nat} (h : issuedW c0 n w) (hnm : n ≤ m) : issuedW c0 m w := by
  obtain ⟨k, hk, e⟩ := h
  exact ⟨k, Nat.lt_of_lt_of_le hk hnm, e⟩

theorem fresh_ne {c0 n w : Nat} (h : issuedW c0 n w) (hn : n < U32) : w ≠ (c0 + n) % U32 := by
  obtain ⟨k, hk, e⟩ := h
  subst e
  simp only [U32] at hn ⊢
  omega

/-- first word held by a thread inside `make_reference` -/
def RPc.first : RPc → Option Nat
  | .idle => none
  | .f1 a => some a
  | .f2 a _ => some a
  | .f3 a _ _ => some a
  | .got r => some r.w0

structure RInv (c0 : Nat) (st : RSt) : Prop where
  cnt : st.counter = (c0 + st.issued) % U32
  pcIss : ∀ t w, (st.pc t).first = some w → issuedW c0 st.issued w
  outIss : ∀ x ∈ st.out, issuedW c0 st.issued x.2.w0
  pcPc : ∀ t t' w, t ≠ t' → (st.pc t).first = some w → (st.pc t').first ≠ some w
  pcOut : ∀ t w, (st.pc t).first = some w → ∀ x ∈ st.out, x.2.w0 ≠ w
  outOut : st.out.Pairwise (fun x y => x.2.w0 ≠ y.2.w0)

variable {c0 : Nat} {st : RSt}

theorem rinv_init (c0 cr : Nat) (h : c0 < U32) : RInv c0 (RSt.init c0 cr) := by
  constructor <;> simp [RSt.init, RPc.first, Nat.mod_eq_of_lt h]

theorem bump_inv (h : RInv c0 st) : RInv c0 (bump st) := by
  refine ⟨?_, ?_, ?_, h.pcPc, h.pcOut, h.outOut⟩
  · show (st.counter + 1) % U32 = (c0 + (st.issued + 1)) % U32
    rw [h.cnt]; simp only [U32]; omega
  · intro t w hw; exact issuedW_mono (h.pcIss t w hw) (Nat.le_succ _)
  · intro x hx; exact issuedW_mono (h.outIss x hx) (Nat.le_succ _)

theorem first_upd (pc : Nat → RPc) (t t' : Nat) (v : RPc) :
    (upd pc t v t').first = if t' = t then v.first else (pc t').first := by
  unfold upd; split <;> rfl

theorem keep_inv (t : Nat) (v : RPc) (h : RInv c0 st) (hv : v.first = (st.pc t).first) :
    RInv c0 { st with pc := upd st.pc t v } := by
  have hf : ∀ t', (upd st.pc t v t').first = (st.pc t').first := by
    intro t'; rw [first_upd]; split <;> simp [*]
  exact ⟨h.cnt, fun t' w => hf t' ▸ h.pcIss t' w, h.outIss, fun t1 t2 w => hf t1 ▸ hf t2 ▸ h.pcPc t1 t2 w,
    fun t' w => hf t' ▸ h.pcOut t' w, h.outOut⟩

/-- the first `fetch_add` of a call: the thread obtains a word nobody else holds -/
theorem fresh_inv (t : Nat) (v : RPc) (h : RInv c0 st) (hn : st.issued < U32)
    (hv : v.first = some st.counter) :
    RInv c0 { bump st with pc := upd st.pc t v } := by
  have hb := bump_inv h
  have hfr : ∀ w, issuedW c0 st.issued w → w ≠ st.counter := fun w hw => h.cnt ▸ fresh_ne hw hn
  have hnew : issuedW c0 (st.issued + 1) st.counter := ⟨st.issued, Nat.lt_succ_self _, h.cnt⟩
  have h1 := h.pcIss; have h2 := h.outIss; have h3 := h.pcPc; have h4 := h.pcOut
  have h5 : ∀ t w, (st.pc t).first = some w → issuedW c0 (st.issued + 1) w := hb.pcIss
  -- In each clause `first_upd` makes the first word of a thread after the step `if t' = t then v.first else` the old
  -- one. The thread that moved holds `st.counter` (`hv`), issued by this very `fetch_add` (`hnew`) and different from
  -- every word issued before (`hfr`), hence from all that threads hold (`h1`) or that were returned (`h2`); for the other
  -- threads the clauses of `h` hold as they did (`h3`, `h4`, `h5`). `grind` splits on `t' = t` and instantiates these.
  refine ⟨hb.cnt, ?_, hb.outIss, ?_, ?_, h.outOut⟩
  · intro t' w; show (upd st.pc t v t').first = some w → issuedW c0 (st.issued + 1) w; rw [first_upd]; grind
  · intro t1 t2 w; show _ → (upd st.pc t v t1).first = some w → (upd st.pc t v t2).first ≠ some w
    rw [first_upd, first_upd]; grind
  · intro t' w; show (upd st.pc t v t').first = some w → ∀ x ∈ st.out, _; rw [first_upd]; grind

theorem done_inv (t : Nat) (r : Ref) (h : RInv c0 st) (hpc : st.pc t = .got r) :
    RInv c0 { st with pc := upd st.pc t .idle, out := st.out ++ [(t, r)] } := by
  have hfirst : (st.pc t).first = some r.w0 := by rw [hpc]; rfl
  have h1 := h.pcIss; have h2 := h.outIss; have h3 := h.pcPc; have h4 := h.pcOut
  -- as in `fresh_inv`: thread `t` holds nothing after the step (`RPc.first .idle = none`), and its word `r.w0`
  -- (`hfirst`) is in `out`, where the old clauses about what `t` held (`h1`, `h3`, `h4`) speak for it
  refine ⟨h.cnt, ?_, ?_, ?_, ?_, ?_⟩
  · intro t' w; show (upd st.pc t .idle t').first = some w → _; rw [first_upd]; grind [RPc.first]
  · intro x; show x ∈ st.out ++ [(t, r)] → _; grind
  · intro t1 t2 w; show _ → (upd st.pc t .idle t1).first = some w → (upd st.pc t .idle t2).first ≠ some w
    rw [first_upd, first_upd]; grind [RPc.first]
  · intro t' w; show (upd st.pc t .idle t').first = some w → ∀ x ∈ st.out ++ [(t, r)], _; rw [first_upd]; grind [RPc.first]
  · show (st.out ++ [(t, r)]).Pairwise _
    rw [List.pairwise_append]
    refine ⟨h.outOut, by simp, ?_⟩
    intro x hx y hy
    obtain rfl : y = (t, r) := by simpa using hy
    exact h.pcOut t r.w0 hfirst x hx

theorem issued_stepEv (st : RSt) (e : REv) :
    st.issued ≤ (stepEv st e).issued ∧ (stepEv st e).issued ≤ st.issued + 1 := by
  cases e with
  | setCreation c => exact ⟨Nat.le_refl _, Nat.le_succ _⟩
  | unlink => exact ⟨Nat.le_succ _, Nat.le_refl _⟩
  | task t =>
    simp only [stepEv, step]
    split <;> simp [bump]

theorem issued_run_le (evs : List REv) : ∀ st : RSt, (run st evs).issued ≤ st.issued + evs.length := by
  induction evs with
  | nil => intro st; exact Nat.le_refl _
  | cons e evs ih =>
    intro st
    have h1 := (issued_stepEv st e).2
    have h2 : (run (stepEv st e) evs).issued ≤ _ := ih (stepEv st e)
    show (run (stepEv st e) evs).issued ≤ _
    simp only [List.length_cons]
    omega

theorem rinv_stepEv (e : REv) (h : RInv c0 st) (hb : (stepEv st e).issued ≤ U32) :
    RInv c0 (stepEv st e) := by
  cases e with
  | setCreation c => exact { h with }
  | unlink => exact { bump_inv h with }
  | task t =>
    simp only [stepEv, step] at hb ⊢
    cases hpc : st.pc t with
    | idle =>
      rw [hpc] at hb
      simp only [bump] at hb
      exact fresh_inv t _ h (by omega) rfl
    | f1 a => exact keep_inv (st := bump st) t _ (bump_inv h) (by show _ = (st.pc t).first; rw [hpc]; rfl)
    | f2 a b => exact keep_inv (st := bump st) t _ (bump_inv h) (by show _ = (st.pc t).first; rw [hpc]; rfl)
    | f3 a b c => exact keep_inv t _ h (by rw [hpc]; rfl)
    | got r => exact done_inv t r h hpc

theorem rinv_run (evs : List REv) (h : RInv c0 st) : (run st evs).issued ≤ U32 → RInv c0 (run st evs) :=
  -- `issued` only grows, so a state below the bound was reached through such states
  List.foldlRecOn (motive := fun t => t.issued ≤ U32 → RInv c0 t) evs stepEv (fun _ => h)
    (fun t ht e _ hb => rinv_stepEv e (ht (Nat.le_trans (issued_stepEv t e).1 hb)) hb)

structure CInv (P : Nat → Prop) (st : RSt) : Prop where
  cur : P st.creation
  pcs : ∀ t r, st.pc t = .got r → P r.creation
  outs : ∀ x ∈ st.out, P x.2.creation

theorem cinv_stepEv {P : Nat → Prop} {st : RSt} (e : REv) (h : CInv P st)
    (he : ∀ c, e = .setCreation c → P c) : CInv P (stepEv st e) := by
  cases e with
  | setCreation c => exact ⟨he c rfl, h.pcs, h.outs⟩
  | unlink => exact ⟨h.cur, h.pcs, h.outs⟩
  | task t =>
    simp only [stepEv, step]
    have hother : ∀ (v : RPc) (t' : Nat) (r : Ref), (∀ r', v = .got r' → P r'.creation) →
        upd st.pc t v t' = .got r → P r.creation := by
      intro v t' r hv hu
      unfold upd at hu
      split at hu
      · exact hv r hu
      · exact h.pcs t' r hu
    cases hpc : st.pc t with
    | f3 a b c => exact ⟨h.cur, fun t' r hu => hother _ t' r (by intro r' e; cases e; exact h.cur) hu, h.outs⟩
    | got r =>
      refine ⟨h.cur, fun t' r' hu => hother _ t' r' (by intro r' e; cases e) hu, fun x hx => ?_⟩
      rcases List.mem_append.mp hx with hx | hx
      · exact h.outs x hx
      · obtain rfl : x = (t, r) := by simpa using hx
        exact h.pcs t r hpc
    | _ => exact ⟨h.cur, fun t' r hu => hother _ t' r (by intro r' e; cases e) hu, h.outs⟩

theorem cinv_run {P : Nat → Prop} (evs : List REv) (he : ∀ c, REv.setCreation c ∈ evs → P c) (h : CInv P st) :
    CInv P (run st evs) :=
  List.foldlRecOn (motive := CInv P) evs stepEv h (fun _ ht e hm => cinv_stepEv e ht (fun c hc => he c (hc ▸ hm)))

/-- the five steps of one whole `make_reference` call -/
def oneCall (t : Nat) : List REv := [.task t, .task t, .task t, .task t, .task t]

theorem run_oneCall (st : RSt) (t : Nat) (hidle : st.pc t = .idle) :
    (run st (oneCall t)).out =
        st.out ++ [(t, ⟨st.creation, st.counter, (st.counter + 1) % U32, ((st.counter + 1) % U32 + 1) % U32⟩)] ∧
      (run st (oneCall t)).counter = (((st.counter + 1) % U32 + 1) % U32 + 1) % U32 ∧
      (run st (oneCall t)).creation = st.creation ∧ (run st (oneCall t)).pc t = .idle := by
  simp [run, oneCall, stepEv, step, hidle, upd, bump]

def seqCalls (t : Nat) : Nat → List REv
  | 0 => []
  | k + 1 => oneCall t ++ seqCalls t k

theorem run_append (st : RSt) (a b : List REv) : run st (a ++ b) = run (run st a) b := by
  simp [run, List.foldl_append]

theorem seqRef_congr {c c' cr i j : Nat} (h : (c + 3 * i) % U32 = (c' + 3 * j) % U32) :
    seqRef c cr i = seqRef c' cr j := by
  have h1 : (c + 3 * i + 1) % U32 = (c' + 3 * j + 1) % U32 := by simp only [U32] at h ⊢; omega
  have h2 : (c + 3 * i + 2) % U32 = (c' + 3 * j + 2) % U32 := by simp only [U32] at h ⊢; omega
  simp only [seqRef, h, h1, h2]

theorem run_seqCalls (t k : Nat) : ∀ st : RSt, st.pc t = .idle → st.counter < U32 →
    (run st (seqCalls t k)).out = st.out ++ (List.range k).map (fun i => (t, seqRef st.counter st.creation i)) := by
  induction k with
  | zero => intro st _ _; simp [seqCalls, run]
  | succ k ih =>
    intro st hidle hc
    obtain ⟨ho, hcnt, hcr, hpc⟩ := run_oneCall st t hidle
    rw [seqCalls, run_append, ih (run st (oneCall t)) hpc (by rw [hcnt]; exact Nat.mod_lt _ (by simp [U32]))]
    rw [ho, hcnt, hcr, List.range_succ_eq_map, List.map_cons, List.map_map, List.append_assoc]
    have e0 : seqRef st.counter st.creation 0 =
        ⟨st.creation, st.counter, (st.counter + 1) % U32, ((st.counter + 1) % U32 + 1) % U32⟩ := by
      simp only [seqRef, Ref.mk.injEq, true_and, U32] at hc ⊢; omega
    rw [e0]
    congr 1
    simp only [List.singleton_append, List.cons.injEq, true_and]
    apply List.map_congr_left
    intro i _
    exact congrArg (Prod.mk t) (seqRef_congr (by simp only [U32]; omega))

end Edp.Impl.RefCounter
