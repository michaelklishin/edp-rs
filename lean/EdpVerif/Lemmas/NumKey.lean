import EdpVerif.Lemmas.Digits
import EdpVerif.Lemmas.CmpSwap
import EdpVerif.Impl.Den
/-! Numbers: every numeric term has a key `(class, value * 2^1074)` such that the model comparison of two numeric
terms is the lexicographic comparison of their keys (`cmpN_num`).  Shared by the transitivity proof (C11) and the
agreement with Erlang's exact order (C12). -/
open Edp Edp.Term
namespace Edp

theorem nat_compare_mul (a b k : Nat) (hk : 0 < k) : compare (a * k) (b * k) = compare a b := by
  simp only [Nat.compare_eq_ite_lt, Nat.mul_lt_mul_right hk]

theorem int_compare_mul (a b : Int) (k : Nat) (hk : 0 < k) : compare (a * (k : Int)) (b * k) = compare a b := by
  simp only [Int.compare_eq_ite_lt, Int.mul_lt_mul_right (Int.natCast_pos.mpr hk)]

theorem nat_compare_add (a b k : Nat) : compare (a + k) (b + k) = compare a b := by
  simp only [Nat.compare_eq_ite_lt, Nat.add_lt_add_iff_right]

theorem lt_base {B a b c d : Nat} (h : a < c) (hb : b < B) : a * B + b < c * B + d := by
  have := Nat.mul_le_mul_right B (Nat.succ_le_of_lt h)
  rw [Nat.succ_mul] at this
  omega

theorem compare_base (B a b c d : Nat) (hb : b < B) (hd : d < B) :
    compare (a * B + b) (c * B + d) = (compare a c).then (compare b d) := by
  rcases Nat.lt_trichotomy a c with h | rfl | h
  · rw [Nat.compare_eq_lt.mpr h, Nat.compare_eq_lt.mpr (lt_base h hb)]; rfl
  · rw [Nat.compare_eq_eq.mpr rfl, Nat.add_comm _ b, Nat.add_comm _ d, nat_compare_add]; rfl
  · rw [Nat.compare_eq_gt.mpr h, Nat.compare_eq_gt.mpr (lt_base h hd)]; rfl

/-- no high-order zero digit: the little-endian digit sequence is the shortest for its value -/
def minDigits (d : Bytes) : Bool := d.getLast? != some 0

theorem magVal_ge (d : Bytes) (h : minDigits d) (hd : d ≠ []) : 256 ^ (d.length - 1) ≤ magVal d := by
  rcases List.eq_nil_or_concat d with rfl | ⟨t, x, rfl⟩
  · exact absurd rfl hd
  · rw [List.concat_eq_append] at h ⊢
    simpa using magVal_snoc_ge x (by simpa [minDigits] using h) t

theorem allZero_iff (d : Bytes) : allZero d = true ↔ magVal d = 0 := by
  induction d with
  | nil => simp [allZero, magVal]
  | cons b r ih =>
    simp only [allZero, List.all_cons, Bool.and_eq_true, beq_iff_eq, magVal] at ih ⊢
    rw [ih, ← UInt8.toNat_inj]
    change b.toNat = 0 ∧ _ ↔ _
    omega

theorem lexCmp_append : ∀ (a b c d : List Nat), a.length = b.length →
    lexCmp (a ++ c) (b ++ d) = (lexCmp a b).then (lexCmp c d)
  | [], [], c, d, _ => by simp [lexCmp]
  | [], _ :: _, _, _, h => by simp at h
  | _ :: _, [], _, _, h => by simp at h
  | x :: xs, y :: ys, c, d, h => by
    simp only [List.cons_append, lexCmp, thenO, Ordering.then_assoc]
    rw [lexCmp_append xs ys c d (by simpa using h)]

theorem bytesCmp_reverse : ∀ (a b : Bytes), a.length = b.length →
    bytesCmp a.reverse b.reverse = compare (magVal a) (magVal b)
  | [], [], _ => by simp [bytesCmp, lexCmp, magVal]
  | [], _ :: _, h => by simp at h
  | _ :: _, [], h => by simp at h
  | x :: xs, y :: ys, h => by
    have ih := bytesCmp_reverse xs ys (by simpa using h)
    simp only [bytesCmp, List.reverse_cons, List.map_append, List.map_cons, List.map_nil, magVal] at ih ⊢
    rw [lexCmp_append _ _ _ _ (by simpa using h), ih, Nat.add_comm, Nat.mul_comm, Nat.add_comm y.toNat, Nat.mul_comm 256,
      compare_base 256 _ _ _ _ x.toNat_lt y.toNat_lt]
    simp [lexCmp, thenO]

theorem magVal_lt_of_length_lt {a b : Bytes} (hb : minDigits b) (h : a.length < b.length) : magVal a < magVal b := by
  have h1 := magVal_lt a
  have h2 := magVal_ge b hb (by intro h0; simp [h0] at h)
  have : 256 ^ a.length ≤ 256 ^ (b.length - 1) := Nat.pow_le_pow_right (by decide) (by omega)
  omega

theorem cmpMag_eq (a b : Bytes) (ha : minDigits a) (hb : minDigits b) :
    cmpMag a b = compare (magVal a) (magVal b) := by
  unfold cmpMag thenO
  rcases Nat.lt_trichotomy a.length b.length with h | h | h
  · rw [Nat.compare_eq_lt.mpr h, Nat.compare_eq_lt.mpr (magVal_lt_of_length_lt hb h)]; rfl
  · rw [Nat.compare_eq_eq.mpr h, Ordering.eq_then, bytesCmp_reverse a b h]
  · rw [Nat.compare_eq_gt.mpr h, Nat.compare_eq_gt.mpr (magVal_lt_of_length_lt ha h)]; rfl

theorem magVal_natDigits (n : Nat) : magVal (natDigits n) = n := by
  fun_induction natDigits n with
  | case1 => rfl
  | case2 n h ih => simp only [magVal, ih, UInt8.toNat_ofNat']; omega

theorem natDigits_one : natDigits 1 = [1] := by
  rw [natDigits]; simp; rw [natDigits]; simp

theorem minDigits_natDigits (n : Nat) : minDigits (natDigits n) := by
  fun_induction natDigits n with
  | case1 => rfl
  | case2 n h ih =>
    cases hr : natDigits (n / 256) with
    | nil =>
      -- the only digit is the value, which is not zero
      have := magVal_natDigits n
      rw [natDigits, dif_neg h, hr] at this
      simp only [minDigits, List.getLast?_singleton, bne_iff_ne, ne_eq, Option.some.injEq]
      intro h0
      rw [h0] at this
      exact h this.symm
    | cons c r => rw [hr] at ih; simpa [minDigits, List.getLast?_cons_cons] using ih

/-! Minimal digits are unique; `wd_…`: the digits of an `i64` outside 32 bits as the encoder writes them on the wire
(eight bytes, trimmed to `sigLen`) are `natDigits` of its magnitude.  Used by Lemmas/WireOrder.lean. -/

theorem magVal_pos {d : Bytes} (h : minDigits d) (hd : d ≠ []) : 0 < magVal d :=
  Nat.lt_of_lt_of_le (Nat.pow_pos (by decide)) (magVal_ge d h hd)

theorem minDigits_of_cons {b : UInt8} {r : Bytes} (h : minDigits (b :: r)) : minDigits r := by
  cases r with
  | nil => rfl
  | cons c r' => simpa [minDigits, List.getLast?_cons_cons] using h

theorem wd_minDigits_unique : ∀ (a b : Bytes), minDigits a → minDigits b → magVal a = magVal b → a = b
  | [], [], _, _, _ => rfl
  | [], y :: s, _, hb, h => absurd h (Nat.ne_of_lt (magVal_pos hb (by simp)))
  | x :: r, [], ha, _, h => absurd h.symm (Nat.ne_of_lt (magVal_pos ha (by simp)))
  | x :: r, y :: s, ha, hb, h => by
    simp only [magVal] at h
    have hx := x.toNat_lt
    have hy := y.toNat_lt
    rw [wd_minDigits_unique r s (minDigits_of_cons ha) (minDigits_of_cons hb) (by omega),
      UInt8.toNat_inj.mp (show x.toNat = y.toNat by omega)]

theorem wd_minDigits_take_sigLen (d : Bytes) (h : magVal d ≠ 0) : minDigits (d.take (sigLen d)) := by
  obtain ⟨a, z, rfl, hz, e, hx⟩ := sig_split d
  rw [magVal_append_zeros z hz] at h
  rcases List.eq_nil_or_concat a with rfl | ⟨t, x, rfl⟩
  · exact absurd rfl h
  · rw [List.concat_eq_append] at e hx ⊢
    have hs : sigLen (t ++ [x] ++ z) = (t ++ [x]).length := by
      unfold sigLen
      split
      · rename_i h0; rw [h0] at e; simp at e
      · exact e
    rw [hs, List.take_left']
    · simpa [minDigits] using hx t x rfl
    · rfl

/-- the digits the encoder writes for a wide `i64` are the minimal little-endian digits of its magnitude -/
theorem wd_digits_eq (n : Nat) (h0 : n ≠ 0) (h : n < 256 ^ 8) :
    (leN 8 n).take (sigLen (leN 8 n)) = natDigits n := by
  have hv : magVal (leN 8 n) = n := by rw [magVal_leN, Nat.mod_eq_of_lt h]
  apply wd_minDigits_unique
  · exact wd_minDigits_take_sigLen _ (by rw [hv]; exact h0)
  · exact minDigits_natDigits n
  · rw [magVal_take_sigLen, hv, magVal_natDigits]

def smVal (neg : Bool) (v : Nat) : Int := if neg then -(v : Int) else v
/-- the sign the code computes: zero magnitude is zero whatever the flag -/
def smSign (neg : Bool) (v : Nat) : Int := if v = 0 then 0 else if neg then -1 else 1

theorem compare_smVal (nx ny : Bool) (vx vy : Nat) :
    compare (smVal nx vx) (smVal ny vy) =
      (compare (smSign nx vx) (smSign ny vy)).then
        (if smSign nx vx < 0 then compare vy vx else compare vx vy) := by
  unfold smVal smSign
  simp only [Int.compare_eq_ite_lt, Nat.compare_eq_ite_lt]
  cases nx <;> cases ny <;> by_cases hx : vx = 0 <;> by_cases hy : vy = 0 <;>
    simp [hx, hy] <;> (repeat' split) <;> simp_all <;> omega

theorem smSign_eq_zero (n : Bool) (v : Nat) : smSign n v = 0 ↔ v = 0 := by
  unfold smSign; cases n <;> by_cases h : v = 0 <;> simp [h]

/-- `compare_smVal` with the second component as the code writes it: nothing to compare when the signs are zero -/
theorem compare_smVal_guard (nx ny : Bool) (vx vy : Nat) :
    compare (smVal nx vx) (smVal ny vy) = (compare (smSign nx vx) (smSign ny vy)).then
      (if smSign nx vx = 0 then .eq else if smSign nx vx < 0 then (compare vx vy).swap else compare vx vy) := by
  rw [compare_smVal, ← compare_nat_rev]
  cases h : compare (smSign nx vx) (smSign ny vy) <;> simp only [Ordering.lt_then, Ordering.gt_then, Ordering.eq_then]
  have he := Int.compare_eq_eq.mp h
  by_cases h0 : smSign nx vx = 0
  · have h1 := (smSign_eq_zero _ _).mp h0
    have h2 := (smSign_eq_zero _ _).mp (he ▸ h0)
    simp [h1, h2]
  · simp [h0]

theorem signum_eq (neg : Bool) (d : Bytes) : signum neg d = smSign neg (magVal d) := by
  simp only [signum, smSign, ← allZero_iff]

theorem bigVal_eq (neg : Bool) (d : Bytes) : bigVal neg d = smVal neg (magVal d) := rfl

theorem cmpSignedMag_eq (an : Bool) (a : Bytes) (bn : Bool) (b : Bytes) (ha : minDigits a) (hb : minDigits b) :
    cmpSignedMag an a bn b = compare (bigVal an a) (bigVal bn b) := by
  rw [bigVal_eq, bigVal_eq, compare_smVal]
  unfold cmpSignedMag thenO
  rw [signum_eq, signum_eq, cmpMag_eq b a hb ha, cmpMag_eq a b ha hb]

theorem smVal_natAbs (i : Int) : smVal (decide (i < 0)) i.natAbs = i := by
  unfold smVal
  by_cases h : i < 0 <;> simp [h] <;> omega

theorem cmpIntBig_eq (i : Int) (n : Bool) (d : Bytes) (hd : minDigits d) :
    cmpIntBig i n d = compare i (bigVal n d) := by
  unfold cmpIntBig
  rw [cmpSignedMag_eq _ _ _ _ (minDigits_natDigits _) hd, bigVal_eq, magVal_natDigits, smVal_natAbs]

/-- the common scale: every finite double is an integer multiple of `2^-1074` -/
def scaleK : Nat := 2 ^ 1074
theorem scaleK_pos : 0 < scaleK := by unfold scaleK; apply Nat.pow_pos; decide
theorem scaleK_split (n : Nat) (h : n ≤ 1074) : scaleK = 2 ^ n * 2 ^ (1074 - n) := by
  unfold scaleK; rw [← Nat.pow_add]; congr 1; omega

theorem cmpNatDyadic_eq (v m : Nat) (e : Int) (he : -1074 ≤ e) :
    cmpNatDyadic v m e = compare (v * scaleK) (m * 2 ^ (e + 1074).toNat) := by
  unfold cmpNatDyadic
  by_cases h : e ≥ 0
  · obtain ⟨n, rfl⟩ := Int.eq_ofNat_of_zero_le h
    have : ((n : Int) + 1074).toNat = n + 1074 := by omega
    rw [if_pos h, this, Nat.pow_add, ← Nat.mul_assoc]
    show _ = compare (v * scaleK) (m * 2 ^ n * scaleK)
    rw [nat_compare_mul _ _ _ scaleK_pos, Int.toNat_natCast]
  · obtain ⟨n, rfl⟩ : ∃ n : Nat, e = -(n : Int) := ⟨(-e).toNat, by omega⟩
    have h1 : (-(n : Int) + 1074).toNat = 1074 - n := by omega
    have h2 : (-(-(n : Int))).toNat = n := by omega
    rw [if_neg h, h1, h2, scaleK_split n (by omega), ← Nat.mul_assoc, nat_compare_mul _ _ _ (Nat.pow_pos (by decide))]

/-- magnitude of a non-NaN float in units of `2^-1074` (for infinity: the value the exponent field 2047 would have) -/
def F64.mag (f : F64) : Nat := f.mant * 2 ^ (f.expo + 1074).toNat

theorem F64.mag_eq (f : F64) : f.mag = if f.exp = 0 then f.frac else (f.frac + 2 ^ 52) * 2 ^ (f.exp - 1) := by
  unfold F64.mag F64.mant F64.expo
  by_cases h : f.exp = 0
  · simp [h]
  · have : ((f.exp : Int) - 1075 + 1074).toNat = f.exp - 1 := by omega
    simp [h, this]

theorem f64_frac_lt (b : Nat) : (f64 b).frac < 2 ^ 52 := Nat.mod_lt _ (by decide)
theorem f64_exp_lt (b : Nat) : (f64 b).exp < 2048 := Nat.mod_lt _ (by decide)

theorem mag_lt_of_exp_lt (fa fb : F64) (ha : fa.frac < 2 ^ 52) (h : fa.exp < fb.exp) : fa.mag < fb.mag := by
  -- `fa.mag < 2^52 * 2^fa.exp ≤ 2^52 * 2^(fb.exp - 1) ≤ fb.mag`
  have up : fa.mag < 2 ^ 52 * 2 ^ fa.exp := by
    rw [F64.mag_eq]
    split
    · exact Nat.lt_of_lt_of_le ha (Nat.le_mul_of_pos_right _ (Nat.two_pow_pos _))
    · next h0 =>
      obtain ⟨e, he⟩ := Nat.exists_eq_add_one_of_ne_zero h0
      rw [he, Nat.add_sub_cancel, Nat.pow_succ (m := e), ← Nat.mul_assoc, Nat.mul_right_comm]
      exact Nat.mul_lt_mul_of_pos_right (by omega) (Nat.two_pow_pos e)
  have lo : 2 ^ 52 * 2 ^ (fb.exp - 1) ≤ fb.mag := by
    rw [F64.mag_eq, if_neg (by omega)]
    exact Nat.mul_le_mul_right _ (by omega)
  exact Nat.lt_of_lt_of_le up (Nat.le_trans (Nat.mul_le_mul_left _ (Nat.pow_le_pow_right (by decide) (by omega))) lo)
theorem expfrac_eq (fa fb : F64) (ha : fa.frac < 2 ^ 52) (hb : fb.frac < 2 ^ 52) :
    thenO (compare fa.exp fb.exp) (compare fa.frac fb.frac) = compare fa.mag fb.mag := by
  unfold thenO
  rcases Nat.lt_trichotomy fa.exp fb.exp with h | h | h
  · rw [Nat.compare_eq_lt.mpr h, Ordering.lt_then, Nat.compare_eq_lt.mpr (mag_lt_of_exp_lt fa fb ha h)]
  · rw [Nat.compare_eq_eq.mpr h, Ordering.eq_then, F64.mag_eq, F64.mag_eq, h]
    split
    · rfl
    · rw [nat_compare_mul _ _ _ (Nat.two_pow_pos _)]
      exact (nat_compare_add _ _ _).symm
  · rw [Nat.compare_eq_gt.mpr h, Ordering.gt_then, Nat.compare_eq_gt.mpr (mag_lt_of_exp_lt fb fa hb h)]

theorem F64.mag_eq_zero (f : F64) : f.mag = 0 ↔ f.exp = 0 ∧ f.frac = 0 := by
  rw [F64.mag_eq]
  by_cases h : f.exp = 0
  · simp [h]
  · simp only [h, if_false, false_and, iff_false]
    have : 0 < (f.frac + 2 ^ 52) * 2 ^ (f.exp - 1) := Nat.mul_pos (by omega) (Nat.two_pow_pos _)
    omega

theorem F64.sign_eq (f : F64) : f.sign = smSign f.neg f.mag := by
  simp only [F64.sign, smSign, F64.mag_eq_zero, F64.isZero, Bool.and_eq_true, beq_iff_eq]

theorem cmpNonNaN_eq (fa fb : F64) (ha : fa.frac < 2 ^ 52) (hb : fb.frac < 2 ^ 52) :
    cmpNonNaN fa fb = compare (smVal fa.neg fa.mag) (smVal fb.neg fb.mag) := by
  unfold cmpNonNaN
  rw [F64.sign_eq, F64.sign_eq, expfrac_eq fa fb ha hb, compare_smVal_guard]

/-- class of a float: 2 NaN, ±1 infinities, 0 finite -/
def fcls (f : F64) : Int := if f.isNaN then 2 else if f.isInf then (if f.neg then -1 else 1) else 0
/-- value of a finite float in units of `2^-1074` (0 for non-finite ones) -/
def fkey (f : F64) : Int := if f.exp = 2047 then 0 else smVal f.neg f.mag

def numKey : Term → Int × Int
  | .int i => (0, i * (scaleK : Int))
  | .big n d => (0, bigVal n d * (scaleK : Int))
  | .float b => (fcls (f64 b), fkey (f64 b))
  | _ => (0, 0)

def cmpKey (p q : Int × Int) : Ordering := (compare p.1 q.1).then (compare p.2 q.2)

theorem cmpKey_swap (p q : Int × Int) : cmpKey p q = (cmpKey q p).swap := by
  unfold cmpKey; rw [Ordering.swap_then, ← compare_int_rev, ← compare_int_rev]

theorem key_of_not_nan (f : F64) (hn : f.isNaN = false) :
    f.isInf = decide (f.exp = 2047) ∧ (f.exp = 2047 → f.frac = 0) ∧
      (fcls f, fkey f) = if f.exp = 2047 then (if f.neg then -1 else 1, 0) else (0, smVal f.neg f.mag) := by
  have hi : f.isInf = decide (f.exp = 2047) ∧ (f.exp = 2047 → f.frac = 0) := by
    simp only [F64.isNaN, F64.isInf] at hn ⊢
    by_cases h : f.exp = 2047 <;> simp_all
  refine ⟨hi.1, hi.2, ?_⟩
  unfold fcls fkey
  rw [hn, hi.1]
  by_cases h : f.exp = 2047 <;> simp [h]

theorem smVal_big (n1 n2 : Bool) (a b : Nat) (h : b < a) :
    compare (smVal n1 a) (smVal n2 b) = if n1 then .lt else .gt := by
  cases n1
  · exact Int.compare_eq_gt.mpr (by unfold smVal; cases n2 <;> simp <;> omega)
  · exact Int.compare_eq_lt.mpr (by unfold smVal; cases n2 <;> simp <;> omega)

theorem smSign_inf (n : Bool) (v : Nat) (h : 0 < v) : smSign n v = if n then -1 else 1 := by
  unfold smSign; simp [Nat.ne_of_gt h]

theorem F64.mag_pos (f : F64) (h : f.exp ≠ 0) : 0 < f.mag :=
  Nat.pos_of_ne_zero fun h0 => h ((F64.mag_eq_zero f).mp h0).1

/-- two non-NaN floats: the comparison of the extended magnitudes is the comparison of the keys -/
theorem xkey_cmp (fa fb : F64) (ha : fa.frac < 2 ^ 52) (hb : fb.frac < 2 ^ 52) (ea : fa.exp < 2048) (eb : fb.exp < 2048)
    (na : fa.isNaN = false) (nb : fb.isNaN = false) :
    compare (smVal fa.neg fa.mag) (smVal fb.neg fb.mag) = cmpKey (fcls fa, fkey fa) (fcls fb, fkey fb) := by
  obtain ⟨-, fa0, ka⟩ := key_of_not_nan fa na
  obtain ⟨-, fb0, kb⟩ := key_of_not_nan fb nb
  rw [ka, kb]
  unfold cmpKey
  by_cases h1 : fa.exp = 2047 <;> by_cases h2 : fb.exp = 2047 <;> simp only [h1, h2, if_true, if_false]
  · have hm : fa.mag = fb.mag := by rw [F64.mag_eq, F64.mag_eq, h1, h2, fa0 h1, fb0 h2]
    have hp := F64.mag_pos fb (by omega)
    rw [compare_smVal, hm, smSign_inf _ _ hp, smSign_inf _ _ hp]
    simp
  · rw [smVal_big _ _ _ _ (mag_lt_of_exp_lt fb fa hb (by omega))]; cases fa.neg <;> rfl
  · rw [compare_int_rev, smVal_big _ _ _ _ (mag_lt_of_exp_lt fa fb ha (by omega))]; cases fb.neg <;> rfl
  · simp

theorem key_of_nan (f : F64) (h : f.isNaN = true) : (fcls f, fkey f) = (2, 0) := by
  have : f.exp = 2047 := by simp only [F64.isNaN, Bool.and_eq_true, beq_iff_eq] at h; exact h.1
  simp [fcls, fkey, h, this]

theorem cmpFloat_key (a b : Nat) : cmpFloat a b = cmpKey (numKey (.float a)) (numKey (.float b)) := by
  unfold cmpFloat numKey
  cases ha : (f64 a).isNaN <;> cases hb : (f64 b).isNaN <;>
    simp only [Bool.and_true, Bool.and_false, Bool.false_eq_true, if_false, if_true]
  · rw [cmpNonNaN_eq _ _ (f64_frac_lt a) (f64_frac_lt b)]
    exact xkey_cmp _ _ (f64_frac_lt a) (f64_frac_lt b) (f64_exp_lt a) (f64_exp_lt b) ha hb
  · rw [key_of_nan _ hb, (key_of_not_nan _ ha).2.2, cmpKey]
    split <;> (try split) <;> rfl
  · rw [key_of_nan _ ha, (key_of_not_nan _ hb).2.2, cmpKey]
    split <;> (try split) <;> rfl
  · rw [key_of_nan _ ha, key_of_nan _ hb]; rfl

theorem smVal_mul (n : Bool) (v k : Nat) : smVal n v * (k : Int) = smVal n (v * k) := by
  unfold smVal; cases n <;> simp [Int.neg_mul]

theorem smSign_mul (n : Bool) (v k : Nat) (hk : 0 < k) : smSign n (v * k) = smSign n v := by
  simp only [smSign, Nat.mul_eq_zero, Nat.ne_of_gt hk, or_false]

theorem F64.expo_ge (f : F64) : -1074 ≤ f.expo := by
  unfold F64.expo; by_cases h : f.exp = 0 <;> simp [h] <;> omega

theorem smSign_cases (n : Bool) (v : Nat) : smSign n v = -1 ∨ smSign n v = 0 ∨ smSign n v = 1 := by
  unfold smSign; cases n <;> by_cases h : v = 0 <;> simp [h]

theorem cmpKey_zero (x y : Int) : cmpKey (0, x) (0, y) = compare x y := by
  simp [cmpKey]

theorem cmpSignedMagFloat_key (n : Bool) (d : Bytes) (bits : Nat) :
    cmpSignedMagFloat n d bits = cmpKey (0, bigVal n d * (scaleK : Int)) (fcls (f64 bits), fkey (f64 bits)) := by
  unfold cmpSignedMagFloat
  simp only []
  generalize f64 bits = f
  cases hn : f.isNaN
  · obtain ⟨hi, -, hk⟩ := key_of_not_nan f hn
    rw [if_neg (by simp), signum_eq, F64.sign_eq, bigVal_eq, smVal_mul, hk, hi]
    by_cases he : f.exp = 2047 <;> simp only [he, decide_true, decide_false, if_true, if_false, Bool.false_eq_true]
    · rw [smSign_inf _ _ (F64.mag_pos f (by omega))]
      rcases smSign_cases n (magVal d) with h | h | h <;> cases f.neg <;> simp [h, cmpKey] <;> rfl
    · rw [cmpNatDyadic_eq _ _ _ (F64.expo_ge f), cmpKey_zero, compare_smVal_guard, smSign_mul _ _ _ scaleK_pos]
      simp only [beq_iff_eq]
      rfl
  · rw [key_of_nan f hn]; rfl
def isNum : Term → Bool
  | .int _ | .big _ _ | .float _ => true
  | _ => false

/-- big integers carry minimal digits -/
def numOk : Term → Bool
  | .big _ d => minDigits d
  | _ => true

theorem cmpKey_fin (x y : Int) : cmpKey (0, x * (scaleK : Int)) (0, y * (scaleK : Int)) = compare x y := by
  rw [cmpKey_zero, int_compare_mul _ _ _ scaleK_pos]

theorem bigVal_natDigits (i : Int) : bigVal (decide (i < 0)) (natDigits i.natAbs) = i := by
  rw [bigVal_eq, magVal_natDigits, smVal_natAbs]

theorem cmpIntFloat_key (i : Int) (bits : Nat) :
    cmpIntFloat i bits = cmpKey (0, i * (scaleK : Int)) (fcls (f64 bits), fkey (f64 bits)) := by
  unfold cmpIntFloat
  rw [cmpSignedMagFloat_key, bigVal_natDigits]

theorem rank_of_isNum {a : Term} (h : isNum a) : rank a = 0 := by cases a <;> first | rfl | cases h

theorem cmpN_num (a b : Term) (ha : rank a = 0) (hb : rank b = 0) (wa : numOk a) (wb : numOk b) :
    cmpN a b = cmpKey (numKey a) (numKey b) := by
  rcases rank_eq_0 ha with ⟨x, rfl⟩ | ⟨n, d, rfl⟩ | ⟨f, rfl⟩ <;> rcases rank_eq_0 hb with ⟨y, rfl⟩ | ⟨n2, d2, rfl⟩ | ⟨g, rfl⟩ <;>
    simp only [numKey]
  · rw [cmpN_int_int, cmpKey_fin]
  · rw [cmpN_int_big, cmpIntBig_eq _ _ _ wb, cmpKey_fin]
  · rw [cmpN_int_float, cmpIntFloat_key]
  · rw [cmpN_big_int, cmpIntBig_eq _ _ _ wa, ← compare_int_rev, cmpKey_fin]
  · rw [cmpN_big_big, cmpSignedMag_eq _ _ _ _ wa wb, cmpKey_fin]
  · rw [cmpN_big_float, cmpSignedMagFloat_key]
  · rw [cmpN_float_int, cmpIntFloat_key, ← cmpKey_swap]
  · rw [cmpN_float_big, cmpSignedMagFloat_key, ← cmpKey_swap]
  · rw [cmpN_float_float, cmpFloat_key]; rfl

end Edp
