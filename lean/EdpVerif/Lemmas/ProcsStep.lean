import EdpVerif.Impl.Procs
/-! What one step of the small-step model of local processes (Impl/Procs.lean) does: for a client step and for a process step,
how each component of the state may change. The invariants of Lemmas/Procs.lean and Lemmas/ProcsLate.lean are proved from
these facts alone. -/
namespace Edp.Impl.Procs

@[simp] theorem upd_same {α : Type} (f : Nat → α) (i : Nat) (v : α) : upd f i v i = v := by simp [upd]
theorem upd_ne {α : Type} (f : Nat → α) {i x : Nat} (v : α) (h : x ≠ i) : upd f i v x = f x := by simp [upd, h]
theorem upd_apply {α : Type} (f : Nat → α) (i x : Nat) (v : α) : upd f i v x = if x = i then v else f x := rfl

theorem upd_field {α β : Type} (g : α → β) (f : Nat → α) {p : Nat} {r : α} (hr : g r = g (f p)) (a : Nat) :
    g (upd f p r a) = g (f a) := by
  rw [upd_apply]; split
  · subst a; exact hr
  · rfl

/-- a delivery seen from any record: the receiver's queue and history grow, nothing else changes anywhere -/
theorem upd_push (f : Pid → Proc) (a q : Pid) (s : Sender) (m : Msg) :
    upd f a ((f a).push s m) q = { f q with
      mailbox := (f q).mailbox ++ (if q = a then [m] else []),
      accepted := (f q).accepted ++ (if q = a then [(s, m)] else []) } := by
  rw [upd_apply]
  split
  · subst q; simp [Proc.push]
  · simp

theorem run_induct {P : St → Prop} (evs : List Ev) (st : St) (h : P st)
    (hstep : ∀ st e st', P st → stepEv st e = some st' → P st') : P (run st evs) := by
  induction evs generalizing st with
  | nil => exact h
  | cons e evs ih =>
    show P (run ((stepEv st e).getD st) evs)
    cases he : stepEv st e with
    | none => exact ih st h
    | some st' => exact ih st' (hstep st e st' h he)

theorem run_cons (st : St) (e : Ev) (evs : List Ev) : run st (e :: evs) = run ((stepEv st e).getD st) evs := rfl
theorem run_append (st : St) (a b : List Ev) : run st (a ++ b) = run (run st a) b := by
  simp [run, List.foldl_append]

theorem stepEv_start {st st' : St} {t : Tid} {op : Op} (h : stepEv st (.start t op) = some st') :
    st.cpc t = .idle ∧ st' = st.setC t op.entry := by
  simp only [stepEv] at h
  split at h
  · exact ⟨‹_›, (Option.some.inj h).symm⟩
  · cases h

@[simp] theorem mem_pidIns {p q : Pid} {l : List Pid} : q ∈ pidIns p l ↔ q = p ∨ q ∈ l := by
  unfold pidIns
  split
  · exact ⟨.inr, fun h => h.elim (· ▸ ‹_›) id⟩
  · simp [Or.comm]

@[simp] theorem mem_pidDel {p q : Pid} {l : List Pid} : q ∈ pidDel p l ↔ q ∈ l ∧ q ≠ p := by
  simp [pidDel]

@[simp] theorem mem_nameSweep {p : Pid} {e : Name × Pid} {l : List (Name × Pid)} : e ∈ nameSweep p l ↔ e ∈ l ∧ e.2 ≠ p := by
  simp [nameSweep]

@[simp] theorem mem_nameDel {n : Name} {e : Name × Pid} {l : List (Name × Pid)} : e ∈ nameDel n l ↔ e ∈ l ∧ e.1 ≠ n := by
  simp [nameDel]

@[simp] theorem gone_none : PPc.gone .none = false := rfl
@[simp] theorem gone_recv : PPc.gone .recv = false := rfl
@[simp] theorem gone_exiting : PPc.gone .exiting = false := rfl
@[simp] theorem gone_notifyL (l : List Pid) : PPc.gone (.notifyL l) = false := rfl
@[simp] theorem gone_sendL (a : Pid) (l : List Pid) : PPc.gone (.sendL a l) = false := rfl
@[simp] theorem gone_notifyM (l : List (Pid × Ref)) : PPc.gone (.notifyM l) = false := rfl
@[simp] theorem gone_sendM (a : Pid) (r : Ref) (l : List (Pid × Ref)) : PPc.gone (.sendM a r l) = false := rfl
@[simp] theorem gone_sweep : PPc.gone .sweep = true := rfl
@[simp] theorem gone_closing : PPc.gone .closing = true := rfl
@[simp] theorem gone_dead : PPc.gone .dead = true := rfl

/-- the process whose handle a client task holds at this point of its call -/
def CPc.holds : CPc → Option Pid
  | .sendPut p _ _ => some p
  | .lk2 _ a _ => some a
  | .lk4 _ _ b => some b
  | .mon3 _ b _ => some b
  | .dem2 _ b _ => some b
  | .lkB _ b => some b
  | .lkD a _ => some a
  | .monN2 a _ _ => some a
  | _ => none

/-- the process whose handle a process task holds -/
def PPc.holds : PPc → Option Pid
  | .sendL a _ => some a
  | .sendM a _ _ => some a
  | _ => Option.none

@[simp] theorem holds_idle  : CPc.holds (.idle ) = none := rfl
@[simp] theorem holds_spawn1 {a : _} : CPc.holds (.spawn1 a) = none := rfl
@[simp] theorem holds_spawn2 {a : _} : CPc.holds (.spawn2 a) = none := rfl
@[simp] theorem holds_reg1 {a : _} {b : _} : CPc.holds (.reg1 a b) = none := rfl
@[simp] theorem holds_reg2 {a : _} {b : _} : CPc.holds (.reg2 a b) = none := rfl
@[simp] theorem holds_unreg {a : _} : CPc.holds (.unreg a) = none := rfl
@[simp] theorem holds_whereis {a : _} : CPc.holds (.whereis a) = none := rfl
@[simp] theorem holds_registered  : CPc.holds (.registered ) = none := rfl
@[simp] theorem holds_count  : CPc.holds (.count ) = none := rfl
@[simp] theorem holds_sendName {a : _} {b : _} {c : _} : CPc.holds (.sendName a b c) = none := rfl
@[simp] theorem holds_sendGet {a : _} {b : _} {c : _} : CPc.holds (.sendGet a b c) = none := rfl
@[simp] theorem holds_lk1 {a : _} {b : _} {c : _} : CPc.holds (.lk1 a b c) = none := rfl
@[simp] theorem holds_lk3 {a : _} {b : _} {c : _} : CPc.holds (.lk3 a b c) = none := rfl
@[simp] theorem holds_mon1 {a : _} {b : _} : CPc.holds (.mon1 a b) = none := rfl
@[simp] theorem holds_mon2 {a : _} {b : _} {c : _} : CPc.holds (.mon2 a b c) = none := rfl
@[simp] theorem holds_dem1 {a : _} {b : _} {c : _} : CPc.holds (.dem1 a b c) = none := rfl
@[simp] theorem holds_sendPut {p i f} : CPc.holds (.sendPut p i f) = some p := rfl
@[simp] theorem holds_lk2 {x a b} : CPc.holds (.lk2 x a b) = some a := rfl
@[simp] theorem holds_lk4 {x a b} : CPc.holds (.lk4 x a b) = some b := rfl
@[simp] theorem holds_mon3 {a b r} : CPc.holds (.mon3 a b r) = some b := rfl
@[simp] theorem holds_dem2 {a b r} : CPc.holds (.dem2 a b r) = some b := rfl
@[simp] theorem holds_lkA {a b} : CPc.holds (.lkA a b) = none := rfl
@[simp] theorem holds_lkC {a b} : CPc.holds (.lkC a b) = none := rfl
@[simp] theorem holds_monN1 {a b r} : CPc.holds (.monN1 a b r) = none := rfl
@[simp] theorem holds_lkB {a b} : CPc.holds (.lkB a b) = some b := rfl
@[simp] theorem holds_lkD {a b} : CPc.holds (.lkD a b) = some a := rfl
@[simp] theorem holds_monN2 {a b r} : CPc.holds (.monN2 a b r) = some a := rfl
@[simp] theorem pholds_none : PPc.holds .none = Option.none := rfl
@[simp] theorem pholds_recv : PPc.holds .recv = Option.none := rfl
@[simp] theorem pholds_exiting : PPc.holds .exiting = Option.none := rfl
@[simp] theorem pholds_notifyL {l} : PPc.holds (.notifyL l) = Option.none := rfl
@[simp] theorem pholds_notifyM {l} : PPc.holds (.notifyM l) = Option.none := rfl
@[simp] theorem pholds_sweep : PPc.holds .sweep = Option.none := rfl
@[simp] theorem pholds_closing : PPc.holds .closing = Option.none := rfl
@[simp] theorem pholds_dead : PPc.holds .dead = Option.none := rfl
@[simp] theorem pholds_sendL {a l} : PPc.holds (.sendL a l) = some a := rfl
@[simp] theorem pholds_sendM {a r l} : PPc.holds (.sendM a r l) = some a := rfl

/-- split a hypothesis `h : clientStep st t = some st'` (or `procStep …`) into its cases and substitute `st'` -/
syntax "step_cases " ident : tactic
macro_rules
  | `(tactic| step_cases $h:ident) =>
    `(tactic| (first | unfold clientStep at $h:ident | unfold procStep at $h:ident);
              (repeat' split at $h:ident) <;>
              (first | (cases $h:ident; done) | (simp only [Option.some.injEq] at $h:ident; subst $h:ident)))

theorem clientStep_byName {st st' : St} {t : Tid} (h : clientStep st t = some st') :
    st'.byName = st.byName ∨
      (∃ n p, nameFind n st.byName = none ∧ p ∈ st.byPid ∧ st'.byName = st.byName ++ [(n, p)]) ∨
      (∃ n, st'.byName = nameDel n st.byName) := by
  step_cases h
  all_goals first
    | (left; rfl)
    | (right; left; exact ⟨_, _, ‹_›, ‹_›, rfl⟩)
    | (right; right; exact ⟨_, rfl⟩)

theorem clientStep_cpc {st st' : St} {t : Tid} (h : clientStep st t = some st') :
    (∀ t', t' ≠ t → st'.cpc t' = st.cpc t') ∧
    (∀ p, st'.cpc t = .spawn2 p → p = st.nextPid ∧ ∃ tr, st.cpc t = .spawn1 tr) ∧
    (∀ p, (st'.cpc t).holds = some p → p ∈ st.byPid) := by
  step_cases h
  all_goals refine ⟨fun t' ht => ?_, fun p hs => ?_, fun p hs => ?_⟩
  all_goals simp only [St.setC, St.ret, St.modP, St.deliver, upd_same] at *
  all_goals first
    | exact upd_ne _ _ ht
    | (cases hs <;> first | exact ⟨rfl, _, ‹_›⟩ | assumption)

theorem clientStep_cpc_ne {st st' : St} {t t' : Tid} (h : clientStep st t = some st') (hne : t' ≠ t) :
    st'.cpc t' = st.cpc t' :=
  (clientStep_cpc h).1 t' hne

/-- How `add_link`/`remove_link` (`add_monitor`/`remove_monitor`) may change the entries `l` of an `ExitSet` with flag
`closed`: an entry `x` new to a closed set is inserted and booked as late (`e x` is appended to `late`); otherwise the late
list stays, and the call is a set insertion or, on an open set, a removal. -/
def SetEdit {α β : Type} [DecidableEq α] (closed : Bool) (l l' : List α) (e : α → β) (late late' : List β) : Prop :=
  (∃ x, closed = true ∧ x ∉ l ∧ l' = l ++ [x] ∧ late' = late ++ [e x]) ∨
  (late' = late ∧ ((∃ x, ¬(closed = true ∧ x ∉ l) ∧ l' = setIns x l) ∨ (closed = false ∧ ∃ f, l' = l.filter f)))

/-- How the delivery of `m` from `s` to `q` by client task `t` is booked: a `send` in the task's `sent`, a `noproc`
notice in `sentNL` / `sentNM`. -/
def Booked (st st' : St) (t : Tid) (q : Pid) (s : Sender) (m : Msg) : Prop :=
  (∃ i f, s = .client t ∧ m = .regular i f ∧
    st'.sent = upd st.sent t (st.sent t ++ [(q, m)]) ∧ st'.sentNL = st.sentNL ∧ st'.sentNM = st.sentNM) ∨
  (∃ a, s = .late t ∧ m = .exitNoproc a ∧
    st'.sent = st.sent ∧ st'.sentNL = st.sentNL ++ [(a, q)] ∧ st'.sentNM = st.sentNM) ∨
  (∃ b r, s = .late t ∧ m = .monNoproc b r ∧
    st'.sent = st.sent ∧ st'.sentNL = st.sentNL ∧ st'.sentNM = st.sentNM ++ [(b, (q, r))])

/-- The process table, its index, and the books on deliveries and late entries.  A client step writes at most one record:
`spawn` creates the one of the next pid and later marks it inserted; with a handle in hand the task edits the link or the
monitor set, or delivers one message. -/
theorem clientStep_procs {st st' : St} {t : Tid} (h : clientStep st t = some st') :
    (((st'.procs = st.procs ∧ st'.nextPid = st.nextPid ∧ st'.byPid = st.byPid ∧
          (∀ tr, st.cpc t ≠ .spawn1 tr) ∧ ∀ q, st.cpc t ≠ .spawn2 q) ∨
       (∃ tr, st'.procs = upd st.procs st.nextPid { pc := .recv, trap := tr } ∧ st.cpc t = .spawn1 tr ∧
          st'.nextPid = st.nextPid + 1 ∧ st'.byPid = st.byPid) ∨
       (∃ q, st'.procs = upd st.procs q { st.procs q with inserted := true } ∧ st.cpc t = .spawn2 q ∧
          st'.nextPid = st.nextPid ∧ st'.byPid = pidIns q st.byPid)) ∧
      st'.sent = st.sent ∧ st'.sentNL = st.sentNL ∧ st'.sentNM = st.sentNM ∧ st'.lateL = st.lateL ∧ st'.lateM = st.lateM) ∨
    (∃ q r, st'.procs = upd st.procs q r ∧ (st.cpc t).holds = some q ∧ st'.nextPid = st.nextPid ∧ st'.byPid = st.byPid ∧
      st'.sent = st.sent ∧ st'.sentNL = st.sentNL ∧ st'.sentNM = st.sentNM ∧
      ((∃ l, r = { st.procs q with links := l } ∧ st'.lateM = st.lateM ∧
          SetEdit (st.procs q).closedL (st.procs q).links l (fun x => (q, x)) st.lateL st'.lateL) ∨
       (∃ l, r = { st.procs q with monitors := l } ∧ st'.lateL = st.lateL ∧
          SetEdit (st.procs q).closedM (st.procs q).monitors l (fun x => (q, x)) st.lateM st'.lateM))) ∨
    (∃ q s m, st'.procs = upd st.procs q ((st.procs q).push s m) ∧ (st.cpc t).holds = some q ∧
      (st.procs q).closed = false ∧ st'.nextPid = st.nextPid ∧ st'.byPid = st.byPid ∧
      st'.lateL = st.lateL ∧ st'.lateM = st.lateM ∧ Booked st st' t q s m) := by
  step_cases h
  -- One alternative per disjunct of the statement, in its order; `step_cases` has put the new state in place, so each
  -- is the disjunct with `rfl` for the equations and the guards of the step (`‹_›`) for the side conditions:
  -- 1. no record written: registry calls, lookups (`registry.get`), `make_reference`, a send or an edit refused;
  -- 2. `spawn1`, the allocation; 3. `spawn2`, `registry.insert`;
  -- 4. `lk2`/`lk4`, an edit of the link set of the held handle, in the three shapes of `SetEdit`: late entry to a
  --    closed set, `setIns`, removal from an open set; 5. `mon3`/`dem2`, the same on the monitor set;
  -- 6. `sendPut` delivers a regular message; 7. `lkB`/`lkD` deliver the `noproc` exit notice; 8. `monN2` delivers the
  --    `noproc` monitor notice (`Booked`, first to third case).
  all_goals first
    | (refine .inl ⟨.inl ⟨?_, ?_, ?_, ?_, ?_⟩, ?_, ?_, ?_, ?_, ?_⟩ <;>
        first | rfl | (simp only [*, ne_eq, reduceCtorEq, not_false_eq_true, implies_true]; done))
    | (refine .inl ⟨.inr (.inl ⟨_, rfl, ‹_›, ?_, ?_⟩), ?_, ?_, ?_, ?_, ?_⟩ <;> rfl)
    | (refine .inl ⟨.inr (.inr ⟨_, rfl, ‹_›, ?_, ?_⟩), ?_, ?_, ?_, ?_, ?_⟩ <;> rfl)
    | (refine .inr (.inl ⟨_, _, rfl, ?_, ?_, ?_, ?_, ?_, ?_, .inl ⟨_, rfl, ?_, by
          first
            | exact Or.inl ⟨_, (‹_ ∧ _›).1, (‹_ ∧ _›).2, rfl, rfl⟩
            | exact Or.inr ⟨rfl, .inl ⟨_, ‹_›, rfl⟩⟩
            | exact Or.inr ⟨rfl, .inr ⟨by simpa using ‹¬(st.procs _).closedL = true›, _, rfl⟩⟩⟩⟩) <;>
        first | rfl | (simp only [*, holds_lk2, holds_lk4]; done))
    | (refine .inr (.inl ⟨_, _, rfl, ?_, ?_, ?_, ?_, ?_, ?_, .inr ⟨_, rfl, ?_, by
          first
            | exact Or.inl ⟨_, (‹_ ∧ _›).1, (‹_ ∧ _›).2, rfl, rfl⟩
            | exact Or.inr ⟨rfl, .inl ⟨_, ‹_›, rfl⟩⟩
            | exact Or.inr ⟨rfl, .inr ⟨by simpa using ‹¬(st.procs _).closedM = true›, _, rfl⟩⟩⟩⟩) <;>
        first | rfl | (simp only [*, holds_mon3, holds_dem2]; done))
    | (refine .inr (.inr ⟨_, _, _, rfl, ?_, ?_, ?_, ?_, ?_, ?_, Or.inl ⟨_, _, rfl, rfl, ?_, ?_, ?_⟩⟩) <;>
        first | rfl | (simp only [*, holds_sendPut]; done) | simpa using ‹¬_›)
    | (refine .inr (.inr ⟨_, _, _, rfl, ?_, ?_, ?_, ?_, ?_, ?_, Or.inr (.inl ⟨_, rfl, rfl, ?_, ?_, ?_⟩)⟩) <;>
        first | rfl | (simp only [*, holds_lkB, holds_lkD]; done) | simpa using ‹¬_›)
    | (refine .inr (.inr ⟨_, _, _, rfl, ?_, ?_, ?_, ?_, ?_, ?_, Or.inr (.inr ⟨_, _, rfl, rfl, ?_, ?_, ?_⟩)⟩) <;>
        first | rfl | (simp only [*, holds_monN2]; done) | simpa using ‹¬_›)

/-- A client step leaves alone the fields of a record that only the process's own task writes; the allocation step of
`spawn` creates the record of `nextPid`. -/
theorem clientStep_own {st st' : St} {t : Tid} (h : clientStep st t = some st') (q : Pid) :
    (q = st.nextPid ∧ ∃ tr, st'.procs q = { pc := .recv, trap := tr }) ∨
    ∃ mb acc ls ms ins, st'.procs q =
      { st.procs q with mailbox := mb, accepted := acc, links := ls, monitors := ms, inserted := ins } := by
  rcases clientStep_procs h with ⟨(⟨e, _⟩ | ⟨tr, e, _⟩ | ⟨p, e, _⟩), _⟩ |
    ⟨p, r, e, _, _, _, _, _, _, (⟨l, rfl, _⟩ | ⟨l, rfl, _⟩)⟩ | ⟨p, s, m, e, _⟩ <;> rw [e]
  · exact .inr ⟨_, _, _, _, _, rfl⟩
  · by_cases hq : q = st.nextPid
    · exact .inl ⟨hq, tr, by rw [hq, upd_same]⟩
    · rw [upd_ne _ _ hq]; exact .inr ⟨_, _, _, _, _, rfl⟩
  all_goals
    rw [upd_apply]
    split
    · subst q; exact .inr ⟨_, _, _, _, _, rfl⟩
    · exact .inr ⟨_, _, _, _, _, rfl⟩

theorem clientStep_nextPid_le {st st' : St} {t : Tid} (h : clientStep st t = some st') : st.nextPid ≤ st'.nextPid := by
  rcases clientStep_procs h with ⟨(⟨_, e, _⟩ | ⟨_, _, _, e, _⟩ | ⟨_, _, _, e, _⟩), _⟩ | ⟨_, _, _, _, e, _⟩ |
    ⟨_, _, _, _, _, _, e, _⟩ <;> rw [e]
  all_goals first | exact Nat.le_refl _ | exact Nat.le_succ _

theorem clientStep_byPid {st st' : St} {t : Tid} (h : clientStep st t = some st') :
    st'.byPid = st.byPid ∨ (∃ p, st.cpc t = .spawn2 p ∧ st'.byPid = pidIns p st.byPid) := by
  rcases clientStep_procs h with ⟨(⟨_, _, e, _⟩ | ⟨_, _, _, _, e⟩ | ⟨p, _, hc, _, e⟩), _⟩ | ⟨_, _, _, _, _, e, _⟩ |
    ⟨_, _, _, _, _, _, _, e, _⟩
  · exact .inl e
  · exact .inl e
  · exact .inr ⟨p, hc, e⟩
  all_goals exact .inl e

theorem clientStep_byPid_mono {st st' : St} {t : Tid} (h : clientStep st t = some st') {q : Pid} (hq : q ∈ st.byPid) :
    q ∈ st'.byPid := by
  rcases clientStep_byPid h with e | ⟨p, _, e⟩ <;> rw [e]
  · exact hq
  · exact mem_pidIns.mpr (.inr hq)

theorem clientStep_sent {st st' : St} {t : Tid} (h : clientStep st t = some st') (t' : Tid) :
    st'.sent t' = st.sent t' ∨ ∃ p m, (st.cpc t).holds = some p ∧ st'.sent t' = st.sent t' ++ [(p, m)] := by
  rcases clientStep_procs h with ⟨_, e, _⟩ | ⟨_, _, _, _, _, _, e, _⟩ |
    ⟨p, _, m, _, hc, _, _, _, _, _, (⟨_, _, _, _, e, _⟩ | ⟨_, _, _, e, _⟩ | ⟨_, _, _, _, e, _⟩)⟩ <;> rw [e]
  · exact .inl rfl
  · exact .inl rfl
  · by_cases ht : t' = t
    · subst ht; rw [upd_same]; exact .inr ⟨p, m, hc, rfl⟩
    · rw [upd_ne _ _ ht]; exact .inl rfl
  all_goals exact .inl rfl

/-- what a client step does to one process record, as far as the registry invariant looks at it -/
theorem clientStep_record {st st' : St} {t : Tid} (h : clientStep st t = some st') (q : Pid) :
    (st.cpc t ≠ .spawn2 q ∧ (st'.procs q).pc = (st.procs q).pc ∧ (st'.procs q).inserted = (st.procs q).inserted ∧
      (st'.procs q).closed = (st.procs q).closed ∧
      ((st'.procs q).mailbox = (st.procs q).mailbox ∨ (st.cpc t).holds = some q) ∧
      ∀ tr, st.cpc t = .spawn1 tr → q ≠ st.nextPid) ∨
    (q = st.nextPid ∧ (∃ tr, st.cpc t = .spawn1 tr ∧ st'.procs q = { pc := .recv, trap := tr }) ∧ st'.nextPid = st.nextPid + 1) ∨
    (st.cpc t = .spawn2 q ∧ (st'.procs q).pc = (st.procs q).pc ∧ (st'.procs q).inserted = true ∧
      (st'.procs q).closed = (st.procs q).closed ∧ (st'.procs q).mailbox = (st.procs q).mailbox) := by
  have hold : ∀ p, (st.cpc t).holds = some p → st.cpc t ≠ .spawn2 q ∧ ∀ tr, st.cpc t = .spawn1 tr → q ≠ st.nextPid := by
    intro p hp
    constructor
    · intro e; rw [e] at hp; cases hp
    · intro tr e; rw [e] at hp; cases hp
  rcases clientStep_procs h with ⟨(⟨e, _, _, h1, h2⟩ | ⟨tr, e, hc, en, _⟩ | ⟨p, e, hc, _⟩), _⟩ |
    ⟨p, r, e, hc, _, _, _, _, _, (⟨l, rfl, _⟩ | ⟨l, rfl, _⟩)⟩ | ⟨p, s, m, e, hc, _⟩ <;> rw [e]
  · exact .inl ⟨h2 q, rfl, rfl, rfl, .inl rfl, fun tr e => absurd e (h1 tr)⟩
  · by_cases hq : q = st.nextPid
    · exact .inr (.inl ⟨hq, ⟨tr, hc, by rw [hq, upd_same]⟩, en⟩)
    · rw [upd_ne _ _ hq]
      exact .inl ⟨by rw [hc]; exact nofun, rfl, rfl, rfl, .inl rfl, fun _ _ => hq⟩
  · by_cases hq : q = p
    · subst hq; rw [upd_same]; exact .inr (.inr ⟨hc, rfl, rfl, rfl, rfl⟩)
    · rw [upd_ne _ _ hq]
      refine .inl ⟨?_, rfl, rfl, rfl, .inl rfl, ?_⟩
      · rw [hc]; exact fun e => hq (CPc.spawn2.inj e).symm
      · intro tr e; rw [hc] at e; cases e
  all_goals
    rw [upd_apply]
    split
    · subst q; exact .inl ⟨(hold _ hc).1, rfl, rfl, rfl, .inr hc, (hold _ hc).2⟩
    · exact .inl ⟨(hold _ hc).1, rfl, rfl, rfl, .inl rfl, (hold _ hc).2⟩

theorem procStep_byName {st st' : St} {p : Pid} {k : Nat} (h : procStep st p k = some st') :
    ((st.procs p).pc ≠ .sweep ∧ st'.byName = st.byName) ∨
      ((st.procs p).pc = .sweep ∧ st'.byName = nameSweep p st.byName) := by
  step_cases h
  all_goals first
    | (left; refine ⟨?_, rfl⟩; simp_all; done)
    | (right; exact ⟨‹_›, rfl⟩)

theorem procStep_globals {st st' : St} {p : Pid} {k : Nat} (h : procStep st p k = some st') :
    st'.cpc = st.cpc ∧ st'.sent = st.sent ∧ st'.nextPid = st.nextPid ∧ st'.nextRef = st.nextRef ∧ st'.out = st.out ∧
      st'.nameLock = st.nameLock ∧ st'.cap = st.cap := by
  step_cases h
  all_goals exact ⟨rfl, rfl, rfl, rfl, rfl, rfl, rfl⟩

theorem procStep_byPid {st st' : St} {p : Pid} {k : Nat} (h : procStep st p k = some st') :
    (st'.byPid = st.byPid ∧ ((st'.procs p).pc.gone = (st.procs p).pc.gone)) ∨
      ((st.procs p).pc = .notifyM [] ∧ st'.byPid = pidDel p st.byPid ∧ (st'.procs p).pc = .sweep) := by
  step_cases h
  -- the new state is explicit in every case: `simp` reads `byPid` and the `pc` of `p` off it
  all_goals simp [St.modP, St.deliver, upd_push, apply_ite PPc.gone, *]

theorem procStep_other {st st' : St} {p q : Pid} {k : Nat} (h : procStep st p k = some st') (hne : q ≠ p) :
    st'.procs q = st.procs q ∨ ∃ m, (st.procs p).pc.holds = some q ∧ (st.procs q).closed = false ∧
      st'.procs q = (st.procs q).push (.proc p) m := by
  step_cases h
  all_goals simp only [St.modP, St.deliver, upd_apply, hne, if_false]
  all_goals first
    | exact .inl trivial
    | (split
       · subst q; exact .inr ⟨_, by simp only [*, pholds_sendL, pholds_sendM], by simpa using ‹¬(st.procs _).closed = true›, rfl⟩
       · exact .inl rfl)

theorem procStep_own {st st' : St} {p q : Pid} {k : Nat} (h : procStep st p k = some st') (hne : q ≠ p) :
    ∃ mb acc, st'.procs q = { st.procs q with mailbox := mb, accepted := acc } := by
  rcases procStep_other h hne with e | ⟨m, _, _, e⟩ <;> rw [e] <;> exact ⟨_, _, rfl⟩

theorem procStep_self {st st' : St} {p : Pid} {k : Nat} (h : procStep st p k = some st') :
    (st'.procs p).inserted = (st.procs p).inserted ∧ (st'.procs p).pc ≠ .none ∧ (st.procs p).pc ≠ .none ∧
      (∀ a, (st'.procs p).pc.holds = some a → a ∈ st.byPid) ∧
      ((st'.procs p).closed = true → (st.procs p).closed = true ∨ (st'.procs p).pc = .dead) ∧
      ((st.procs p).pc = .dead → False) ∧
      ((st.procs p).pc = .recv → (st.procs p).mailbox ≠ []) := by
  step_cases h
  all_goals simp [St.modP, St.deliver, upd_push, *]
  -- left: the receive step, whose new `pc` is `if m.fails trap then .exiting else .recv`; neither is `.none`
  split <;> simp

/-! Counting in lists that grow at the end or lose one position: the books of the model (`accepted`, `sentL`, `lateL` …)
are such lists, and the invariants compare how often an entry occurs in them. -/

theorem count_eraseIdx {α : Type} [BEq α] [LawfulBEq α] {l : List α} {k : Nat} {a : α} (h : l[k]? = some a) (b : α) :
    l.count b = (l.eraseIdx k).count b + (if a == b then 1 else 0) := by
  induction l generalizing k with
  | nil => simp at h
  | cons x xs ih =>
    cases k with
    | zero =>
      simp at h; subst h
      simp [List.count_cons]
    | succ k =>
      simp at h
      have := ih h
      simp only [List.eraseIdx_cons_succ, List.count_cons]
      omega

theorem count_snoc {α : Type} [BEq α] [LawfulBEq α] [DecidableEq α] (l : List α) (x y : α) :
    (l ++ [x]).count y = l.count y + if y = x then 1 else 0 := by
  rw [List.count_append, List.count_singleton]
  by_cases h : y = x
  · subst h; simp
  · simp [h, Ne.symm h]

theorem count_opt {β : Type} [BEq β] [LawfulBEq β] [DecidableEq β] (c : Prop) [Decidable c] (b y : β) :
    (if c then [b] else []).count y = if c ∧ b = y then 1 else 0 := by
  by_cases hc : c <;> simp [hc, List.count_singleton]

theorem count_grow (acc : List (Sender × Msg)) (c : Prop) [Decidable c] (s : Sender) (m x : Msg) :
    ((acc ++ if c then [(s, m)] else []).map (·.2)).count x = (acc.map (·.2)).count x + if c ∧ m = x then 1 else 0 := by
  by_cases hc : c <;> by_cases hm : m = x <;> simp [hc, hm]

/-- One step of a task that walks a list `T` of entries to notify, moving them to `S` (sent) or `K` (skipped): it takes the
handle of an entry that is registered (the entry goes to the front), drops one that is not, and with the handle in hand
either finds the mailbox shut or delivers. -/
inductive Visit {α : Type} (reg shut : α → Prop) : List α → List α → List α → List α → List α → List α → Prop
  | idle {T S K} : Visit reg shut T S K T S K
  | hold {T S K x} (k : Nat) : T[k]? = some x → reg x → Visit reg shut T S K (x :: T.eraseIdx k) S K
  | miss {T S K x} (k : Nat) : T[k]? = some x → ¬ reg x → Visit reg shut T S K (T.eraseIdx k) S (K ++ [x])
  | shut {T S K x} : shut x → Visit reg shut (x :: T) S K T S (K ++ [x])
  | sent {T S K x} : ¬ shut x → Visit reg shut (x :: T) S K T (S ++ [x]) K

namespace Visit
variable {α : Type} {reg shut : α → Prop} {T S K T' S' K' : List α}

theorem count [BEq α] [LawfulBEq α] (h : Visit reg shut T S K T' S' K') (y : α) :
    T'.count y + S'.count y + K'.count y = T.count y + S.count y + K.count y := by
  cases h with
  | idle => rfl
  | hold k hk _ => have := count_eraseIdx hk y; simp only [List.count_cons]; omega
  | miss k hk _ => have := count_eraseIdx hk y; simp only [List.count_append, List.count_cons, List.count_nil]; omega
  | shut _ => simp only [List.count_append, List.count_cons, List.count_nil]; omega
  | sent _ => simp only [List.count_append, List.count_cons, List.count_nil]; omega

theorem skip (h : Visit reg shut T S K T' S' K') {y : α} (hy : y ∈ K') : y ∈ K ∨ ¬ reg y ∨ shut y := by
  cases h with
  | idle | hold | sent => exact .inl hy
  | miss k _ hr =>
    rcases List.mem_append.mp hy with hy | hy
    · exact .inl hy
    · cases List.mem_singleton.mp hy; exact .inr (.inl hr)
  | shut hs =>
    rcases List.mem_append.mp hy with hy | hy
    · exact .inl hy
    · cases List.mem_singleton.mp hy; exact .inr (.inr hs)

theorem nil (h : Visit reg shut [] S K T' S' K') : T' = [] ∧ S' = S ∧ K' = K := by
  cases h with
  | idle => exact ⟨rfl, rfl, rfl⟩
  | hold k hk | miss k hk => simp at hk

/-- A `Visit` step keeps the account of a walk over the snapshot `N`, in the form `LinkCons` and `MonCons` have it: once
the walk has started (`s`), to-do, sent and skipped together are `N`; before, nothing is sent or skipped (and, `hT`,
nothing is to do). -/
theorem cons [BEq α] [LawfulBEq α] {s : Bool} {N : List α} {y : α} (h : Visit reg shut T S K T' S' K')
    (hT : s = false → T = [])
    (hi : (s = true → T.count y + S.count y + K.count y = N.count y) ∧ (s = false → S = [] ∧ K = [])) :
    (s = true → T'.count y + S'.count y + K'.count y = N.count y) ∧ (s = false → S' = [] ∧ K' = []) := by
  refine ⟨fun hs => by rw [h.count y]; exact hi.1 hs, fun hs => ?_⟩
  rw [hT hs] at h
  rw [h.nil.2.1, h.nil.2.2]; exact hi.2 hs

end Visit

/-- The link side of the stepping process's own record: the step that reads the link set (`close_links`) fills in the
snapshot; every other step leaves snapshot and set alone and is one `Visit` step on (todo, sent, skipped). -/
theorem procStep_phaseL {st st' : St} {p : Pid} {k : Nat} (h : procStep st p k = some st') :
    ((st.procs p).pc = .exiting ∧ st'.procs p = { st.procs p with
        pc := .notifyL (st.procs p).links, closedL := true, snapL := (st.procs p).links, liveL := st.byPid }) ∨
    ((st'.procs p).pc.startedL = (st.procs p).pc.startedL ∧ (st'.procs p).closedL = (st.procs p).closedL ∧
      (st'.procs p).snapL = (st.procs p).snapL ∧ (st'.procs p).liveL = (st.procs p).liveL ∧
      (st'.procs p).links = (st.procs p).links ∧
      Visit (· ∈ st.byPid) (fun a => (st.procs a).closed = true) (st.procs p).pc.todoL (st.procs p).sentL (st.procs p).skipL
        (st'.procs p).pc.todoL (st'.procs p).sentL (st'.procs p).skipL) := by
  step_cases h
  all_goals simp only [St.modP, St.deliver, upd_same, upd_push, *, apply_ite PPc.startedL, apply_ite PPc.todoL]
  all_goals simp only [PPc.startedL, PPc.todoL, ite_self, reduceCtorEq, false_and, false_or, true_and, and_true, true_or]
  all_goals first
    | exact .idle
    | exact .hold k ‹_› ‹_›
    | exact .miss k ‹_› ‹_›
    | exact .shut ‹_›
    | exact .sent ‹_›

/-- the same on the monitor side; an entry is a pair (watcher, reference) and stands for its watcher -/
theorem procStep_phaseM {st st' : St} {p : Pid} {k : Nat} (h : procStep st p k = some st') :
    ((st.procs p).pc = .notifyL [] ∧ st'.procs p = { st.procs p with
        pc := .notifyM (st.procs p).monitors, closedM := true, snapM := (st.procs p).monitors, liveM := st.byPid }) ∨
    ((st'.procs p).pc.linksDone = (st.procs p).pc.linksDone ∧ (st'.procs p).closedM = (st.procs p).closedM ∧
      (st'.procs p).snapM = (st.procs p).snapM ∧ (st'.procs p).liveM = (st.procs p).liveM ∧
      (st'.procs p).monitors = (st.procs p).monitors ∧
      Visit (·.1 ∈ st.byPid) (fun x => (st.procs x.1).closed = true) (st.procs p).pc.todoM (st.procs p).sentM (st.procs p).skipM
        (st'.procs p).pc.todoM (st'.procs p).sentM (st'.procs p).skipM) := by
  step_cases h
  all_goals simp only [St.modP, St.deliver, upd_same, upd_push, *, apply_ite PPc.linksDone, apply_ite PPc.todoM]
  all_goals simp only [PPc.linksDone, PPc.todoM, ite_self, PPc.notifyL.injEq, reduceCtorEq, false_and, false_or, true_and, and_true, true_or]
  all_goals first
    | exact .idle
    | exact .hold k ‹_› ‹_›
    | exact .miss k ‹_› ‹_›
    | exact .shut ‹_›
    | exact .sent ‹_›

theorem procStep_record {st st' : St} {p q : Pid} {k : Nat} (h : procStep st p k = some st') (hne : q ≠ p) :
    (st'.procs q).pc = (st.procs q).pc ∧ (st'.procs q).inserted = (st.procs q).inserted ∧
      (st'.procs q).closed = (st.procs q).closed ∧
      ((st'.procs q).mailbox = (st.procs q).mailbox ∨ (st.procs p).pc.holds = some q) := by
  rcases procStep_other h hne with e | ⟨m, hh, _, e⟩ <;> rw [e]
  · exact ⟨rfl, rfl, rfl, .inl rfl⟩
  · exact ⟨rfl, rfl, rfl, .inr hh⟩

/-- how far a process task has come; a step never takes it back (`procStep_rank`) -/
def PPc.rank : PPc → Nat
  | .none => 0
  | .recv => 1
  | .exiting => 2
  | .notifyL _ | .sendL _ _ => 3
  | .notifyM _ | .sendM _ _ _ => 4
  | .sweep => 5
  | .closing => 6
  | .dead => 7

theorem terminating_iff_rank (pc : PPc) : pc.terminating = true ↔ 2 ≤ pc.rank := by cases pc <;> simp [PPc.terminating, PPc.rank]
theorem gone_iff_rank (pc : PPc) : pc.gone = true ↔ 5 ≤ pc.rank := by cases pc <;> simp [PPc.gone, PPc.rank]
theorem swept_iff_rank (pc : PPc) : pc.swept = true ↔ 6 ≤ pc.rank := by cases pc <;> simp [PPc.swept, PPc.rank]

theorem procStep_rank {st st' : St} {p : Pid} {k : Nat} (h : procStep st p k = some st') :
    (st.procs p).pc.rank ≤ (st'.procs p).pc.rank := by
  step_cases h
  all_goals simp only [St.modP, upd_same, *, apply_ite PPc.rank]
  all_goals first | (simp only [PPc.rank]; decide) | (split <;> simp only [PPc.rank] <;> decide)

theorem procStep_gone {st st' : St} {p : Pid} {k : Nat} (h : procStep st p k = some st')
    (hg : (st.procs p).pc.gone = true) : (st'.procs p).pc.gone = true :=
  (gone_iff_rank _).mpr (Nat.le_trans ((gone_iff_rank _).mp hg) (procStep_rank h))

/-- The queue of the stepping process itself: it takes the oldest message, or nothing is handled and at most its own
notice (a process linked to itself) is appended. -/
theorem procStep_queue {st st' : St} {p : Pid} {k : Nat} (h : procStep st p k = some st') :
    ((st.procs p).pc = .recv ∧ ∃ m, (st.procs p).mailbox = m :: (st'.procs p).mailbox ∧
      (st'.procs p).handled = (st.procs p).handled ++ [m] ∧ (st'.procs p).accepted = (st.procs p).accepted) ∨
    ((st'.procs p).handled = (st.procs p).handled ∧ ∃ d : List (Sender × Msg),
      (st'.procs p).mailbox = (st.procs p).mailbox ++ d.map (·.2) ∧ (st'.procs p).accepted = (st.procs p).accepted ++ d) := by
  step_cases h
  all_goals simp only [St.modP, St.deliver, upd_same, upd_push]
  all_goals first
    | exact .inl ⟨‹_›, _, ‹_›, rfl, trivial⟩
    | exact .inr ⟨trivial, [], (List.append_nil _).symm, (List.append_nil _).symm⟩
    | (refine .inr ⟨trivial, _, ?_, rfl⟩; split <;> rfl)

theorem procStep_late {st st' : St} {p : Pid} {k : Nat} (h : procStep st p k = some st') :
    st'.lateL = st.lateL ∧ st'.lateM = st.lateM ∧ st'.sentNL = st.sentNL ∧ st'.skipNL = st.skipNL ∧
      st'.noRegL = st.noRegL ∧ st'.sentNM = st.sentNM ∧ st'.skipNM = st.skipNM ∧ st'.noRegM = st.noRegM := by
  step_cases h
  all_goals exact ⟨rfl, rfl, rfl, rfl, rfl, rfl, rfl, rfl⟩

/-- The histories after a process step, for every record `a`: nothing is delivered, or the stepping process delivers its
exit (monitor) notice to the held handle `b` and counts `b` in its own `sentL` (`sentM`). -/
theorem procStep_accepted {st st' : St} {p : Pid} {k : Nat} (h : procStep st p k = some st') :
    (∀ a, (st'.procs a).accepted = (st.procs a).accepted ∧
      (st'.procs a).sentL = (st.procs a).sentL ∧ (st'.procs a).sentM = (st.procs a).sentM) ∨
    (∃ b rest, (st.procs p).pc = .sendL b rest ∧ ∀ a,
      (st'.procs a).accepted = (st.procs a).accepted ++ (if a = b then [(.proc p, .exit p)] else []) ∧
      (st'.procs a).sentL = (st.procs a).sentL ++ (if a = p then [b] else []) ∧ (st'.procs a).sentM = (st.procs a).sentM) ∨
    (∃ b r rest, (st.procs p).pc = .sendM b r rest ∧ ∀ a,
      (st'.procs a).accepted = (st.procs a).accepted ++ (if a = b then [(.proc p, .monExit p r)] else []) ∧
      (st'.procs a).sentL = (st.procs a).sentL ∧ (st'.procs a).sentM = (st.procs a).sentM ++ if a = p then [(b, r)] else []) := by
  step_cases h
  all_goals simp only [St.modP, St.deliver]
  all_goals first
    | (refine .inl fun a => ?_; rw [upd_apply]; split <;> simp [*]; done)
    | (refine .inr (.inl ⟨_, _, ‹_›, fun a => ?_⟩); rw [upd_apply]; split <;> simp [upd_push, *]; done)
    | (refine .inr (.inr ⟨_, _, _, ‹_›, fun a => ?_⟩); rw [upd_apply]; split <;> simp [upd_push, *]; done)

end Edp.Impl.Procs
