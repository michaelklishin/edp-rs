import EdpVerif.Impl.Connect
import EdpVerif.Lemmas.Handshake
import EdpVerif.Lemmas.Epmd
/-! Lemmas about the model of `Connection::connect`: when a helper step succeeds, the six steps chained, and
"an error never ends in Connected" by induction over an arbitrary step list. -/
namespace Edp.Impl.Connect
open Edp Edp.Impl.Handshake Edp.Spec.Handshake Edp.Lemmas.Handshake

section Steps
variable (cfg : Cfg) (dg : Bytes → Nat → Bytes) (c : Nat)

@[simp] theorem opOf_send_name (b : Bytes) : opOf "prepare_send_name" b c = some .prepareSendName := by simp [opOf]
@[simp] theorem opOf_status (b : Bytes) : opOf "handle_status" b c = some (.handleStatus b) := by simp [opOf]
@[simp] theorem opOf_complement (b : Bytes) : opOf "prepare_complement" b c = some .prepareComplement := by simp [opOf]
@[simp] theorem opOf_challenge (b : Bytes) : opOf "handle_challenge" b c = some (.handleChallenge b c) := by simp [opOf]
@[simp] theorem opOf_reply (b : Bytes) : opOf "prepare_challenge_reply" b c = some .prepareChallengeReply := by simp [opOf]
@[simp] theorem opOf_ack_eq (b : Bytes) : opOf "handle_challenge_ack" b c = some (.handleChallengeAck b) := by simp [opOf]

theorem sendStep_ok_iff (m : String) (wr : WrEv) (a a' : Acc) (op : Op) (hop : opOf m [] c = some op) :
    sendStep cfg dg c m wr a = (a', .ok ()) ↔
      wr = .ok ∧ ∃ b, (step cfg dg a.st op).2 = .bytes b ∧ a' = ⟨(step cfg dg a.st op).1, a.w ++ [b]⟩ := by
  simp only [sendStep, hop]
  rcases step cfg dg a.st op with ⟨s1, o⟩
  cases o <;> cases wr <;> simp [@eq_comm _ a']

theorem recvStep_ok_iff (m : String) (ev : PeerEv) (a a' : Acc) (op : Bytes → Op) (hop : ∀ b, opOf m b c = some (op b)) :
    recvStep cfg dg c m ev a = (a', .ok ()) ↔
      ∃ b, ev = .frame b ∧ (step cfg dg a.st (op b)).2 = .unit ∧ a' = ⟨(step cfg dg a.st (op b)).1, a.w⟩ := by
  cases ev with
  | close => simp [recvStep]
  | silent => simp [recvStep]
  | frame b =>
    simp only [recvStep, hop, PeerEv.frame.injEq, exists_eq_left']
    rcases step cfg dg a.st (op b) with ⟨s1, o⟩
    cases o <;> simp [@eq_comm _ a']

theorem send_name_iff (wr : WrEv) (o t n : Option Nat) (w : List Bytes) (a' : Acc) :
    sendStep cfg dg c "prepare_send_name" wr ⟨⟨.connecting, o, t, n⟩, w⟩ = (a', .ok ()) ↔
      cfg.name.length ≤ 255 ∧ wr = .ok ∧
      a' = ⟨⟨.awaitingStatus, o, t, n⟩, w ++ [Spec.Handshake.sendNameOld cfg.flags cfg.name]⟩ := by
  rw [sendStep_ok_iff cfg dg c _ _ _ _ _ (opOf_send_name c []), step_prepareSendName cfg dg _ rfl]
  by_cases hn : cfg.name.length ≤ 255 <;> simp [hn]

theorem recv_status_iff (ev : PeerEv) (o t n : Option Nat) (w : List Bytes) (a' : Acc) :
    recvStep cfg dg c "handle_status" ev ⟨⟨.awaitingStatus, o, t, n⟩, w⟩ = (a', .ok ()) ↔
      ∃ sb st, ev = .frame sb ∧ parseStatus sb = some st ∧ st.accepts = true ∧ a' = ⟨⟨.awaitingChallenge, o, t, n⟩, w⟩ := by
  rw [recvStep_ok_iff cfg dg c _ _ _ _ _ (opOf_status c)]
  refine exists_congr fun b => ?_
  rw [step_handleStatus cfg dg _ b rfl]
  cases hp : parseStatus b with
  | none => simp
  | some st => cases ha : st.accepts <;> simp [ha]

theorem send_compl_iff (wr : WrEv) (o t n : Option Nat) (w : List Bytes) (a' : Acc) :
    sendStep cfg dg c "prepare_complement" wr ⟨⟨.awaitingChallenge, o, t, n⟩, w⟩ = (a', .ok ()) ↔
      wr = .ok ∧ a' = ⟨⟨.awaitingChallenge, o, t, n⟩, w ++ [Spec.Handshake.complement cfg.flags cfg.creation]⟩ := by
  rw [sendStep_ok_iff cfg dg c _ _ _ _ _ (opOf_complement c []), step_prepareComplement cfg dg _ rfl]
  simp

theorem recv_chal_iff (ev : PeerEv) (o t n : Option Nat) (w : List Bytes) (a' : Acc) :
    recvStep cfg dg c "handle_challenge" ev ⟨⟨.awaitingChallenge, o, t, n⟩, w⟩ = (a', .ok ()) ↔
      ∃ cb m, ev = .frame cb ∧ parseChallenge cb = some m ∧
        a' = ⟨⟨.sendingChallengeReply, some c, some m.challenge, some (m.flags &&& cfg.flags)⟩, w⟩ := by
  rw [recvStep_ok_iff cfg dg c _ _ _ _ _ (opOf_challenge c)]
  refine exists_congr fun b => ?_
  rw [step_handleChallenge cfg dg _ b c rfl]
  cases hp : parseChallenge b <;> simp

theorem send_reply_iff (wr : WrEv) (o t : Nat) (n : Option Nat) (w : List Bytes) (a' : Acc) :
    sendStep cfg dg c "prepare_challenge_reply" wr ⟨⟨.sendingChallengeReply, some o, some t, n⟩, w⟩ = (a', .ok ()) ↔
      wr = .ok ∧ a' = ⟨⟨.awaitingChallengeAck, some o, some t, n⟩, w ++ [Spec.Handshake.reply o (dg cfg.cookie t)]⟩ := by
  rw [sendStep_ok_iff cfg dg c _ _ _ _ _ (opOf_reply c []), step_prepareChallengeReply cfg dg _ rfl]
  simp

theorem recv_ack_iff (ev : PeerEv) (o : Nat) (t n : Option Nat) (w : List Bytes) (a' : Acc) :
    recvStep cfg dg c "handle_challenge_ack" ev ⟨⟨.awaitingChallengeAck, some o, t, n⟩, w⟩ = (a', .ok ()) ↔
      ∃ ab, ev = .frame ab ∧ parseAck ab = some (dg cfg.cookie o) ∧ a' = ⟨⟨.connected, some o, t, n⟩, w⟩ := by
  rw [recvStep_ok_iff cfg dg c _ _ _ _ _ (opOf_ack_eq c)]
  refine exists_congr fun b => ?_
  rw [step_handleChallengeAck cfg dg _ b rfl]
  cases hp : parseAck b with
  | none => simp
  | some d => by_cases hd : d = dg cfg.cookie o <;> simp [hd]

theorem runSteps_write_ok (x m : String) (rest : List (String × String × String)) (evs : List PeerEv) (ws : List WrEv)
    (a af : Acc) :
    runSteps cfg dg c ((x, m, "write_raw") :: rest) evs ws a = (af, .ok ()) ↔
      ∃ a', sendStep cfg dg c m (ws.headD .ok) a = (a', .ok ()) ∧ runSteps cfg dg c rest evs ws.tail a' = (af, .ok ()) := by
  simp only [runSteps, ↓reduceIte]
  rcases sendStep cfg dg c m (ws.headD .ok) a with ⟨a1, r⟩
  cases r <;> simp

theorem runSteps_read_ok (x m : String) (rest : List (String × String × String)) (evs : List PeerEv) (ws : List WrEv)
    (a af : Acc) :
    runSteps cfg dg c ((x, m, "read") :: rest) evs ws a = (af, .ok ()) ↔
      ∃ a', recvStep cfg dg c m (evs.headD .silent) a = (a', .ok ()) ∧ runSteps cfg dg c rest evs.tail ws a' = (af, .ok ()) := by
  simp only [runSteps, show ("read" = "write_raw") = False by simp, ↓reduceIte]
  rcases recvStep cfg dg c m (evs.headD .silent) a with ⟨a1, r⟩
  cases r <;> simp

/-- the six helpers after `begin_connect` on a fresh connection: they all succeed exactly when every write went out and the
peer sent, in turn, an accepting status, a well-formed challenge and the digest of (cookie, the challenge generated here) -/
theorem handshake_ok_iff (e1 e2 e3 : PeerEv) (w1 w2 w3 : WrEv) (af : Acc) :
    runSteps cfg dg c Gen.CONNECT_STEPS [e1, e2, e3] [w1, w2, w3] ⟨⟨.connecting, none, none, none⟩, []⟩ = (af, .ok ()) ↔
      cfg.name.length ≤ 255 ∧ w1 = .ok ∧ w2 = .ok ∧ w3 = .ok ∧
      (∃ sb st, e1 = .frame sb ∧ parseStatus sb = some st ∧ st.accepts = true) ∧
      (∃ cb m, e2 = .frame cb ∧ parseChallenge cb = some m ∧
        (∃ ab, e3 = .frame ab ∧ parseAck ab = some (dg cfg.cookie c)) ∧
        af = ⟨⟨.connected, some c, some m.challenge, some (m.flags &&& cfg.flags)⟩,
              [Spec.Handshake.sendNameOld cfg.flags cfg.name, Spec.Handshake.complement cfg.flags cfg.creation,
               Spec.Handshake.reply c (dg cfg.cookie m.challenge)]⟩) := by
  simp only [Gen.CONNECT_STEPS, runSteps_write_ok, runSteps_read_ok, List.headD_cons, List.tail_cons]
  constructor
  · rintro ⟨a1, h1, a2, h2, a3, h3, a4, h4, a5, h5, a6, h6, h7⟩
    obtain ⟨hn, rfl, rfl⟩ := (send_name_iff ..).mp h1
    obtain ⟨sb, st, rfl, hs, ha, rfl⟩ := (recv_status_iff ..).mp h2
    obtain ⟨rfl, rfl⟩ := (send_compl_iff ..).mp h3
    obtain ⟨cb, m, rfl, hm, rfl⟩ := (recv_chal_iff ..).mp h4
    obtain ⟨rfl, rfl⟩ := (send_reply_iff ..).mp h5
    obtain ⟨ab, rfl, hab, rfl⟩ := (recv_ack_iff ..).mp h6
    cases h7
    exact ⟨hn, rfl, rfl, rfl, ⟨sb, st, rfl, hs, ha⟩, cb, m, rfl, hm, ⟨ab, rfl, hab⟩, rfl⟩
  · rintro ⟨hn, rfl, rfl, rfl, ⟨sb, st, rfl, hs, ha⟩, cb, m, rfl, hm, ⟨ab, rfl, hab⟩, rfl⟩
    exact ⟨_, (send_name_iff ..).mpr ⟨hn, rfl, rfl⟩, _, (recv_status_iff ..).mpr ⟨sb, st, rfl, hs, ha, rfl⟩,
      _, (send_compl_iff ..).mpr ⟨rfl, rfl⟩, _, (recv_chal_iff ..).mpr ⟨cb, m, rfl, hm, rfl⟩,
      _, (send_reply_iff ..).mpr ⟨rfl, rfl⟩, _, (recv_ack_iff ..).mpr ⟨ab, rfl, hab, rfl⟩, rfl⟩
end Steps

theorem opOf_ack (m : String) (b : Bytes) (c : Nat) (d : Bytes) (h : opOf m b c = some (.handleChallengeAck d)) :
    m = "handle_challenge_ack" := by
  let P (r : Option Op) : Prop := r = some (.handleChallengeAck d) → m = "handle_challenge_ack"
  revert h
  show P (opOf m b c)
  unfold opOf
  -- the five methods tested first give other calls
  iterate 5 refine Epmd.ite_cases (P := P) (fun _ h => nomatch h) fun _ => ?_
  exact Epmd.ite_cases (P := P) (fun hm _ => hm) fun _ h => nomatch h

/-- a sending helper never takes the machine into `Connected`: only a call that returns success does -/
theorem sendStep_not_connected (cfg : Cfg) (dg : Bytes → Nat → Bytes) (c : Nat) (m : String) (wr : WrEv) (a : Acc)
    (hn : a.st.state ≠ .connected) : (sendStep cfg dg c m wr a).1.st.state ≠ .connected := by
  unfold sendStep
  cases opOf m [] c with
  | none => exact hn
  | some op =>
    dsimp only
    have key := step_enter_connected cfg dg a.st op hn
    generalize step cfg dg a.st op = r at key ⊢
    obtain ⟨s', o⟩ := r
    cases o with
    | unit => exact hn
    | bytes b => cases wr <;> exact fun hc => nomatch (key hc).1
    | err e => exact fun hc => nomatch (key hc).1
    | panic => exact fun hc => nomatch (key hc).1

theorem recvStep_connected (cfg : Cfg) (dg : Bytes → Nat → Bytes) (c : Nat) (m : String) (ev : PeerEv) (a : Acc)
    (hn : a.st.state ≠ .connected) :
    (recvStep cfg dg c m ev a).1.st.state = .connected →
      (recvStep cfg dg c m ev a).2 = .ok () ∧ m = "handle_challenge_ack" := by
  unfold recvStep
  cases ev with
  | close => exact fun hc => absurd hc hn
  | silent => exact fun hc => absurd hc hn
  | frame b =>
    dsimp only
    cases hop : opOf m b c with
    | none => exact fun hc => absurd hc hn
    | some op =>
      dsimp only
      have key := step_enter_connected cfg dg a.st op hn
      generalize step cfg dg a.st op = r at key ⊢
      obtain ⟨s', o⟩ := r
      cases o with
      | unit =>
        intro hc
        obtain ⟨_, _, d, _, rfl, _⟩ := key hc
        exact ⟨rfl, opOf_ack m b c d hop⟩
      | bytes _ => exact fun hc => absurd hc hn
      | err e => exact fun hc => nomatch (key hc).1
      | panic => exact fun hc => nomatch (key hc).1

/-- whatever the step list: when the acknowledgement is read by the LAST step only, a run that ends in an error does not
end in `Connected` -/
theorem runSteps_error_not_connected (cfg : Cfg) (dg : Bytes → Nat → Bytes) (c : Nat) :
    ∀ (steps : List (String × String × String)) (evs : List PeerEv) (ws : List WrEv) (a a' : Acc) (e : CErr),
      (∀ x ∈ steps.dropLast, x.2.1 ≠ "handle_challenge_ack") → a.st.state ≠ .connected →
      runSteps cfg dg c steps evs ws a = (a', .error e) → a'.st.state ≠ .connected := by
  intro steps
  induction steps with
  | nil => intro evs ws a a' e _ _ h; simp [runSteps] at h
  | cons x rest ih =>
    intro evs ws a a' e hdl hn h
    obtain ⟨hname, m, io⟩ := x
    have hrest : ∀ y ∈ rest.dropLast, y.2.1 ≠ "handle_challenge_ack" := by
      intro y hy
      cases rest with
      | nil => simp at hy
      | cons z zs => exact hdl y (by simp [List.dropLast]; right; exact hy)
    simp only [runSteps] at h
    split at h
    · rcases hs : sendStep cfg dg c m (ws.headD .ok) a with ⟨a1, r1⟩
      have hn1 : a1.st.state ≠ .connected := by
        have := sendStep_not_connected cfg dg c m (ws.headD .ok) a hn
        rwa [hs] at this
      rw [hs] at h
      cases r1 with
      | error e1 => simp at h; rw [← h.1]; exact hn1
      | ok u => cases u; exact ih _ _ a1 a' e hrest hn1 h
    · split at h
      · have key := recvStep_connected cfg dg c m (evs.headD .silent) a hn
        rcases hs : recvStep cfg dg c m (evs.headD .silent) a with ⟨a1, r1⟩
        rw [hs] at h key
        cases r1 with
        | error e1 =>
          simp at h; rw [← h.1]
          exact fun hc => nomatch (key hc).1
        | ok u =>
          cases u
          cases rest with
          | nil => simp [runSteps] at h
          | cons z zs =>
            have hm : m ≠ "handle_challenge_ack" := hdl (hname, m, io) (by simp [List.dropLast])
            exact ih _ _ a1 a' e hrest (fun hc => hm (key hc).2) h
      · simp at h; rw [← h.1]; exact hn

theorem splitOnce_of_validate (name : Bytes) (p : Bytes × Bytes) (h : validateNodeName name = .ok p) :
    splitOnce name = some p := by
  unfold validateNodeName at h
  split at h
  · simp at h
  · split at h
    · simp at h
    · split at h
      · simp at h
      · simp at h; subst h; assumption

/-- a successful lookup implies the remote name has an '@' (the split `connect` itself makes cannot fail after it) -/
theorem lookup_split (env : Env) (p : Nat) (h : lookupRemote env = .ok p) : ∃ q, splitOnce env.remote = some q := by
  unfold lookupRemote at h
  split at h
  · simp at h
  · rename_i n hh hv
    exact ⟨_, splitOnce_of_validate _ _ hv⟩

/-- `connect` on a fresh connection: until the lookup and the TCP connect have succeeded only `begin_connect` has touched
the machine; from there on it is the six helpers -/
theorem connect_init (cfg : Cfg) (dg : Bytes → Nat → Bytes) (env : Env) :
    ((∃ p, lookupRemote env = .ok p) ∧ env.tcp = .ok ∧
      connect cfg dg State.init env = runSteps cfg dg env.c Gen.CONNECT_STEPS [env.status, env.chal, env.ack]
        [env.w1, env.w2, env.w3] ⟨⟨.connecting, none, none, none⟩, []⟩) ∨
    (¬ ((∃ p, lookupRemote env = .ok p) ∧ env.tcp = .ok) ∧
      ∃ e, connect cfg dg State.init env = (⟨⟨.connecting, none, none, none⟩, []⟩, .error e)) := by
  unfold connect
  simp only [step, State.init, ne_eq, not_true_eq_false, ↓reduceIte]
  cases hl : lookupRemote env with
  | error e => cases hsp : splitOnce env.remote <;> simp
  | ok p =>
    obtain ⟨q, hq⟩ := lookup_split env p hl
    simp only [hq]
    cases htcp : env.tcp <;> simp

end Edp.Impl.Connect
