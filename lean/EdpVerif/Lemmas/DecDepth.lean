import EdpVerif.Impl.DecodeMeter
import EdpVerif.Lemmas.DecSuffix
/-!
Nesting of decoded terms: a term the decoder model returns when entered at depth `d` is nested at most
`MAX_NESTING_DEPTH + 1 - d` levels deep (`Term.depth`, Impl/DecodeMeter.lean: containers one above their deepest
child, leaves 0).  Every container costs the decoder one level (`depth + 1` for its children, refused above
`MAX_NESTING_DEPTH`); the `+ 1` is the empty container at the last permitted level, whose children are never entered.
Hence whatever recurses over a decoded term structurally — `Drop`, `Clone`, `to_owned`, `Ord`, `Hash`, serde's
deserializer — recurses at most `MAX_NESTING_DEPTH + 2` frames deep.
-/
namespace Edp
open Term

theorem depthL_ints (s : Bytes) : Term.depthL (s.map fun b => Term.int b.toNat) = 0 := by
  induction s with
  | nil => rfl
  | cons b s ih => simp [Term.depthL, Term.depth, ih]

theorem depthKV_mapInsert_le (m : List (Term × Term)) (k v : Term) :
    Term.depthKV (mapInsert m k v) ≤ max (Term.depthKV m) (max k.depth v.depth) := by
  induction m with
  | nil => simp [mapInsert, Term.depthKV]
  | cons p0 r ih =>
    obtain ⟨k', v'⟩ := p0
    simp only [mapInsert]
    cases Term.cmp k k' <;> simp only [Term.depthKV] at ih ⊢ <;> omega

theorem depth_withLoc (l : Bytes) (t : Term) : (withLoc l t).depth = t.depth := by
  cases t <;> rfl

theorem depth_leaf {t : Term} (h : t.isLeaf = true) : t.depth = 0 := by
  cases t <;> first | rfl | cases h

/-- The bound is closed under everything the decoder builds.  An element or entry list collected at depth `d` is empty
(nothing of it was entered: the `+ 1` of the bound) or within the bound at `d`. -/
theorem depth_closed : DecClosed (fun d t => t.depth + d ≤ MAX_NESTING_DEPTH + 1)
    (fun d l => Term.depthL l = 0 ∨ Term.depthL l + d ≤ MAX_NESTING_DEPTH + 1)
    (fun d m => Term.depthKV m = 0 ∨ Term.depthKV m + d ≤ MAX_NESTING_DEPTH + 1) where
  leaf hd h := by rw [depth_leaf h]; omega
  str s hd := by simp only [Term.depth, depthL_ints]; omega
  tuple hd h := by simp only [Term.depth]; omega
  list hd h := by simp only [Term.depth]; omega
  ilist hd h ht := by simp only [Term.depth]; omega
  map hd h := by simp only [Term.depth]; omega
  ifun hd h := by simp only [Term.depth]; omega
  up hd h := by omega
  loc l h := by rw [depth_withLoc]; exact h
  nil := .inl rfl
  cons h hl := by simp only [Term.depthL]; omega
  kvnil := .inl rfl
  insert {d m k v} hm hk hv := by have := depthKV_mapInsert_le m k v; omega

theorem dec_depth (x : Ext) (cfg : DecCfg) (fuel d : Nat) (bs : Bytes) (t : Term) (r : Bytes)
    (h : dec x cfg fuel d bs = .ok (t, r)) : t.depth + d ≤ MAX_NESTING_DEPTH + 1 :=
  ((dec_parsed x cfg depth_closed fuel).1 d bs).val h

theorem decodeWith_depth (x : Ext) (cfg : DecCfg) (bs : Bytes) (t : Term) (h : decodeWith x cfg bs = .ok t) :
    t.depth ≤ MAX_NESTING_DEPTH + 1 := by
  unfold decodeWith at h
  split at h; cases h
  split at h; cases h
  split at h <;> cases h
  exact dec_depth _ _ _ _ _ _ _ ‹_›

end Edp
