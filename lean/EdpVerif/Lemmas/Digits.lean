import EdpVerif.Impl.Cmp
import EdpVerif.Impl.Encode
/-! Little-endian base-256 digits: the value `magVal` of a digit list, the `k` digits `leN k n` of a number, and the
significant digits of a list (those up to the last non-zero one). -/
namespace Edp

theorem magVal_lt : ∀ d : Bytes, magVal d < 256 ^ d.length
  | [] => by simp [magVal]
  | b :: r => by
    have := magVal_lt r
    have hb := b.toNat_lt
    simp only [magVal, List.length_cons, Nat.pow_succ]
    omega

theorem magVal_append (a b : Bytes) : magVal (a ++ b) = magVal a + 256 ^ a.length * magVal b := by
  induction a with
  | nil => simp [magVal]
  | cons x a ih =>
    simp only [List.cons_append, magVal, ih, List.length_cons, Nat.pow_succ]
    rw [Nat.mul_add, ← Nat.mul_assoc, Nat.mul_comm 256 (256 ^ a.length)]
    omega

theorem leN_length (k n : Nat) : (leN k n).length = k := by
  induction k generalizing n with
  | zero => simp [leN]
  | succ k ih => simp [leN, ih]

theorem magVal_leN (k n : Nat) : magVal (leN k n) = n % 256 ^ k := by
  induction k generalizing n with
  | zero => simp [leN, magVal, Nat.mod_one]
  | succ k ih =>
    have : (UInt8.ofNat (n % 256)).toNat = n % 256 := by simp [UInt8.toNat_ofNat']
    rw [leN, magVal, ih, this, Nat.pow_succ, Nat.mul_comm (256 ^ k) 256, Nat.mod_mul]

theorem magVal_zeros : ∀ (z : Bytes), (∀ x ∈ z, x = 0) → magVal z = 0
  | [], _ => rfl
  | x :: r, h => by
    rw [magVal, h x (by simp), magVal_zeros r fun y hy => h y (by simp [hy])]; rfl

theorem magVal_append_zeros (z : Bytes) (h : ∀ x ∈ z, x = 0) (a : Bytes) : magVal (a ++ z) = magVal a := by
  rw [magVal_append, magVal_zeros z h, Nat.mul_zero, Nat.add_zero]

/-- little-endian digits are their significant part (which does not end in zero) followed by zeros -/
theorem sig_split (l : Bytes) : ∃ a z, l = a ++ z ∧ (∀ x ∈ z, x = 0) ∧ (l.reverse.dropWhile (· == 0)).length = a.length ∧
    ∀ t x, a = t ++ [x] → x ≠ 0 := by
  refine ⟨(l.reverse.dropWhile (· == 0)).reverse, (l.reverse.takeWhile (· == 0)).reverse, ?_, ?_, by simp, ?_⟩
  · have := congrArg List.reverse (List.takeWhile_append_dropWhile (p := (· == (0 : UInt8))) (l := l.reverse))
    rw [List.reverse_append, List.reverse_reverse] at this
    exact this.symm
  · intro x hx
    simpa using List.all_eq_true.mp List.all_takeWhile x (List.mem_reverse.mp hx)
  · intro t x e
    have e' : l.reverse.dropWhile (· == 0) = x :: t.reverse := by simpa using congrArg List.reverse e
    have := List.head_dropWhile_not (· == (0 : UInt8)) (l := l.reverse) (by simp [e'])
    simpa [e'] using this

/-- digits beyond the significant ones do not count -/
theorem magVal_take (l : Bytes) (n : Nat) (h : (l.reverse.dropWhile (· == 0)).length ≤ n) : magVal (l.take n) = magVal l := by
  obtain ⟨a, z, rfl, hz, e, -⟩ := sig_split l
  rw [e] at h
  rw [List.take_append, List.take_of_length_le h, magVal_append_zeros z hz,
    magVal_append_zeros _ fun x hx => hz x (List.mem_of_mem_take hx)]

theorem sig_le_sigLen (l : Bytes) : (l.reverse.dropWhile (· == 0)).length ≤ sigLen l := by
  unfold sigLen
  split
  · simp [*]
  · exact Nat.le_refl _

theorem magVal_take_sigLen (d : Bytes) : magVal (d.take (sigLen d)) = magVal d :=
  magVal_take d _ (sig_le_sigLen d)

theorem magVal_snoc_ge (h : UInt8) (hh : h ≠ 0) : ∀ t : Bytes, 256 ^ t.length ≤ magVal (t ++ [h])
  | [] => by
    have : h.toNat ≠ 0 := fun e => hh (UInt8.toNat_inj.mp (by simpa using e))
    simp [magVal]; omega
  | b :: r => by
    have ih := magVal_snoc_ge h hh r
    simp only [List.cons_append, magVal, List.length_cons, Nat.pow_succ]
    omega

theorem le_magVal_of_sig (d : Bytes) (n : Nat) (h : n < (d.reverse.dropWhile (· == 0)).length) : 256 ^ n ≤ magVal d := by
  obtain ⟨a, z, rfl, hz, e, hx⟩ := sig_split d
  rw [e] at h
  rw [magVal_append_zeros z hz]
  rcases List.eq_nil_or_concat a with rfl | ⟨t, x, rfl⟩
  · exact absurd h (Nat.not_lt_zero n)
  · rw [List.concat_eq_append] at h hx ⊢
    rw [List.length_append, List.length_singleton] at h
    calc 256 ^ n ≤ 256 ^ t.length := Nat.pow_le_pow_right (by decide) (by omega)
      _ ≤ _ := magVal_snoc_ge x (hx t x rfl) t

end Edp
