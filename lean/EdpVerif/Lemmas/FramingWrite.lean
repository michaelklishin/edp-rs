import EdpVerif.Lemmas.Framing
/-! Lemmas for C05, write side: `write_all`, `flush` and `write_framed` on every sink script, write timeouts, and a caller
that sends several messages over the same sink. -/
namespace Edp.Framing
open Edp

theorem writeAll_nil (s : List WEv) : writeAll [] s = ⟨.ok (), [], s⟩ := by
  cases s <;> rfl

/-- what a sink accepted from `write_all` is a prefix of the buffer; all of it on success, not all of it on failure -/
theorem writeAll_spec (s : List WEv) (buf : Bytes) :
    (writeAll buf s).chunks.flatten <+: buf ∧
    ((writeAll buf s).res = .ok () → (writeAll buf s).chunks.flatten = buf) ∧
    (∀ e, (writeAll buf s).res = .error e → (writeAll buf s).chunks.flatten.length < buf.length) := by
  fun_induction writeAll buf s with
  | case3 _ _ _ ih => exact ih
  | case7 b bs k s hk o ih =>  -- the sink takes `k > 0` bytes
    obtain ⟨⟨u, hu⟩, i2, i3⟩ := ih
    have hl := congrArg List.length (List.take_append_drop k (b :: bs))
    rw [List.length_append] at hl
    simp only [o, List.flatten_cons]
    refine ⟨⟨u, ?_⟩, fun h => ?_, fun e h => ?_⟩
    · rw [List.append_assoc, hu, List.take_append_drop]
    · rw [i2 h, List.take_append_drop]
    · have := i3 e h
      rw [List.length_append]
      omega
  | _ => simp

/-- a sink that never fails, never accepts zero bytes and never stalls past the write timeout -/
def GoodSink (s : List WEv) : Prop := ∀ e ∈ s, e ≠ WEv.fail ∧ e ≠ WEv.accept 0 ∧ e ≠ WEv.stall

/-- a sink whose `poll_flush` never fails and never stalls past the timeout -/
def GoodFlush (fl : List FEv) : Prop := ∀ e ∈ fl, e ≠ FEv.fail ∧ e ≠ FEv.stall

theorem writeAll_good (s : List WEv) (buf : Bytes) (h : GoodSink s) :
    (writeAll buf s).res = .ok () ∧ GoodSink (writeAll buf s).rest := by
  fun_induction writeAll buf s with
  | case1 | case2 => exact ⟨rfl, h⟩
  | case3 _ _ _ ih | case7 _ _ _ _ _ _ ih => exact ih (List.forall_mem_cons.mp h).2
  | case4 => exact absurd rfl (h .fail (by simp)).1
  | case5 => exact absurd rfl (h .stall (by simp)).2.2
  | case6 => exact absurd rfl (h (.accept 0) (by simp)).2.1

theorem writeAll_nostall (s : List WEv) (buf : Bytes) (h : ∀ e ∈ s, e ≠ WEv.stall) :
    (writeAll buf s).res ≠ .error .timeout ∧ (∀ e ∈ (writeAll buf s).rest, e ≠ WEv.stall) := by
  fun_induction writeAll buf s with
  | case1 | case2 => exact ⟨nofun, h⟩
  | case3 _ _ _ ih | case7 _ _ _ _ _ _ ih => exact ih (List.forall_mem_cons.mp h).2
  | case4 | case6 => exact ⟨nofun, (List.forall_mem_cons.mp h).2⟩
  | case5 => exact absurd rfl (h .stall (by simp))

theorem flushAll_good (fl : List FEv) (h : GoodFlush fl) : (flushAll fl).1 = .ok () ∧ GoodFlush (flushAll fl).2 := by
  fun_induction flushAll fl with
  | case1 => exact ⟨rfl, h⟩
  | case2 => exact ⟨rfl, (List.forall_mem_cons.mp h).2⟩
  | case3 _ ih => exact ih (List.forall_mem_cons.mp h).2
  | case4 => exact absurd rfl (h .fail (by simp)).1
  | case5 => exact absurd rfl (h .stall (by simp)).2

theorem flushAll_nostall (fl : List FEv) (h : ∀ e ∈ fl, e ≠ FEv.stall) :
    (flushAll fl).1 ≠ .error .timeout ∧ (∀ e ∈ (flushAll fl).2, e ≠ FEv.stall) := by
  fun_induction flushAll fl with
  | case1 => exact ⟨nofun, h⟩
  | case2 | case4 => exact ⟨nofun, (List.forall_mem_cons.mp h).2⟩
  | case3 _ ih => exact ih (List.forall_mem_cons.mp h).2
  | case5 => exact absurd rfl (h .stall (by simp))

/-- everything `write_framed` guarantees, on every sink script and every flush script -/
theorem writeFramed_spec (mode : Mode) (msg : Bytes) (s : List WEv) (fl : List FEv) :
    (writeFramed mode msg s fl).chunks.flatten <+: frame mode msg ∧
    ((writeFramed mode msg s fl).res = .ok () →
      (writeFramed mode msg s fl).chunks.flatten = frame mode msg ∧ (writeFramed mode msg s fl).flushes = 1) ∧
    (∀ e, (writeFramed mode msg s fl).res = .error e → (writeFramed mode msg s fl).flushes = 0 ∧
      ((writeFramed mode msg s fl).chunks.flatten.length < (frame mode msg).length ∨
        (flushAll fl).1 = .error e)) ∧
    ((writeFramed mode msg s fl).chunks.flatten.length < (frame mode msg).length →
      ∃ e, (writeFramed mode msg s fl).res = .error e) := by
  obtain ⟨⟨u, a1⟩, a2, a3⟩ := writeAll_spec s (beN mode.prefixSize msg.length)
  obtain ⟨⟨w, b1⟩, b2, b3⟩ := writeAll_spec (writeAll (beN mode.prefixSize msg.length) s).rest msg
  unfold frame
  -- the four outcomes: the length is not written; the data is not; the flush fails; all three succeed
  fun_cases writeFramed mode msg s fl with
  | case1 o1 e h1 =>
    simp only [o1] at h1 ⊢
    have := a3 e h1
    refine ⟨⟨u ++ msg, by rw [← List.append_assoc, a1]⟩, nofun, fun _ _ => ⟨trivial, Or.inl ?_⟩, fun _ => ⟨e, rfl⟩⟩
    rw [List.length_append]
    omega
  | case2 o1 h1 o2 e h2 =>
    simp only [o2, o1] at h1 h2 ⊢
    have := b3 e h2
    simp only [List.flatten_append, a2 h1]
    refine ⟨⟨w, by rw [List.append_assoc, b1]⟩, nofun, fun _ _ => ⟨trivial, Or.inl ?_⟩, fun _ => ⟨e, rfl⟩⟩
    rw [List.length_append, List.length_append]
    omega
  | case3 o1 h1 o2 h2 e fr h3 =>
    simp only [o2, o1] at h1 h2 ⊢
    simp only [List.flatten_append, a2 h1, b2 h2, h3]
    exact ⟨List.prefix_refl _, nofun, fun _ he => ⟨trivial, Or.inr he⟩, fun _ => ⟨e, rfl⟩⟩
  | case4 o1 h1 o2 h2 fr h3 =>
    simp only [o2, o1] at h1 h2 ⊢
    simp only [List.flatten_append, a2 h1, b2 h2]
    exact ⟨List.prefix_refl _, fun _ => ⟨trivial, trivial⟩, nofun, fun h => absurd h (Nat.lt_irrefl _)⟩

theorem writeFramed_good (mode : Mode) (msg : Bytes) (s : List WEv) (fl : List FEv) (hs : GoodSink s)
    (hf : GoodFlush fl) :
    (writeFramed mode msg s fl).res = .ok () ∧ GoodSink (writeFramed mode msg s fl).rest ∧
      GoodFlush (writeFramed mode msg s fl).frest := by
  obtain ⟨g1, g2⟩ := writeAll_good s (beN mode.prefixSize msg.length) hs
  obtain ⟨g3, g4⟩ := writeAll_good _ msg g2
  obtain ⟨g5, g6⟩ := flushAll_good fl hf
  fun_cases writeFramed mode msg s fl with
  | case1 o1 e h1 => exact absurd (g1.symm.trans h1) nofun
  | case2 o1 _ o2 e h2 => exact absurd (g3.symm.trans h2) nofun
  | case3 o1 _ o2 _ e fr h3 => rw [h3] at g5; cases g5
  | case4 o1 _ o2 _ fr h3 => rw [h3] at g6; exact ⟨rfl, g4, g6⟩

theorem writeFramed_nostall (mode : Mode) (msg : Bytes) (s : List WEv) (fl : List FEv)
    (hs : ∀ e ∈ s, e ≠ WEv.stall) (hf : ∀ e ∈ fl, e ≠ FEv.stall) :
    (writeFramed mode msg s fl).res ≠ .error .timeout ∧ (∀ e ∈ (writeFramed mode msg s fl).rest, e ≠ WEv.stall) ∧
      (∀ e ∈ (writeFramed mode msg s fl).frest, e ≠ FEv.stall) := by
  obtain ⟨g1, g2⟩ := writeAll_nostall s (beN mode.prefixSize msg.length) hs
  obtain ⟨g3, g4⟩ := writeAll_nostall _ msg g2
  obtain ⟨g5, g6⟩ := flushAll_nostall fl hf
  fun_cases writeFramed mode msg s fl with
  | case1 o1 e h1 => exact ⟨h1 ▸ g1, g2, hf⟩
  | case2 o1 _ o2 e h2 => exact ⟨h2 ▸ g3, g4, hf⟩
  | case3 o1 _ o2 _ e fr h3 => rw [h3] at g5 g6; exact ⟨g5, g4, g6⟩
  | case4 o1 _ o2 _ fr h3 => rw [h3] at g6; exact ⟨nofun, g4, g6⟩

theorem writeMany_good (mode : Mode) : ∀ (msgs : List Bytes) (s : List WEv) (fl : List FEv), GoodSink s →
    GoodFlush fl →
    (writeMany mode msgs s fl).1 = msgs.map (fun _ => .ok ()) ∧
      (writeMany mode msgs s fl).2.flatten = (msgs.map (frame mode)).flatten := by
  intro msgs
  induction msgs with
  | nil => intro s fl _ _; exact ⟨rfl, rfl⟩
  | cons m ms ih =>
    intro s fl hs hf
    obtain ⟨g1, g2, g3⟩ := writeFramed_good mode m s fl hs hf
    obtain ⟨i1, i2⟩ := ih _ _ g2 g3
    have sp := (writeFramed_spec mode m s fl).2.1 g1
    simp only [writeMany, g1, List.map_cons, List.flatten_cons, List.flatten_append]
    exact ⟨by rw [i1], by rw [i2, sp.1]⟩

/-- without write timeouts, what reaches the wire is always a prefix of the frames of the messages, in order -/
theorem writeMany_nostall (mode : Mode) : ∀ (msgs : List Bytes) (s : List WEv) (fl : List FEv),
    (∀ e ∈ s, e ≠ WEv.stall) → (∀ e ∈ fl, e ≠ FEv.stall) →
    (∀ r ∈ (writeMany mode msgs s fl).1, r ≠ .error .timeout) ∧
      (writeMany mode msgs s fl).2.flatten <+: (msgs.map (frame mode)).flatten := by
  intro msgs
  induction msgs with
  | nil => intro s fl _ _; exact ⟨by simp [writeMany], by simp [writeMany]⟩
  | cons m ms ih =>
    intro s fl hs hf
    obtain ⟨g1, g2, g3⟩ := writeFramed_nostall mode m s fl hs hf
    obtain ⟨sp1, sp2, _, _⟩ := writeFramed_spec mode m s fl
    obtain ⟨i1, i2⟩ := ih _ _ g2 g3
    cases hr : (writeFramed mode m s fl).res with
    | ok u =>
      cases u
      have := (sp2 hr).1
      simp only [writeMany, hr, List.map_cons, List.flatten_cons, List.flatten_append, this]
      refine ⟨?_, ?_⟩
      · intro r h
        rcases List.mem_cons.mp h with h | h
        · subst h; simp
        · exact i1 r h
      · exact (List.prefix_append_right_inj _).mpr i2
    | error e =>
      cases e with
      | timeout => exact absurd hr g1
      | writeZero | io =>
        simp only [writeMany, hr, List.map_cons, List.flatten_cons]
        exact ⟨by simp, List.IsPrefix.trans sp1 (List.prefix_append _ _)⟩

end Edp.Framing
