import EdpVerif.Impl.ReceiverBP
import EdpVerif.Lemmas.Receiver
/-! Lemmas about inbound routing with bounded mailboxes (`Impl/ReceiverBP.lean`): the bounded system with waiting sends
refines the unbounded `routeAll` on the frames consumed so far; what blocks the receiver and what releases it. -/
namespace Edp.ReceiverBP
open Edp Edp.Receiver Edp.Chan

/-- `Node::route_message` (`Receiver.route`) = decide what to do (`routeAct`), then do it (`applyAct`): the two are the
same tree of matches, so in each case of `route` the hypotheses of the case send `routeActG` down the same branch. -/
theorem route_eq_applyAct (st : NodeSt) (m : Control.Msg) (p : Option Term) :
    route st m p = applyAct st (routeAct st m p) := by
  have hw (n : Bytes) : whereis st n = (st.names.find? fun p => p.1 = n).map (·.2) := by
    unfold whereis
    cases st.names.find? _ <;> rfl
  unfold routeAct routeActG
  fun_cases route st m p <;> simp only [applyAct, if_true, if_false, Bool.false_eq_true, *]
  -- left over: the three outcomes of `whereis` in the REG_SEND arm, which `routeActG` spells out as `find?`
  case case6 h hl =>
    obtain ⟨e, he, rfl⟩ := Option.map_eq_some_iff.mp ((hw _).symm.trans h)
    simp only [he, hl, if_true]
  case case7 h hl =>
    obtain ⟨e, he, rfl⟩ := Option.map_eq_some_iff.mp ((hw _).symm.trans h)
    simp only [he, hl, Bool.false_eq_true, if_false]
  case case8 h => simp only [Option.map_eq_none_iff.mp ((hw _).symm.trans h)]

/-! ### `view` and `total` look the same to `route_message` -/

theorem isLive_view_total (b : BSt) (k : PidKey) : isLive b.view k = isLive b.total k := by
  have hl (st : NodeSt) : isLive st k = (st.procs.find? (fun p => p.1 = k)).isSome := by
    unfold isLive mailbox
    cases st.procs.find? (fun p => p.1 = k) <;> rfl
  rw [hl, hl]
  unfold BSt.view BSt.total
  simp only
  rw [List.find?_map, List.find?_map, Option.isSome_map, Option.isSome_map]
  rfl

theorem routeAct_view_total (b : BSt) (m : Control.Msg) (p : Option Term) :
    routeAct b.view m p = routeAct b.total m p := by
  unfold routeAct
  have h : isLive b.view = isLive b.total := funext (isLive_view_total b)
  rw [h]
  rfl

/-! ### the effects commute with `total` -/

theorem total_push (b : BSt) (k : PidKey) (m : LMsg) : (b.push k m).total = sendTo b.total k m := by
  unfold BSt.push BSt.total sendTo
  simp only [List.map_map, NodeSt.mk.injEq, and_true]
  apply List.map_congr_left
  intro x _
  simp only [Function.comp]
  by_cases h : x.key = k <;> simp [h, List.append_assoc]

theorem total_dropped (b : BSt) (d : List (PidKey × LMsg)) : ({ b with dropped := d } : BSt).total = b.total := rfl

theorem takeFirst_total (k : PidKey) (bs bs' : List Box) (h : takeFirst k bs = some bs') :
    bs'.map (fun x => (x.key, x.taken ++ x.queue)) = bs.map (fun x => (x.key, x.taken ++ x.queue)) := by
  fun_induction takeFirst k bs generalizing bs' with
  | case1 => cases h
  | case2 x r _ m q hq => cases h; simp [hq]
  | case3 x r _ _ ih => obtain ⟨r', hr', rfl⟩ := Option.map_eq_some_iff.mp h; simp [ih r' hr']
  | case4 x r _ ih => obtain ⟨r', hr', rfl⟩ := Option.map_eq_some_iff.mp h; simp [ih r' hr']

/-- the unbounded model on one result -/
def stepRes (st : NodeSt) : Except RxErr Received → NodeSt
  | .ok (m, p) => route st m p
  | .error _ => st

theorem routeRes_append (a b : List (Except RxErr Received)) (st : NodeSt) :
    routeRes st (a ++ b) = routeRes (routeRes st a) b := by
  induction a generalizing st with
  | nil => rfl
  | cons r t ih =>
    cases r with
    | error e => exact ih st
    | ok v => obtain ⟨m, p⟩ := v; exact ih (route st m p)

theorem routeRes_snoc (a : List (Except RxErr Received)) (r : Except RxErr Received) (st : NodeSt) :
    routeRes st (a ++ [r]) = stepRes (routeRes st a) r := by
  rw [routeRes_append]
  cases r with
  | error e => rfl
  | ok v => obtain ⟨m, p⟩ := v; rfl

/-- an enabled receiver step under waiting sends does to `total` exactly what the unbounded model does with that result;
nothing is dropped -/
theorem rxStep_await (F : Arm → Form) (hF : ∀ a, F a = .await) (cap : Nat) (s s' : Sys) (h : rxStep F cap s = some s') :
    ∃ r rest, s.todo = r :: rest ∧ s'.todo = rest ∧ s'.done = s.done ++ [r] ∧
      s'.b.total = stepRes s.b.total r ∧ s'.b.dropped = s.b.dropped := by
  unfold rxStep at h
  cases ht : s.todo with
  | nil => rw [ht] at h; cases h
  | cons r rest =>
    rw [ht] at h
    refine ⟨r, rest, rfl, ?_⟩
    -- the step advances to some `b'`; what remains is what `b'` is
    suffices ∃ b', s.advance b' = s' ∧ b'.total = stepRes s.b.total r ∧ b'.dropped = s.b.dropped by
      obtain ⟨b', rfl, h1, h2⟩ := this
      unfold Sys.advance
      rw [ht]
      exact ⟨rfl, rfl, h1, h2⟩
    cases r with
    | error e => exact ⟨_, Option.some.inj h, rfl, rfl⟩
    | ok v =>
      obtain ⟨m, p⟩ := v
      have hr : stepRes s.b.total (.ok (m, p)) = applyAct s.b.total (routeAct s.b.view m p) := by
        rw [routeAct_view_total]; exact route_eq_applyAct _ _ _
      rw [hr]
      simp only at h
      generalize routeAct s.b.view m p = act at h ⊢
      cases act with
      | nothing => exact ⟨_, Option.some.inj h, rfl, rfl⟩
      | answer key body => exact ⟨_, Option.some.inj h, rfl, rfl⟩
      | deliver k msg arm =>
        simp only [hF, Form.givesUp] at h
        split at h
        · exact ⟨_, Option.some.inj h, total_push s.b k msg, rfl⟩
        · simp at h

theorem takeStep_total (s s' : Sys) (k : PidKey) (h : takeStep s k = some s') :
    s'.b.total = s.b.total ∧ s'.todo = s.todo ∧ s'.done = s.done ∧ s'.b.dropped = s.b.dropped := by
  unfold takeStep at h
  simp only [Option.map_eq_some_iff] at h
  obtain ⟨bs, hb, rfl⟩ := h
  refine ⟨?_, rfl, rfl, rfl⟩
  unfold BSt.total
  simp only [takeFirst_total k _ bs hb]

/-- **refinement**: along every schedule of the bounded system whose sends all wait, the receiver has got through some
prefix `d` of what it had to do, and the history of every mailbox (taken by its process ++ still queued), the names, the
outstanding calls and their answers are what the unbounded model makes of `d`; nothing is dropped -/
theorem runB_await (F : Arm → Form) (hF : ∀ a, F a = .await) (cap : Nat) (evs : List Ev) (s : Sys) :
    ∃ d, (runB F cap s evs).done = s.done ++ d ∧ s.todo = d ++ (runB F cap s evs).todo ∧
      (runB F cap s evs).b.total = routeRes s.b.total d ∧ (runB F cap s evs).b.dropped = s.b.dropped := by
  induction evs generalizing s with
  | nil => exact ⟨[], (List.append_nil _).symm, rfl, rfl, rfl⟩
  | cons e es ih =>
    rw [show runB F cap s (e :: es) = runB F cap ((stepB F cap s e).getD s) es from rfl]
    cases hs : stepB F cap s e with
    | none => exact ih s
    | some s1 =>
      obtain ⟨d, i1, i2, i3, i4⟩ := ih s1
      simp only [Option.getD_some]
      cases e with
      | take k =>
        obtain ⟨t1, t2, t3, t4⟩ := takeStep_total s s1 k hs
        exact ⟨d, by rw [i1, t3], by rw [← i2, t2], by rw [i3, t1], by rw [i4, t4]⟩
      | rx =>
        obtain ⟨r, rest, r1, r2, r3, r4, r5⟩ := rxStep_await F hF cap s s1 hs
        refine ⟨r :: d, by rw [i1, r3, List.append_assoc]; rfl, by rw [r1, ← r2, i2]; rfl, ?_, by rw [i4, r5]⟩
        rw [i3, r4]
        cases r with
        | error e => rfl
        | ok v => rfl

theorem routeAll_eq_routeRes (x : Ext) (tbl : Control.Table) (bodies : List Bytes) (st : NodeSt) :
    routeAll x tbl st bodies = routeRes st (bodies.map (classify x tbl)) := by
  induction bodies generalizing st with
  | nil => rfl
  | cons b bs ih =>
    simp only [routeAll, List.map_cons]
    cases hc : classify x tbl b with
    | error e =>
      simp only [routeRes, step]
      by_cases hk : keepGoing e = true
      · simp only [hk, if_true]; exact ih st
      · simp only [hk]; exact ih st
    | ok v =>
      obtain ⟨m, p⟩ := v
      simp only [routeRes, step]
      exact ih (route st m p)

/-- the receiver cannot step although it has something to route: it is suspended on a full mailbox of a live process -/
theorem rxStep_none (F : Arm → Form) (cap : Nat) (s : Sys) (h : rxStep F cap s = none) (ht : s.todo ≠ []) :
    ∃ k msg, s.blockedOn cap = some (k, msg) ∧ cap ≤ s.b.queued k := by
  unfold rxStep at h
  unfold Sys.blockedOn
  cases hd : s.todo with
  | nil => exact absurd hd ht
  | cons r rest =>
    rw [hd] at h
    cases r with
    | error e => cases h
    | ok v =>
      obtain ⟨m, p⟩ := v
      simp only at h ⊢
      generalize routeAct s.b.view m p = act at h ⊢
      cases act with
      | nothing => cases h
      | answer key body => cases h
      | deliver k msg arm =>
        simp only at h ⊢
        by_cases hq : s.b.queued k < cap
        · rw [if_pos hq] at h; cases h
        · rw [if_neg hq]; exact ⟨k, msg, rfl, by omega⟩

end Edp.ReceiverBP
