import EdpVerif.Impl.Elixir
import EdpVerif.Lemmas.DecSorted
import EdpVerif.Lemmas.MapKept
/-!
C20: ordered maps and sets as lists.  A sequence of inserts is `insertAll` (`foldl_mapInsert_eq_insertAll`), so the
facts about `insertAll` apply: ascending keys are appended (Lemmas/Reencode.lean), pairwise different keys are only
permuted (Lemmas/MapInsert.lean, no order law); any keys come out ascending by C11's order laws (Lemmas/SortedInsert.lean).
A set is a map with unit values.  Last, the element-wise facts about `normalize_proplist` / `proplist_to_map`.
-/
namespace Edp.Ex
open Edp Edp.Term

/-- every element is greater (under the model of Rust's `Ord`) than all elements before it: the shape of a
`BTreeSet`/`BTreeMap` key sequence -/
def Asc (l : List Term) : Prop := l.Pairwise (fun a b => Term.cmp b a = .gt)

theorem asc_iff_sorted (m : List (Term × Term)) : Asc (m.map (·.1)) ↔ keysSorted m := by
  unfold Asc keysSorted
  rw [List.pairwise_map]
  exact ⟨List.Pairwise.imp fun h => (cmp_gt_iff _ _).mp h, List.Pairwise.imp fun h => (cmp_gt_iff _ _).mpr h⟩

theorem wireNormKV_eq_insertAll (m acc : List (Term × Term)) :
    wireNormKV m acc = insertAll acc (m.map fun p => (wireNorm p.1, wireNorm p.2)) := by
  induction m generalizing acc with
  | nil => rfl
  | cons p r ih => exact ih _

theorem foldl_mapInsert_asc {α : Type} (kf vf : α → Term) (l : List α) (hl : Asc (l.map kf)) :
    l.foldl (fun m e => mapInsert m (kf e) (vf e)) [] = l.map fun e => (kf e, vf e) := by
  rw [foldl_mapInsert_eq_insertAll]
  exact insertAll_sorted _ ((pairwiseLt_iff _).mpr ((asc_iff_sorted _).mp (by rw [List.map_map]; exact hl)))

theorem foldl_mapInsert_perm (l acc : List (Term × Term))
    (hd : l.Pairwise (fun a b => Term.cmp a.1 b.1 ≠ .eq))
    (hx : ∀ p ∈ acc, ∀ q ∈ l, Term.cmp q.1 p.1 ≠ .eq) :
    (l.foldl (fun m kv => mapInsert m kv.1 kv.2) acc).Perm (acc ++ l) :=
  foldl_mapInsert_fresh_perm l acc (hd.imp fun h e => h (by rw [cmp_swap, e]; rfl)) hx

/-- a `BTreeSet` as the `BTreeMap` with unit values -/
def unitKV (l : List Term) : List (Term × Term) := l.map fun e => (e, Term.nil)

theorem unitKV_keys (l : List Term) : (unitKV l).map (·.1) = l := by
  unfold unitKV; rw [List.map_map]; exact List.map_id' l

theorem mapInsert_unitKV (l : List Term) (t : Term) : mapInsert (unitKV l) t .nil = unitKV (setInsert l t) := by
  induction l with
  | nil => rfl
  | cons a r ih =>
    simp only [unitKV, List.map_cons, setInsert, mapInsert]
    cases Term.cmp t a with
    | lt => rfl
    | eq => rfl
    | gt =>
      simp only [List.map_cons]
      unfold unitKV at ih
      rw [ih]

theorem foldl_unitKV (l acc : List Term) :
    unitKV (l.foldl setInsert acc) = l.foldl (fun m e => mapInsert m e .nil) (unitKV acc) := by
  induction l generalizing acc with
  | nil => rfl
  | cons a r ih => rw [List.foldl_cons, List.foldl_cons, mapInsert_unitKV, ih]

theorem foldl_setInsert_asc (l : List Term) (hl : Asc l) : l.foldl setInsert [] = l := by
  have h : unitKV (l.foldl setInsert []) = unitKV l :=
    (foldl_unitKV l []).trans (foldl_mapInsert_asc (fun e => e) (fun _ => Term.nil) l (by rwa [List.map_id']))
  simpa only [unitKV_keys] using congrArg (List.map (·.1)) h

/-- any sequence of `BTreeSet::insert`s keeps the elements strictly ascending, with minimal big-integer digits
(C11: transitivity) -/
theorem foldl_setInsert_inv (l acc : List Term) (hl : ∀ x ∈ l, WFo x) (ha : Asc acc ∧ ∀ x ∈ acc, WFo x) :
    Asc (l.foldl setInsert acc) ∧ ∀ x ∈ l.foldl setInsert acc, WFo x := by
  have h := foldl_mapInsert_sorted (fun e => e) (fun _ => Term.nil) l (unitKV acc) hl
    (fun p hp => by obtain ⟨x, hx, rfl⟩ := List.mem_map.mp hp; exact ha.2 x hx)
    ((asc_iff_sorted _).mp (by rw [unitKV_keys]; exact ha.1))
  rw [← foldl_unitKV] at h
  exact ⟨by simpa only [unitKV_keys] using (asc_iff_sorted _).mpr h.1,
    fun x hx => h.2 (x, .nil) (List.mem_map.mpr ⟨x, hx, rfl⟩)⟩

theorem setRemove_sublist (l : List Term) (t : Term) : (setRemove l t).Sublist l := by
  induction l with
  | nil => exact List.Sublist.refl _
  | cons a r ih =>
    simp only [setRemove]
    cases Term.cmp t a with
    | lt => exact List.Sublist.refl _
    | eq => exact List.sublist_cons_self a r
    | gt => exact List.Sublist.cons_cons a ih

/-- the wire image of the inner map of a set's struct (elements as keys, `[]` as values) -/
theorem wireNormKV_unit (l acc : List Term) :
    wireNormKV (l.map fun e => (e, Term.list [])) (unitKV acc) = unitKV ((l.map wireNorm).foldl setInsert acc) := by
  rw [wireNormKV_eq_insertAll, foldl_unitKV, foldl_mapInsert_eq_insertAll (fun e => e) (fun _ => Term.nil), List.map_map,
    List.map_map]
  rfl

/-- an element `normalize_proplist` drops is one `proplist_to_map` ignores; one it keeps becomes a 2-tuple, and
`proplist_to_map` inserts that pair -/
theorem normEl_cases (a : Term) :
    (normEl a = none ∧ ∀ m, insEl m a = m) ∨
    ∃ k v, normEl a = some (.tuple [k, v]) ∧ ∀ m, insEl m a = mapInsert m k v := by
  unfold normEl insEl
  split
  · exact .inr ⟨_, _, rfl, fun _ => rfl⟩
  · exact .inr ⟨_, _, rfl, fun _ => rfl⟩
  · exact .inl ⟨rfl, fun _ => rfl⟩

theorem foldl_insEl_normalize (l : List Term) (acc : List (Term × Term)) :
    (l.filterMap normEl).foldl insEl acc = l.foldl insEl acc := by
  induction l generalizing acc with
  | nil => rfl
  | cons a t ih =>
    rcases normEl_cases a with ⟨hn, hi⟩ | ⟨k, v, hn, hi⟩
    · rw [List.filterMap_cons_none hn, List.foldl_cons, hi, ih]
    · rw [List.filterMap_cons_some hn, List.foldl_cons, List.foldl_cons, ih, hi]; rfl

theorem normalized_pairs (l : List Term) : ∃ kvs : List (Term × Term), l.filterMap normEl = kvs.map fun kv => .tuple [kv.1, kv.2] := by
  induction l with
  | nil => exact ⟨[], rfl⟩
  | cons a t ih =>
    obtain ⟨kvs, e⟩ := ih
    rcases normEl_cases a with ⟨hn, -⟩ | ⟨k, v, hn, -⟩
    · exact ⟨kvs, by rw [List.filterMap_cons_none hn, e]⟩
    · exact ⟨(k, v) :: kvs, by rw [List.filterMap_cons_some hn, e]; rfl⟩

end Edp.Ex
