import EdpVerif.Spec.Etf
import EdpVerif.Lemmas.Utf8
/-! A FLOAT_EXT field that the format's `%.20e` reading accepts is ASCII, hence passes `str::from_utf8`. -/
namespace Edp

theorem validUtf8_ascii : ∀ (b : Bytes), (∀ x ∈ b, x.toNat < 128) → validUtf8 b = true
  | [], _ => rfl
  | x :: r, h => by
    have ih := validUtf8_ascii r (fun y hy => h y (by simp [hy]))
    simp only [validUtf8] at ih ⊢
    rwa [utf8Decode_one (h x (by simp)), Option.isSome_map]

theorem drop_takeWhile_length {α : Type} (p : α → Bool) : ∀ l : List α, l.drop (l.takeWhile p).length = l.dropWhile p
  | [] => rfl
  | a :: l => by
    by_cases h : p a <;> simp [List.takeWhile, List.dropWhile, h, drop_takeWhile_length p l]

theorem mem_takeWhile_sat {α : Type} (p : α → Bool) : ∀ (l : List α) (c : α), c ∈ l.takeWhile p → p c = true
  | [], c, h => by simp at h
  | a :: l, c, h => by
    by_cases ha : p a
    · simp only [List.takeWhile, ha] at h
      rcases List.mem_cons.mp h with rfl | h'
      · exact ha
      · exact mem_takeWhile_sat p l c h'
    · simp [List.takeWhile, ha] at h

def asciiL (l : List Char) : Prop := ∀ c ∈ l, c.toNat < 128

theorem digit_ascii (c : Char) (h : c.isDigit = true) : c.toNat < 128 := by
  simp [Char.isDigit] at h
  have := h.2
  show c.val.toNat < 128
  have h2 : c.val ≤ 57 := this
  have : c.val.toNat ≤ 57 := by simpa using UInt32.le_iff_toNat_le.mp h2
  omega

theorem ascii_split (l : List Char) (h : asciiL (l.drop (l.takeWhile Char.isDigit).length)) : asciiL l := by
  rw [drop_takeWhile_length] at h
  intro c hc
  rw [← List.takeWhile_append_dropWhile (p := Char.isDigit) (l := l)] at hc
  rcases List.mem_append.mp hc with h1 | h1
  · exact digit_ascii c (mem_takeWhile_sat _ _ _ h1)
  · exact h c h1

theorem digitsVal_ascii (cs : List Char) (n : Nat) (h : Spec.digitsVal cs = some n) : asciiL cs := by
  unfold Spec.digitsVal at h
  split at h
  · simp at h
  · rename_i hc
    simp only [Bool.or_eq_true, not_or, Bool.not_eq_true, Bool.not_eq_false'] at hc
    intro c hcm
    have := hc.2
    simp at this
    exact digit_ascii c (this c hcm)

/-- the text part: whatever `parseFloatText` accepts consists of sign, digits, `.`, `e` only -/
theorem floatText_ascii (field : Bytes) (b : Nat) (h : Spec.parseFloatText field = some b) :
    asciiL ((field.takeWhile (· != 0)).map (fun b => Char.ofNat b.toNat)) ∧
      ¬ (field.dropWhile (· != 0)).any (· != 0) = true := by
  unfold Spec.parseFloatText at h
  simp only at h
  split at h
  · simp at h
  rename_i hz
  refine ⟨?_, hz⟩
  generalize (field.takeWhile (· != 0)).map (fun b => Char.ofNat b.toNat) = txt at h
  split at h
  rotate_left
  · simp at h
  rename_i r1 r2 heq1
  split at h
  rotate_left
  · simp at h
  rename_i r3 r4 heq2
  split at h
  rotate_left
  · simp at h
  clear h
  rename_i mant ex hm hed hie hfe
  have cons_ascii : ∀ (c : Char) (l : List Char), c.toNat < 128 → asciiL l → asciiL (c :: l) := by
    intro c l hc hl d hd
    rcases List.mem_cons.mp hd with rfl | h1
    · exact hc
    · exact hl d h1
  have h4s := digitsVal_ascii _ _ hed
  have h4 : asciiL r4 := by
    split at h4s
    · exact cons_ascii _ _ (by decide) h4s
    · exact cons_ascii _ _ (by decide) h4s
    · exact h4s
  have h2 : asciiL r2 := ascii_split r2 (by rw [heq2]; exact cons_ascii _ _ (by decide) h4)
  have h1s := ascii_split _ (by rw [heq1]; exact cons_ascii _ _ (by decide) h2)
  clear heq1 hm hie
  split at h1s
  · exact cons_ascii _ _ (by decide) h1s
  · exact cons_ascii _ _ (by decide) h1s
  · exact h1s

theorem ofNat_ascii (n : Nat) (h : n < 256) (h2 : (Char.ofNat n).toNat < 128) : n < 128 := by
  have hv : n.isValidChar := Or.inl (by omega)
  have : (Char.ofNat n).toNat = n := by simp [Char.ofNat, hv, Char.toNat, Char.ofNatAux]
  omega

/-- a FLOAT_EXT field the format's reading accepts is valid UTF-8 (`str::from_utf8` passes) -/
theorem floatText_validUtf8 (field : Bytes) (b : Nat) (h : Spec.parseFloatText field = some b) :
    validUtf8 field = true := by
  obtain ⟨ha, hz⟩ := floatText_ascii field b h
  apply validUtf8_ascii
  intro x hx
  rw [← List.takeWhile_append_dropWhile (p := (· != 0)) (l := field)] at hx
  rcases List.mem_append.mp hx with h1 | h1
  · have := ha (Char.ofNat x.toNat) (List.mem_map.mpr ⟨x, h1, rfl⟩)
    have hx256 : x.toNat < 256 := x.toNat_lt
    exact ofNat_ascii x.toNat hx256 this
  · have hzz : ∀ y ∈ field.dropWhile (· != 0), y = 0 := by
      intro y hy
      have := hz
      simp only [List.any_eq_true, not_exists, not_and] at this
      have := this y hy
      simpa using this
    rw [hzz x h1]; decide

end Edp
