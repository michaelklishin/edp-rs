import EdpVerif.Impl.DecodeMeter
import EdpVerif.Lemmas.DecSuffix
import EdpVerif.Lemmas.DistHeader
/-! The resource model of the term decoder (Impl/DecodeMeter.lean) stays within its bounds, for every input, cache,
configuration, depth and fuel: the recursion never enters `parse_term` deeper than `MAX_NESTING_DEPTH + 1`; no heap
request asks for more elements than bytes are left in the buffer being parsed; that buffer is (a piece of) the input or a
compressed section the input really contains; every slice / subtraction site has its operands the right way round. -/
namespace Edp

/-- `L`: length of the buffer being parsed, `d`: depth at which the parser was entered.  `depth`: how deep `parse_term`
was entered; `cap`: a heap request asks for no more elements (`n`) than bytes were left (`rem`); `rem`: those bytes were
left of the buffer or of the output of a COMPRESSED section; `chk`: the operands of a slice or subtraction are the right
way round; `inf`: of a COMPRESSED section `i` = (declared size, bytes produced), `take(declared + 1)` bounds the second -/
structure Meter.OK (L d : Nat) (m : Meter) : Prop where
  depth : m.maxDepth ≤ max d (MAX_NESTING_DEPTH + 1)
  cap : ∀ q ∈ m.reqs, q.n ≤ q.rem
  rem : ∀ q ∈ m.reqs, q.rem ≤ L ∨ ∃ i ∈ m.infl, q.rem ≤ i.2
  chk : ∀ c ∈ m.checks, c.1 ≤ c.2
  inf : ∀ i ∈ m.infl, i.2 ≤ i.1 + 1 ∧ i.1 ≤ MAX_BINARY_SIZE

namespace Meter

theorem OK.empty (L d : Nat) : OK L d {} := by
  constructor <;> simp

theorem OK.enter (L d : Nat) : OK L d (Meter.enter d) := by
  constructor <;> simp [Meter.enter]; omega

theorem OK.req {L d n rem : Nat} (e : Elem) (h1 : n ≤ rem) (h2 : rem ≤ L) : OK L d (Meter.req n e rem) := by
  constructor <;> simp [Meter.req, h1, h2]

theorem OK.check {L d a b : Nat} (h : a ≤ b) : OK L d (Meter.check a b) := by
  constructor <;> simp [Meter.check, h]

theorem OK.add {L d : Nat} {a b : Meter} (ha : OK L d a) (hb : OK L d b) : OK L d (a.add b) := by
  constructor
  · have := ha.depth; have := hb.depth; simp only [Meter.add]; omega
  · intro q hq; simp only [Meter.add, List.mem_append] at hq
    rcases hq with h | h
    · exact ha.cap q h
    · exact hb.cap q h
  · intro q hq; simp only [Meter.add, List.mem_append] at hq ⊢
    rcases hq with h | h
    · rcases ha.rem q h with h' | ⟨i, hi, h'⟩
      · exact .inl h'
      · exact .inr ⟨i, .inl hi, h'⟩
    · rcases hb.rem q h with h' | ⟨i, hi, h'⟩
      · exact .inl h'
      · exact .inr ⟨i, .inr hi, h'⟩
  · intro c hc; simp only [Meter.add, List.mem_append] at hc
    rcases hc with h | h
    · exact ha.chk c h
    · exact hb.chk c h
  · intro i hi; simp only [Meter.add, List.mem_append] at hi
    rcases hi with h | h
    · exact ha.inf i h
    · exact hb.inf i h

/-- a sub-parser's bounds carry over: it was handed a piece of this parser's buffer, one level down at most -/
theorem OK.sub {L L' d d' : Nat} {m : Meter} (h : OK L' d' m) (hL : L' ≤ L)
    (hd : max d' (MAX_NESTING_DEPTH + 1) ≤ max d (MAX_NESTING_DEPTH + 1)) : OK L d m := by
  constructor
  · have := h.depth; omega
  · exact h.cap
  · intro q hq
    rcases h.rem q hq with h' | h'
    · exact .inl (by omega)
    · exact .inr h'
  · exact h.chk
  · exact h.inf

/-- a compressed section: what is parsed inside is bounded by the inflated length, which the meter has recorded -/
theorem OK.infl {L d usize : Nat} {out : Bytes} {m : Meter} (h : OK out.length (d + 1) m) (hu : out.length = usize)
    (hmax : usize ≤ MAX_BINARY_SIZE) (hd : d ≤ MAX_NESTING_DEPTH) :
    OK L d ((Meter.inflated usize (min out.length (usize + 1))).add m) := by
  constructor
  · have := h.depth; simp only [Meter.add, Meter.inflated]; omega
  · intro q hq; simp only [Meter.add, Meter.inflated, List.nil_append] at hq; exact h.cap q hq
  · intro q hq; simp only [Meter.add, Meter.inflated, List.nil_append] at hq
    right
    rcases h.rem q hq with h' | ⟨i, hi, h'⟩
    · exact ⟨(usize, min out.length (usize + 1)), by simp [Meter.add, Meter.inflated], by simp only; omega⟩
    · exact ⟨i, by simp [Meter.add, Meter.inflated, hi], h'⟩
  · intro c hc; simp only [Meter.add, Meter.inflated, List.nil_append] at hc; exact h.chk c hc
  · intro i hi; simp only [Meter.add, Meter.inflated, List.cons_append, List.nil_append, List.mem_cons] at hi
    rcases hi with rfl | hi
    · simp only; omega
    · exact h.inf i hi

theorem OK.inflated {L d usize p : Nat} (hp : p ≤ usize + 1) (hmax : usize ≤ MAX_BINARY_SIZE) : OK L d (Meter.inflated usize p) := by
  constructor <;> simp [Meter.inflated, hp, hmax]

end Meter

theorem meterAtom_ok (L d k : Nat) (e : Elem) (bs : Bytes) (hL : bs.length ≤ L) : Meter.OK L d (meterAtom k e bs) := by
  unfold meterAtom
  split
  · exact Meter.OK.empty _ _
  · rename_i len r h0
    have := rdU_len h0
    split
    · exact Meter.OK.empty _ _
    · split
      · exact Meter.OK.empty _ _
      · rename_i a r1 h1
        have := takeE_facts h1
        exact Meter.OK.req _ (by omega) (by omega)

theorem meterBig_ok (L d k : Nat) (bs : Bytes) (hL : bs.length ≤ L) : Meter.OK L d (meterBig k bs) := by
  unfold meterBig
  split
  · exact Meter.OK.empty _ _
  · rename_i n r h0
    have := rdU_len h0
    split
    · exact Meter.OK.empty _ _
    · rename_i s r1 h1
      have := rdU_len h1
      split
      · exact Meter.OK.empty _ _
      · rename_i a r2 h2
        have := takeE_facts h2
        exact Meter.OK.req _ (by omega) (by omega)

theorem meter_ok (x : Ext) (hx : InflateSane x) (cfg : DecCfg) : ∀ (fuel : Nat),
    (∀ d bs, Meter.OK bs.length d (meter x cfg fuel d bs)) ∧
    (∀ d n bs, Meter.OK bs.length d (meterN x cfg fuel d n bs)) ∧
    (∀ d n bs, Meter.OK bs.length d (meterKV x cfg fuel d n bs)) := by
  intro fuel
  induction fuel with
  | zero =>
    refine ⟨fun d bs => ?_, fun d n bs => ?_, fun d n bs => ?_⟩
    · rw [meter]; exact .enter _ _
    · cases n <;> rw [meterN] <;> exact .empty _ _
    · cases n <;> rw [meterKV] <;> exact .empty _ _
  | succ f ih =>
    obtain ⟨ih1, ihN, ihKV⟩ := ih
    -- a sub-term is parsed from a piece `r` of this parser's buffer, one level down
    have sub : ∀ {L d : Nat} (r : Bytes), r.length ≤ L → d ≤ MAX_NESTING_DEPTH →
        Meter.OK L d (meter x cfg f (d + 1) r) := fun r hr hd => .sub (ih1 _ r) hr (by omega)
    have subN : ∀ {L d : Nat} (n : Nat) (r : Bytes), r.length ≤ L → d ≤ MAX_NESTING_DEPTH →
        Meter.OK L d (meterN x cfg f (d + 1) n r) := fun n r hr hd => .sub (ihN _ n r) hr (by omega)
    -- `Vec::with_capacity(bounded_capacity(n, r))`
    have cap : ∀ {L d : Nat} (n : Nat) (e : Elem) (r : Bytes), r.length ≤ L →
        Meter.OK L d (.req (boundedCapacity n r) e r.length) := fun n e r hr => .req e (Nat.min_le_right _ _) hr
    refine ⟨fun d bs => ?_, fun d n bs => ?_, fun d n bs => ?_⟩
    · cases bs with
      | nil => rw [meter]; exact .enter _ _
      | cons tag bs =>
        have m0 : Meter.OK (bs.length + 1) d (.enter d) := .enter _ _
        rw [meter.eq_3, List.length_cons]
        split; exact m0
        have hd : d ≤ MAX_NESTING_DEPTH := Nat.not_lt.mp ‹_›
        split; exact m0
        split
        -- the arms of `meter` in their order, each under its tag; last, a byte that is no tag of a parser that requests anything
        · -- 100
          exact .add m0 (meterAtom_ok _ _ _ _ bs (by omega))
        · -- 115
          exact .add m0 (meterAtom_ok _ _ _ _ bs (by omega))
        · -- 118
          exact .add m0 (meterAtom_ok _ _ _ _ bs (by omega))
        · -- 119
          exact .add m0 (meterAtom_ok _ _ _ _ bs (by omega))
        · -- 104
          split; exact m0
          have := rdU_len ‹_›
          exact .add (.add m0 (cap _ _ _ (by omega))) (subN _ _ (by omega) hd)
        · -- 105
          split; exact m0
          have := rdU_len ‹_›
          split; exact m0
          exact .add (.add m0 (cap _ _ _ (by omega))) (subN _ _ (by omega) hd)
        · -- 107
          split; exact m0
          have := rdU_len ‹_›
          split; exact m0
          have := takeE_facts ‹_›
          exact .add m0 (.req _ (by omega) (by omega))
        · -- 108
          split; exact m0
          have := rdU_len ‹_›
          split; exact m0
          rename_i n r _ _
          have m1 := Meter.OK.add (.add m0 (cap n .term r (by omega))) (subN n r (by omega) hd)
          split; exact m1
          have := decN_rest_le _ _ _ _ _ _ _ _ ‹_›
          exact .add m1 (sub _ (by omega) hd)
        · -- 109
          split; exact m0
          have := rdU_len ‹_›
          split; exact m0
          split; exact m0
          have := takeE_facts ‹_›
          split; exact m0
          exact .add m0 (.req _ (by omega) (by omega))
        · -- 77
          split; exact m0
          have := rdU_len ‹_›
          split; exact m0
          split; exact m0
          have := rdU_len ‹rdU 1 _ = _›
          split; exact m0
          split; exact m0
          split; exact m0
          have := takeE_facts ‹_›
          split; exact m0
          exact .add m0 (.req _ (by omega) (by omega))
        · -- 110
          exact .add m0 (meterBig_ok _ _ _ bs (by omega))
        · -- 111
          exact .add m0 (meterBig_ok _ _ _ bs (by omega))
        · -- 116
          split; exact m0
          have := rdU_len ‹_›
          split; exact m0
          exact .add m0 (.sub (ihKV _ _ _) (by omega) (by omega))
        · -- 88
          exact .add m0 (sub _ (by omega) hd)
        · -- 103
          exact .add m0 (sub _ (by omega) hd)
        · -- 120
          exact .add m0 (sub _ (by omega) hd)
        · -- 89
          exact .add m0 (sub _ (by omega) hd)
        · -- 102
          exact .add m0 (sub _ (by omega) hd)
        · -- 101
          exact .add m0 (sub _ (by omega) hd)
        · -- 90
          split; exact m0
          rename_i len r0 h0
          have := rdU_len h0
          have m1 := Meter.OK.add m0 (sub r0 (by omega) hd)
          split
          · have := dec_rest_le _ _ _ _ _ _ _ ‹_›
            split; exact m1
            have := rdU_len ‹rdU 4 _ = _›
            exact .add m1 (cap _ _ _ (by omega))
          · exact m1
        · -- 114
          split; exact m0
          rename_i len r0 h0
          have := rdU_len h0
          have m1 := Meter.OK.add m0 (sub r0 (by omega) hd)
          split
          · have := dec_rest_le _ _ _ _ _ _ _ ‹_›
            split; exact m1
            have := rdU_len ‹rdU 1 _ = _›
            exact .add m1 (cap _ _ _ (by omega))
          · exact m1
        · -- 113
          have m1 := Meter.OK.add m0 (sub bs (by omega) hd)
          split
          · rename_i r h
            have := dec_rest_le _ _ _ _ _ _ _ h
            have m2 := Meter.OK.add m1 (sub r (by omega) hd)
            split
            · have := dec_rest_le _ _ _ _ _ _ _ ‹dec _ _ _ _ r = _›
              exact .add m2 (sub _ (by omega) hd)
            · exact m2
          · exact m1
        · -- 112
          split; exact m0
          have := rdU_len ‹_›
          split; exact m0
          have := rdU_len ‹rdU 1 _ = _›
          split; exact m0
          have hu := takeE_facts ‹_›
          split; exact m0
          have := rdU_len ‹rdU 4 _ = .ok (_, _)›
          split; exact m0
          rename_i numFree r4 h4
          have := rdU_len h4
          have m1 := Meter.OK.add m0 (sub r4 (by omega) hd)
          split
          · rename_i r5 h5
            have := dec_rest_le _ _ _ _ _ _ _ h5
            have m2 := Meter.OK.add m1 (sub r5 (by omega) hd)
            split
            · rename_i r6 h6
              have := dec_rest_le _ _ _ _ _ _ _ h6
              split; exact m2
              have m3 := Meter.OK.add m2 (sub r6 (by omega) hd)
              split
              · rename_i r7 h7
                have := dec_rest_le _ _ _ _ _ _ _ h7
                split; exact m3
                have m4 := Meter.OK.add m3 (sub r7 (by omega) hd)
                split
                · rename_i r8 h8
                  have := dec_rest_le _ _ _ _ _ _ _ h8
                  have m5 := Meter.OK.add (.add m4 (cap numFree .term r8 (by omega))) (subN numFree r8 (by omega) hd)
                  split
                  · exact .add (.add m5 (.check (by omega))) (.check (by omega))
                  · exact m5
                · exact m4
              · exact m3
            · exact m2
          · exact m1
        · -- 121
          split; exact m0
          rename_i r h
          have := rdU_len h
          have m1 := Meter.OK.add m0 (sub r (by omega) hd)
          split; exact m1
          have := dec_rest_le _ _ _ _ _ _ _ ‹_›
          exact .add (.add (.add m1 (.check (by omega))) (.check (by omega))) (.req _ (by omega) (by omega))
        · -- 80
          split; exact m0
          have := rdU_len ‹_›
          split; exact m0
          split
          · exact .add m0 (.inflated (by omega) (by omega))
          · have := hx _ _ _ ‹_›
            split
            · exact .add m0 (.inflated (by omega) (by omega))
            · rename_i out _ _ hlen
              have m2 := Meter.OK.add m0 (.infl (ih1 (d + 1) out) (by simpa using hlen) (by omega) hd)
              split
              · exact .add m2 (.check (by omega))
              · exact m2
        · exact m0
    · cases n with
      | zero => rw [meterN]; exact .empty _ _
      | succ n =>
        rw [meterN]
        split; exact ih1 _ _
        have := dec_rest_le _ _ _ _ _ _ _ ‹_›
        exact .add (ih1 _ _) (.sub (ihN _ _ _) (by omega) (Nat.le_refl _))
    · cases n with
      | zero => rw [meterKV]; exact .empty _ _
      | succ n =>
        rw [meterKV]
        split; exact ih1 _ _
        rename_i r h
        have := dec_rest_le _ _ _ _ _ _ _ h
        have m' := Meter.OK.add (ih1 d bs) (.sub (ih1 d r) (by omega) (Nat.le_refl _))
        split; exact m'
        have := dec_rest_le _ _ _ _ _ _ _ ‹dec _ _ _ _ r = _›
        exact .add m' (.sub (ihKV _ _ _) (by omega) (Nat.le_refl _))

theorem meter_calls_ok (x : Ext) (L : Nat) : ∀ (calls : List (DecCfg × Nat × Bytes)) (m : Meter), Meter.OK L 0 m →
    (∀ q ∈ calls, Meter.OK L 0 (meter x q.1 q.2.1 0 q.2.2)) →
    Meter.OK L 0 (calls.foldl (fun m (q : DecCfg × Nat × Bytes) => m.add (meter x q.1 q.2.1 0 q.2.2)) m) := by
  intro calls
  induction calls with
  | nil => intro m hm _; simpa using hm
  | cons q qs ih =>
    intro m hm hq
    simp only [List.foldl_cons]
    exact ih _ (Meter.OK.add hm (hq q (by simp))) (fun q' h' => hq q' (by simp [h']))

/-- every term an entry point parses is a piece of the input -/
theorem calls_len (x : Ext) (c : DistHeader.Cache) (bs : Bytes) (ep : EntryPoint) :
    ∀ q ∈ ep.calls x c bs, q.2.2.length ≤ bs.length := by
  have hdr : ∀ (c0 : DistHeader.Cache) (v tag : UInt8) (r1 : Bytes) (q : DecCfg × Nat × Bytes),
      q ∈ (if v != 131 then [] else
        match (if tag == 68 then
            match DistHeader.parseHeader c0 r1 with
            | (c1, .error _) => (c1, none)
            | (c1, .ok body) => (c1, some body)
          else (c0, some (tag :: r1)) : DistHeader.Cache × Option Bytes) with
        | (c1, body) =>
          match body with
          | none => []
          | some body =>
            match dec x { cache := c1.atoms } ((v :: tag :: r1).length + 1 + x.extra) 0 body with
            | .ok (_, rest) => if rest.isEmpty then [({ cache := c1.atoms }, (v :: tag :: r1).length + 1 + x.extra, body)]
                else [({ cache := c1.atoms }, (v :: tag :: r1).length + 1 + x.extra, body), ({ cache := c1.atoms }, (v :: tag :: r1).length + 1 + x.extra, rest)]
            | .error _ => [({ cache := c1.atoms }, (v :: tag :: r1).length + 1 + x.extra, body)]) →
      q.2.2.length ≤ (v :: tag :: r1).length := by
    intro c0 v tag r1 q hq
    split at hq
    · simp at hq
    · have hb : ∀ c1 body, (if tag == 68 then
            match DistHeader.parseHeader c0 r1 with
            | (c1, .error _) => (c1, none)
            | (c1, .ok body) => (c1, some body)
          else (c0, some (tag :: r1)) : DistHeader.Cache × Option Bytes) = (c1, some body) → body.length ≤ r1.length + 1 := by
        intro c1 body hb
        split at hb
        · split at hb
          · simp at hb
          · rename_i c1' body' hp
            simp at hb
            have := parseHeader_len c0 r1 body' (by rw [hp])
            obtain ⟨_, rfl⟩ := hb; omega
        · simp at hb; obtain ⟨_, rfl⟩ := hb; simp
      split at hq
      rename_i c1 body hcb
      split at hq
      · simp at hq
      · rename_i body'
        have hbl := hb c1 body' hcb
        split at hq
        · rename_i t rest hd
          have := dec_rest_le _ _ _ _ _ _ _ hd
          split at hq <;> simp at hq
          · subst hq; simp only [List.length_cons]; omega
          · rcases hq with rfl | rfl <;> simp only [List.length_cons] <;> omega
        · simp at hq; subst hq; simp only [List.length_cons]; omega
  intro q hq
  cases ep with
  | decode =>
    simp only [EntryPoint.calls] at hq
    split at hq
    · split at hq <;> simp at hq; subst hq; simp
    · simp at hq
  | decodeBorrowed =>
    simp only [EntryPoint.calls] at hq
    split at hq
    · split at hq <;> simp at hq; subst hq; simp
    · simp at hq
  | withTrailing =>
    simp only [EntryPoint.calls] at hq
    split at hq
    · split at hq <;> simp at hq; subst hq; simp
    · simp at hq
  | rawTerm => simp only [EntryPoint.calls, List.mem_singleton] at hq; subst hq; simp
  | fragHeader => simp [EntryPoint.calls] at hq
  | fragCont => simp [EntryPoint.calls] at hq
  | withCache =>
    simp only [EntryPoint.calls] at hq
    split at hq
    · exact hdr _ _ _ _ q hq
    · simp at hq
  | withAtomCache =>
    simp only [EntryPoint.calls] at hq
    split at hq
    · exact hdr _ _ _ _ q hq
    · simp at hq

/-- **every entry point stays within the bounds**, whatever the input, the cache and zlib's behaviour -/
theorem entry_ok (x : Ext) (hx : InflateSane x) (c : DistHeader.Cache) (bs : Bytes) (ep : EntryPoint) :
    Meter.OK bs.length 0 (ep.meter x c bs) := by
  unfold EntryPoint.meter
  apply meter_calls_ok x bs.length _ _ (Meter.OK.empty _ _)
  intro q hq
  have hl := calls_len x c bs ep q hq
  exact Meter.OK.sub ((meter_ok x hx q.1 q.2.1).1 0 q.2.2) hl (Nat.le_refl _)

theorem outcome_of_ne_panic {α : Type} {r : Except DErr α} (h : r ≠ .error .panic) : Outcome.of r ≠ .panic := by
  cases r with
  | ok v => simp [Outcome.of]
  | error e => cases e <;> simp_all [Outcome.of]

end Edp
