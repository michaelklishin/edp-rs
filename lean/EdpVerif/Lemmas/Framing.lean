import EdpVerif.Impl.Framing
/-! Lemmas for C05, read side: `read_exact`, `read_framed` and the second copy of the read loop on every script and on
`Clean` ones (any chunking, `Pending` anywhere), what a cut-off read leaves behind (`cutErr`), and that the fuel of the
iterating readers is enough (`fuelRec`). The write side is Lemmas/FramingWrite.lean. -/
namespace Edp.Framing
open Edp

/-- a script of a live, well-behaved transport: only `Pending` polls and non-empty reads -/
def Clean : List Ev → Prop
  | [] => True
  | .chunk bs :: r => bs ≠ [] ∧ Clean r
  | .pending :: r => Clean r
  | .eof :: _ => False
  | .fail :: _ => False
  | .stall :: _ => False

instance : (evs : List Ev) → Decidable (Clean evs)
  | [] => .isTrue trivial
  | .chunk bs :: r => by
      unfold Clean
      have := instDecidableClean r
      infer_instance
  | .pending :: r => by unfold Clean; exact instDecidableClean r
  | .eof :: _ => .isFalse (by simp [Clean])
  | .fail :: _ => .isFalse (by simp [Clean])
  | .stall :: _ => .isFalse (by simp [Clean])

theorem rdN_exact : ∀ (k : Nat) (lb : Bytes), lb.length = k → ∃ v, rdN k lb = some (v, []) ∧ beN k v = lb := by
  intro k
  induction k with
  | zero => intro lb h; cases lb with
    | nil => exact ⟨0, rfl, rfl⟩
    | cons _ _ => simp at h
  | succ k ih =>
    intro lb h
    cases lb with
    | nil => simp at h
    | cons b t =>
      obtain ⟨v, h1, h2⟩ := ih t (by simpa using h)
      have h3 := rdN_lt k t v [] h1
      have hP : 0 < 256 ^ k := Nat.pow_pos (by omega)
      refine ⟨b.toNat * 256 ^ k + v, by simp [rdN, h1], ?_⟩
      have e1 : (b.toNat * 256 ^ k + v) / 256 ^ k = b.toNat := by
        rw [Nat.add_comm, Nat.add_mul_div_right _ _ hP, Nat.div_eq_of_lt h3]; simp
      have e2 : (b.toNat * 256 ^ k + v) % 256 ^ k = v := by
        rw [Nat.add_comm, Nat.add_mul_mod_self_right, Nat.mod_eq_of_lt h3]
      rw [beN, e1, beN_mod k, e2, h2]
      simp

theorem lenOf_beN (k n : Nat) (h : n < 256 ^ k) : lenOf (beN k n) = n := by
  unfold lenOf
  rw [beN_length]
  have := rdN_beN k n [] h
  simp only [List.append_nil] at this
  rw [this]

theorem beN_lenOf (lb : Bytes) : beN lb.length (lenOf lb) = lb ∧ lenOf lb < 256 ^ lb.length := by
  obtain ⟨v, h1, h2⟩ := rdN_exact lb.length lb rfl
  unfold lenOf
  rw [h1]
  exact ⟨h2, rdN_lt _ _ _ _ h1⟩

@[simp] theorem readExact_zero (evs : List Ev) : readExact 0 evs = (.ok [], evs) := by
  cases evs <;> rfl

@[simp] theorem readExact_pending (n : Nat) (r : List Ev) :
    readExact (n+1) (.pending :: r) = readExact (n+1) r := rfl

theorem payload_append (a b : List Ev) : payload (a ++ b) = payload a ++ payload b := by
  induction a with
  | nil => rfl
  | cons e r ih => cases e <;> simp only [List.cons_append, payload, ih, List.append_assoc]

theorem weight_append (a b : List Ev) : weight (a ++ b) = weight a + weight b := by
  induction a with
  | nil => simp [weight]
  | cons e r ih => cases e <;> simp only [List.cons_append, weight, ih] <;> omega

/-- soundness of `readExact` on every script: a success returns exactly the next `n` bytes of the stream -/
theorem readExact_ok (evs : List Ev) (n : Nat) (bs : Bytes) (r : List Ev) (h : readExact n evs = (.ok bs, r)) :
    bs.length = n ∧ payload evs = bs ++ payload r ∧ weight r + n ≤ weight evs := by
  fun_induction readExact n evs generalizing bs r with
  | case1 => cases h; exact ⟨rfl, rfl, Nat.le_refl _⟩
  | case6 n t ih =>  -- `Pending`
    obtain ⟨h1, h2, h3⟩ := ih _ _ h
    exact ⟨h1, h2, by simp only [weight]; omega⟩
  | case8 n c t _ _ t' r' hr ih =>  -- a chunk that fits, and the rest is read
    cases h
    obtain ⟨i1, i2, i3⟩ := ih _ _ hr
    exact ⟨by rw [List.length_append, i1]; omega, by simp only [payload, i2, List.append_assoc],
      by simp only [weight]; omega⟩
  | case10 =>  -- a chunk larger than the buffer
    cases h
    exact ⟨by rw [List.length_take]; omega, by simp only [payload, ← List.append_assoc, List.take_append_drop],
      by simp only [weight, List.length_drop]; omega⟩
  | _ => cases h

/-- completeness on clean scripts: a clean script that holds at least `n` bytes gives `readExact n` its first `n`
bytes, whatever the chunking, and leaves a clean script that delivers the rest -/
theorem readExact_take : ∀ (c : List Ev) (n : Nat) (tail : List Ev), Clean c → n ≤ (payload c).length →
    ∃ c', Clean c' ∧ payload c' = (payload c).drop n ∧
      readExact n (c ++ tail) = (.ok ((payload c).take n), c' ++ tail) := by
  intro c
  induction c with
  | nil =>
    intro n tail _ hn
    obtain rfl : n = 0 := by simpa [payload] using hn
    exact ⟨[], trivial, rfl, readExact_zero _⟩
  | cons e t ih =>
    intro n tail hc hn
    cases n with
    | zero => exact ⟨e :: t, hc, rfl, readExact_zero _⟩
    | succ n =>
      cases e with
      | eof | fail | stall => exact hc.elim
      | pending => exact ih (n + 1) tail hc hn
      | chunk bs =>
        obtain ⟨hne, hct⟩ := hc
        have h0 : bs.length ≠ 0 := fun h => hne (List.length_eq_zero_iff.mp h)
        simp only [payload, List.length_append] at hn
        simp only [payload, List.cons_append, readExact, h0, if_false, List.take_append, List.drop_append]
        by_cases hle : bs.length ≤ n + 1
        · obtain ⟨c', k1, k2, k4⟩ := ih (n + 1 - bs.length) tail hct (by omega)
          rw [if_pos hle, k4, List.take_of_length_le hle, List.drop_of_length_le hle]
          exact ⟨c', k1, k2, rfl⟩
        · rw [if_neg hle, Nat.sub_eq_zero_of_le (by omega), List.take_zero, List.drop_zero, List.append_nil]
          refine ⟨.chunk (bs.drop (n + 1)) :: t, ⟨?_, hct⟩, rfl, rfl⟩
          exact fun h => by have := congrArg List.length h; simp at this; omega

theorem readExact_clean (c : List Ev) (a rest : Bytes) (tail : List Ev) (hc : Clean c) (hp : payload c = a ++ rest) :
    ∃ c', Clean c' ∧ payload c' = rest ∧ readExact a.length (c ++ tail) = (.ok a, c' ++ tail) := by
  have := readExact_take c a.length tail hc (by rw [hp, List.length_append]; omega)
  rwa [hp, List.take_left, List.drop_left] at this

/-- the script a cut-off read leaves behind, and its error: a stall is a timeout, `fail` an I/O error, a 0-byte read or
the end of the script is `UnexpectedEof` -/
def cutErr : List Ev → Option (RErr × List Ev)
  | [] => some (.eof, [])
  | .eof :: r => some (.eof, r)
  | .fail :: r => some (.io, r)
  | .stall :: r => some (.timeout, r)
  | .chunk [] :: r => some (.eof, r)
  | _ => none

/-- a clean script that delivers fewer than `n` bytes and is then cut off: `readExact n` fails with the error of the
cut, everything before it is consumed (and dropped), the script after the cut is what the next read sees -/
theorem readExact_cut (tail : List Ev) (e : RErr) (r : List Ev) (h : cutErr tail = some (e, r)) :
    ∀ (c : List Ev) (n : Nat), Clean c → (payload c).length < n → readExact n (c ++ tail) = (.error e, r) := by
  intro c
  induction c with
  | nil =>
    intro n _ hn
    obtain ⟨k, rfl⟩ : ∃ k, n = k + 1 := ⟨n - 1, by omega⟩
    unfold cutErr at h
    split at h <;> cases h <;> simp [readExact]
  | cons ev t ih =>
    intro n hc hn
    obtain ⟨n, rfl⟩ : ∃ k, n = k + 1 := ⟨n - 1, by omega⟩
    cases ev with
    | eof | fail | stall => exact hc.elim
    | pending => exact ih (n + 1) hc hn
    | chunk bs =>
      have h0 : bs.length ≠ 0 := fun h => hc.1 (List.length_eq_zero_iff.mp h)
      simp only [payload, List.length_append] at hn
      have hle : bs.length ≤ n + 1 := by omega
      simp only [List.cons_append, readExact, h0, if_false, hle, if_true, ih (n + 1 - bs.length) hc.2 (by omega)]

theorem prefixSize_pos (mode : Mode) : ∃ k, mode.prefixSize = k + 1 := by
  cases mode
  · exact ⟨1, rfl⟩
  · exact ⟨3, rfl⟩

theorem readFramed_pending (cap : Nat) (mode : Mode) (r : List Ev) :
    readFramed cap mode (.pending :: r) = readFramed cap mode r := by
  obtain ⟨k, hk⟩ := prefixSize_pos mode
  simp only [readFramed, hk, readExact_pending]

theorem fits_nil (mode : Mode) : fits mode [] := Nat.pow_pos (by omega)

/-- a cut at a frame boundary -/
theorem readFramed_at_cut (cap : Nat) (mode : Mode) {tail : List Ev} {e : RErr} {r : List Ev}
    (h : cutErr tail = some (e, r)) : readFramed cap mode tail = ⟨.error e, r, 0⟩ := by
  obtain ⟨k, hk⟩ := prefixSize_pos mode
  have hx : readExact (k + 1) tail = (.error e, r) := readExact_cut tail e r h [] (k + 1) trivial (Nat.succ_pos k)
  simp only [readFramed, hk, hx]

theorem readFramed_body {cap : Nat} {mode : Mode} {evs r : List Ev} {n : Nat}
    (h : readExact mode.prefixSize evs = (.ok (beN mode.prefixSize n), r)) (hn : n < 256 ^ mode.prefixSize)
    (h0 : n ≠ 0) (hcap : n ≤ cap) : readFramed cap mode evs = ⟨(readExact n r).1, (readExact n r).2, n⟩ := by
  simp only [readFramed, h, lenOf_beN _ _ hn, h0, if_false, Nat.not_lt.mpr hcap]

/-- one frame from a clean script, whatever the chunking -/
theorem readFramed_clean (cap : Nat) (mode : Mode) (c : List Ev) (m rest : Bytes) (tail : List Ev)
    (hc : Clean c) (hp : payload c = frame mode m ++ rest) (hf : fits mode m) (hcap : m.length ≤ cap) :
    ∃ c', Clean c' ∧ payload c' = rest ∧ readFramed cap mode (c ++ tail) = ⟨.ok m, c' ++ tail, m.length⟩ := by
  unfold frame at hp
  rw [List.append_assoc] at hp
  obtain ⟨c1, k1, k2, k4⟩ := readExact_clean c _ _ tail hc hp
  rw [beN_length] at k4
  cases m with
  | nil =>
    have hl : lenOf (beN mode.prefixSize 0) = 0 := lenOf_beN _ _ hf
    refine ⟨c1, k1, k2, ?_⟩
    simp only [readFramed, k4, List.length_nil, hl, if_true]
  | cons b t =>
    obtain ⟨c2, j1, j2, j4⟩ := readExact_clean c1 (b :: t) rest tail k1 k2
    exact ⟨c2, j1, j2, by rw [readFramed_body k4 hf (by simp) hcap, j4]⟩

/-- soundness of `readFramed` on every script: a returned message is exactly the next frame of the stream -/
theorem readFramed_ok (cap : Nat) (mode : Mode) (evs : List Ev) (m : Bytes) :
    (readFramed cap mode evs).res = .ok m →
    payload evs = frame mode m ++ payload (readFramed cap mode evs).rest ∧ fits mode m ∧ m.length ≤ cap ∧
      weight (readFramed cap mode evs).rest < weight evs ∧ (readFramed cap mode evs).allocRequested = m.length := by
  obtain ⟨k, hk⟩ := prefixSize_pos mode
  fun_cases readFramed cap mode evs with
  | case1 | case3 => nofun
  | case2 lb r h1 len h0 =>  -- a tick
    intro h
    obtain ⟨l1, l2, l3⟩ := readExact_ok _ _ _ _ h1
    obtain ⟨b1, b2⟩ := beN_lenOf lb
    cases h
    refine ⟨?_, Nat.pow_pos (by omega), Nat.zero_le _, by simp only; omega, rfl⟩
    rw [l2, frame, List.length_nil, List.append_nil, ← (h0 : lenOf lb = 0), ← l1, b1]
  | case4 lb r h1 len h0 hc res r2 h2 =>  -- the body is read
    intro h
    obtain ⟨l1, l2, l3⟩ := readExact_ok _ _ _ _ h1
    obtain ⟨b1, b2⟩ := beN_lenOf lb
    rw [l1] at b1 b2
    cases h
    obtain ⟨q1, q2, q3⟩ := readExact_ok _ _ _ _ h2
    have hc : lenOf lb ≤ cap := Nat.not_lt.mp hc
    have q1 : m.length = lenOf lb := q1
    refine ⟨?_, ?_, by omega, by simp only; omega, q1.symm⟩
    · rw [l2, q2, frame, q1, b1, List.append_assoc]
    · unfold fits; rw [q1]; exact b2

theorem readFramed_alloc_le (cap : Nat) (mode : Mode) (evs : List Ev) :
    (readFramed cap mode evs).allocRequested ≤ cap := by
  fun_cases readFramed cap mode evs with
  | case4 _ _ _ len _ hc => exact Nat.not_lt.mp hc
  | _ => exact Nat.zero_le _

theorem readFramed_clean_overcap (cap : Nat) (mode : Mode) (c : List Ev) (len : Nat) (rest : Bytes) (tail : List Ev)
    (hc : Clean c) (hp : payload c = beN mode.prefixSize len ++ rest) (hl : len < 256 ^ mode.prefixSize)
    (hcap : cap < len) :
    ∃ c', Clean c' ∧ payload c' = rest ∧
      readFramed cap mode (c ++ tail) = ⟨.error (.tooLarge len), c' ++ tail, 0⟩ := by
  obtain ⟨c1, k1, k2, k4⟩ := readExact_clean c _ _ tail hc hp
  rw [beN_length] at k4
  refine ⟨c1, k1, k2, ?_⟩
  have hlen : lenOf (beN mode.prefixSize len) = len := lenOf_beN _ _ hl
  have h0 : len ≠ 0 := by omega
  have h1 : len > cap := hcap
  simp only [readFramed, k4, hlen, h0, if_false, h1, if_true]

/-- **What a cut inside a frame leaves behind.** The script delivers, cleanly, a strict prefix of the frame of `m`
(possibly nothing: then the cut is at a frame boundary) and is then cut off. `read_framed` returns the error of the
cut; every byte it had consumed is gone; the next read starts with the script after the cut. -/
theorem readFramed_cut (cap : Nat) (mode : Mode) (c : List Ev) (m missing : Bytes) (tail : List Ev)
    (e : RErr) (r : List Ev)
    (hc : Clean c) (hp : payload c ++ missing = frame mode m) (hmiss : missing ≠ [])
    (hf : fits mode m) (hcap : m.length ≤ cap) (ht : cutErr tail = some (e, r)) :
    (readFramed cap mode (c ++ tail)).res = .error e ∧ (readFramed cap mode (c ++ tail)).rest = r := by
  unfold frame at hp
  -- the cut falls inside the length bytes, or they are in and it falls inside the body
  have hcases : (payload c).length < mode.prefixSize ∨
      ∃ c', payload c = beN mode.prefixSize m.length ++ c' ∧ m = c' ++ missing := by
    rcases List.append_eq_append_iff.mp hp with ⟨a', h1, h2⟩ | h
    · by_cases ha : a' = []
      · subst ha
        exact Or.inr ⟨[], by simpa using h1.symm, by simpa using h2.symm⟩
      · have := congrArg List.length h1
        rw [beN_length, List.length_append] at this
        have := List.length_pos_iff.mpr ha
        exact Or.inl (by omega)
    · exact Or.inr h
  rcases hcases with hlt | ⟨c', h1, h2⟩
  · simp only [readFramed, readExact_cut tail e r ht c _ hc hlt, and_self]
  · obtain ⟨c1, k1, k2, k4⟩ := readExact_clean c _ c' tail hc h1
    rw [beN_length] at k4
    have hpos := List.length_pos_iff.mpr hmiss
    have hml : m.length = c'.length + missing.length := by rw [h2, List.length_append]
    rw [readFramed_body k4 hf (by omega) hcap, readExact_cut tail e r ht c1 m.length k1 (by rw [k2]; omega)]
    exact ⟨rfl, rfl⟩

/-- end of stream inside a frame -/
theorem readFramed_clean_short (cap : Nat) (mode : Mode) (c : List Ev) (m missing : Bytes) (tail : List Ev)
    (hc : Clean c) (hp : payload c ++ missing = frame mode m) (hmiss : missing ≠ [])
    (hf : fits mode m) (hcap : m.length ≤ cap) (ht : tail = [] ∨ ∃ t, tail = .eof :: t) :
    (readFramed cap mode (c ++ tail)).res = .error .eof := by
  rcases ht with rfl | ⟨t, rfl⟩
  · exact (readFramed_cut cap mode c m missing [] .eof [] hc hp hmiss hf hcap rfl).1
  · exact (readFramed_cut cap mode c m missing _ .eof t hc hp hmiss hf hcap rfl).1

theorem skip_pendings {β : Type} (f : List Ev → β) (hpend : ∀ r, f (.pending :: r) = f r) (tail : List Ev) :
    ∀ (c : List Ev), Clean c → payload c = [] → f (c ++ tail) = f tail := by
  intro c
  induction c with
  | nil => intro _ _; rfl
  | cons e t ih =>
    intro hc hp
    cases e with
    | pending => exact (hpend _).trans (ih hc hp)
    | chunk bs => exact absurd (List.append_eq_nil_iff.mp hp).1 hc.1
    | eof | fail | stall => exact hc.elim

/-- split invariance for any reader `f` that does not notice `Pending` polls and takes one complete frame from the head of
a clean script, reporting it if `keep` says so (`read_framed` reports ticks, the second copy does not) -/
theorem frames_clean (cap : Nat) (mode : Mode) (keep : Bytes → Bool) (f : List Ev → List (Except RErr Bytes))
    (hpend : ∀ r, f (.pending :: r) = f r)
    (hframe : ∀ (c : List Ev) (m rest : Bytes) (tail : List Ev), Clean c → payload c = frame mode m ++ rest →
      fits mode m → m.length ≤ cap →
      ∃ c', Clean c' ∧ payload c' = rest ∧ f (c ++ tail) = (if keep m then [.ok m] else []) ++ f (c' ++ tail))
    (tail : List Ev) :
    ∀ (msgs : List Bytes) (c : List Ev), (∀ m ∈ msgs, fits mode m ∧ m.length ≤ cap) → Clean c →
      payload c = (msgs.map (frame mode)).flatten →
      f (c ++ tail) = (msgs.filter keep).map .ok ++ f tail := by
  intro msgs
  induction msgs with
  | nil => intro c _ hc hp; exact skip_pendings f hpend tail c hc hp
  | cons m ms ih =>
    intro c hm hc hp
    obtain ⟨c', k1, k2, k3⟩ := hframe c m _ tail hc hp (hm m (by simp)).1 (hm m (by simp)).2
    rw [k3, ih c' (fun y hy => hm y (by simp [hy])) k1 k2, List.filter_cons]
    split <;> rfl

/-- A recursion on fuel, `F (f+1) s = Φ s (F f)`, whose turn `Φ s` asks its continuation only about states of smaller
measure: with any fuel above the measure, one turn is `Φ` continued with just enough fuel. -/
theorem fuelRec {σ α : Type} (F : Nat → σ → α) (μ : σ → Nat) (Φ : σ → (σ → α) → α)
    (hΦ : ∀ s g g', (∀ s', μ s' < μ s → g s' = g' s') → Φ s g = Φ s g') (hF : ∀ f s, F (f + 1) s = Φ s (F f)) :
    ∀ (f : Nat) (s : σ), μ s < f → F f s = Φ s fun s' => F (μ s' + 1) s' := by
  intro f
  induction f using Nat.strongRecOn with
  | ind f ih =>
    intro s h
    cases f with
    | zero => omega
    | succ f =>
      rw [hF]
      refine hΦ s _ _ fun s' h' => ?_
      rw [ih f (Nat.lt_succ_self f) s' (by omega), ih (μ s' + 1) (by omega) s' (Nat.lt_succ_self _)]

theorem iterF_unfold (step : List Ev → RdOut)
    (hstep : ∀ evs m, (step evs).res = .ok m → weight (step evs).rest < weight evs) (f : Nat) (evs : List Ev)
    (h : weight evs < f) :
    iterF step f evs =
      match (step evs).res with
      | .error e => [.error e]
      | .ok m => .ok m :: iterF step (weight (step evs).rest + 1) (step evs).rest := by
  refine fuelRec (iterF step) weight (fun evs k => match (step evs).res with
    | .error e => [.error e]
    | .ok m => .ok m :: k (step evs).rest) (fun evs g g' hg => ?_) (fun _ _ => rfl) f evs h
  cases hr : (step evs).res with
  | error e => rfl
  | ok m => rw [hg _ (hstep evs m hr)]

theorem iterF_fuel (step : List Ev → RdOut)
    (hstep : ∀ evs m, (step evs).res = .ok m → weight (step evs).rest < weight evs) :
    ∀ (f1 f2 : Nat) (evs : List Ev), weight evs < f1 → weight evs < f2 → iterF step f1 evs = iterF step f2 evs :=
  fun f1 f2 evs h1 h2 => (iterF_unfold step hstep f1 evs h1).trans (iterF_unfold step hstep f2 evs h2).symm

theorem readFramed_step (cap : Nat) (mode : Mode) :
    ∀ evs m, (readFramed cap mode evs).res = .ok m → weight (readFramed cap mode evs).rest < weight evs :=
  fun evs m h => (readFramed_ok cap mode evs m h).2.2.2.1

theorem readAll_unfold (cap : Nat) (mode : Mode) (evs : List Ev) :
    readAll cap mode evs =
      match (readFramed cap mode evs).res with
      | .error e => [.error e]
      | .ok m => .ok m :: readAll cap mode (readFramed cap mode evs).rest :=
  iterF_unfold _ (readFramed_step cap mode) _ evs (Nat.lt_succ_self _)

/-- split invariance, compositional form -/
theorem readAll_clean (cap : Nat) (mode : Mode) (tail : List Ev) (msgs : List Bytes) (c : List Ev)
    (hm : ∀ m ∈ msgs, fits mode m ∧ m.length ≤ cap) (hc : Clean c) (hp : payload c = (msgs.map (frame mode)).flatten) :
    readAll cap mode (c ++ tail) = msgs.map .ok ++ readAll cap mode tail := by
  have := frames_clean cap mode (fun _ => true) (readAll cap mode)
    (fun r => by rw [readAll_unfold, readFramed_pending, ← readAll_unfold]) (fun c m rest tail hc hp hf hcap => by
    obtain ⟨c', k1, k2, k4⟩ := readFramed_clean cap mode c m rest tail hc hp hf hcap
    exact ⟨c', k1, k2, by rw [readAll_unfold, k4]; rfl⟩) tail msgs c hm hc hp
  rwa [List.filter_eq_self.mpr fun _ _ => rfl] at this

theorem readAll_nil (cap : Nat) (mode : Mode) : readAll cap mode [] = [.error .eof] := by
  rw [readAll_unfold, readFramed_at_cut cap mode rfl]

theorem recvBodyF_succ (cap f : Nat) (evs : List Ev) :
    recvBodyF cap (f+1) evs =
      match readFramed cap .distribution evs with
      | ⟨.ok [], r, _⟩ => recvBodyF cap f r
      | o => o := by
  fun_cases readFramed cap .distribution evs with
  | case1 e r h1 => simp only [recvBodyF, show readExact 4 evs = _ from h1]
  | case2 lb r h1 len h0 => simp only [recvBodyF, show readExact 4 evs = _ from h1]; exact if_pos h0
  | case3 lb r h1 len h0 hc =>
    simp only [recvBodyF, show readExact 4 evs = _ from h1]
    exact (if_neg h0).trans (if_pos hc)
  | case4 lb r h1 len h0 hc res r2 h2 =>
    simp only [recvBodyF, show readExact 4 evs = _ from h1]
    refine (if_neg h0).trans ((if_neg hc).trans ?_)
    rw [show readExact (lenOf lb) r = _ from h2]
    -- a body read of `len ≠ 0` bytes does not return the empty body that stands for a tick
    cases res with
    | error e => rfl
    | ok t =>
      cases t with
      | nil => exact absurd (readExact_ok _ _ _ _ h2).1.symm h0
      | cons x xs => rfl
/-- what holds of every outcome of `read_framed` but a tick, and still holds when a tick in front is skipped, holds of
the second copy (`P evs o`: `o` is an outcome on the script `evs`) -/
theorem recvBodyF_ind (cap : Nat) (P : List Ev → RdOut → Prop) (h0 : ∀ evs, P evs ⟨.error .eof, evs, 0⟩)
    (hstep : ∀ evs, (readFramed cap .distribution evs).res ≠ .ok [] → P evs (readFramed cap .distribution evs))
    (htick : ∀ evs o, (readFramed cap .distribution evs).res = .ok [] →
      P (readFramed cap .distribution evs).rest o → P evs o) :
    ∀ (f : Nat) (evs : List Ev), P evs (recvBodyF cap f evs) := by
  intro f
  induction f with
  | zero => exact h0
  | succ f ih =>
    intro evs
    rw [recvBodyF_succ]
    have hs := hstep evs
    have ht := htick evs
    cases hr : readFramed cap .distribution evs with
    | mk res r a =>
      rw [hr] at hs ht
      cases res with
      | error e => exact hs nofun
      | ok t =>
        cases t with
        | nil => exact ht _ rfl (ih r)
        | cons x xs => exact hs nofun

/-- soundness of the second copy on every script -/
theorem recvBodyF_ok (cap : Nat) : ∀ (f : Nat) (evs : List Ev) (m : Bytes), (recvBodyF cap f evs).res = .ok m →
    weight (recvBodyF cap f evs).rest < weight evs ∧ m ≠ [] ∧ m.length ≤ cap ∧ fits .distribution m ∧
      (recvBodyF cap f evs).allocRequested = m.length ∧
      ∃ j, payload evs = (List.replicate j (frame .distribution [])).flatten ++ frame .distribution m
        ++ payload (recvBodyF cap f evs).rest := by
  refine recvBodyF_ind cap (fun evs o => ∀ m, o.res = .ok m → weight o.rest < weight evs ∧ m ≠ [] ∧ m.length ≤ cap ∧
    fits .distribution m ∧ o.allocRequested = m.length ∧
    ∃ j, payload evs = (List.replicate j (frame .distribution [])).flatten ++ frame .distribution m ++ payload o.rest)
    (fun _ _ h => nomatch h) ?_ ?_
  · intro evs hne m h
    obtain ⟨k1, k2, k3, k4, k5⟩ := readFramed_ok cap .distribution evs m h
    exact ⟨k4, fun hm => hne (hm ▸ h), k3, k2, k5, 0, by rw [k1]; rfl⟩
  · intro evs o ht ih m h
    obtain ⟨k1, _, _, k4, _⟩ := readFramed_ok cap .distribution evs [] ht
    obtain ⟨i1, i2, i3, i4, i5, j, i6⟩ := ih m h
    refine ⟨by omega, i2, i3, i4, i5, j + 1, ?_⟩
    rw [k1, i6, List.replicate_succ, List.flatten_cons]
    simp only [List.append_assoc]

theorem recvBodyF_alloc_le (cap : Nat) : ∀ (f : Nat) (evs : List Ev), (recvBodyF cap f evs).allocRequested ≤ cap :=
  recvBodyF_ind cap (fun _ o => o.allocRequested ≤ cap) (fun _ => Nat.zero_le _)
    (fun evs _ => readFramed_alloc_le cap .distribution evs) (fun _ _ _ h => h)

theorem recvBody_step (cap : Nat) :
    ∀ evs m, (recvBody cap evs).res = .ok m → weight (recvBody cap evs).rest < weight evs :=
  fun evs m h => (recvBodyF_ok cap _ evs m h).1

theorem recvAll_unfold (cap : Nat) (evs : List Ev) :
    recvAll cap evs =
      match (recvBody cap evs).res with
      | .error e => [.error e]
      | .ok m => .ok m :: recvAll cap (recvBody cap evs).rest :=
  iterF_unfold _ (recvBody_step cap) _ evs (Nat.lt_succ_self _)

theorem recvBody_unfold (cap : Nat) (evs : List Ev) :
    recvBody cap evs =
      match readFramed cap .distribution evs with
      | ⟨.ok [], r, _⟩ => recvBody cap r
      | o => o := by
  refine fuelRec (recvBodyF cap) weight (fun evs k => match readFramed cap .distribution evs with
    | ⟨.ok [], r, _⟩ => k r
    | o => o) (fun evs g g' hg => ?_) (recvBodyF_succ cap) _ evs (Nat.lt_succ_self _)
  have hw := readFramed_step cap .distribution evs []
  generalize readFramed cap .distribution evs = o at hw ⊢
  obtain ⟨res, r, a⟩ := o
  cases res with
  | error e => rfl
  | ok t =>
    cases t with
    | nil => exact hg r (hw rfl)
    | cons x xs => rfl

theorem recvBody_pending (cap : Nat) (r : List Ev) : recvBody cap (.pending :: r) = recvBody cap r := by
  rw [recvBody_unfold, readFramed_pending, ← recvBody_unfold]

theorem recvBody_clean_tick (cap : Nat) (c : List Ev) (rest : Bytes) (tail : List Ev) (hc : Clean c)
    (hp : payload c = frame .distribution [] ++ rest) :
    ∃ c', Clean c' ∧ payload c' = rest ∧ recvBody cap (c ++ tail) = recvBody cap (c' ++ tail) := by
  obtain ⟨c', k1, k2, k4⟩ := readFramed_clean cap .distribution c [] rest tail hc hp (by decide) (Nat.zero_le _)
  exact ⟨c', k1, k2, by rw [recvBody_unfold, k4]⟩

/-- a non-empty message at the head of a clean script is returned, whatever the chunking -/
theorem recvBody_clean_msg (cap : Nat) (c : List Ev) (m rest : Bytes) (tail : List Ev) (hc : Clean c)
    (hp : payload c = frame .distribution m ++ rest) (hm : m ≠ []) (hf : fits .distribution m) (hcap : m.length ≤ cap) :
    ∃ c', Clean c' ∧ payload c' = rest ∧ recvBody cap (c ++ tail) = ⟨.ok m, c' ++ tail, m.length⟩ := by
  obtain ⟨c', k1, k2, k4⟩ := readFramed_clean cap .distribution c m rest tail hc hp hf hcap
  refine ⟨c', k1, k2, ?_⟩
  rw [recvBody_unfold, k4]
  cases m with
  | nil => exact absurd rfl hm
  | cons x xs => rfl

theorem recvBody_clean_overcap (cap : Nat) (c : List Ev) (len : Nat) (rest : Bytes) (tail : List Ev)
    (hc : Clean c) (hp : payload c = beN 4 len ++ rest) (hl : len < 256 ^ 4) (hcap : cap < len) :
    ∃ c', Clean c' ∧ payload c' = rest ∧
      recvBody cap (c ++ tail) = ⟨.error (.tooLarge len), c' ++ tail, 0⟩ := by
  obtain ⟨c', k1, k2, k3⟩ := readFramed_clean_overcap cap .distribution c len rest tail hc hp hl hcap
  exact ⟨c', k1, k2, by rw [recvBody_unfold, k3]⟩

/-- the second copy cut off inside a (non-tick) frame, or at a frame boundary -/
theorem recvBody_cut (cap : Nat) (c : List Ev) (m missing : Bytes) (tail : List Ev) (e : RErr) (r : List Ev)
    (hc : Clean c) (hp : payload c ++ missing = frame .distribution m) (hmiss : missing ≠ [])
    (hf : fits .distribution m) (hcap : m.length ≤ cap) (ht : cutErr tail = some (e, r)) :
    (recvBody cap (c ++ tail)).res = .error e ∧ (recvBody cap (c ++ tail)).rest = r := by
  obtain ⟨h1, h2⟩ := readFramed_cut cap .distribution c m missing tail e r hc hp hmiss hf hcap ht
  rw [recvBody_unfold]
  cases hr : readFramed cap .distribution (c ++ tail) with
  | mk res r' al =>
    rw [hr] at h1 h2
    subst h1 h2
    exact ⟨rfl, rfl⟩

/-- split invariance of the second copy, compositional form: ticks vanish, the other bodies come out in order -/
theorem recvAll_clean (cap : Nat) (tail : List Ev) (bodies : List Bytes) (c : List Ev)
    (hm : ∀ m ∈ bodies, fits .distribution m ∧ m.length ≤ cap) (hc : Clean c)
    (hp : payload c = (bodies.map (frame .distribution)).flatten) :
    recvAll cap (c ++ tail) = (bodies.filter (· ≠ [])).map .ok ++ recvAll cap tail :=
  frames_clean cap .distribution (· ≠ []) (recvAll cap)
    (fun r => by rw [recvAll_unfold, recvBody_pending, ← recvAll_unfold]) (fun c m rest tail hc hp hf hcap => by
    by_cases hne : m = []
    · subst hne
      obtain ⟨c', k1, k2, k3⟩ := recvBody_clean_tick cap c rest tail hc hp
      exact ⟨c', k1, k2, by rw [recvAll_unfold, k3, ← recvAll_unfold]; rfl⟩
    · obtain ⟨c', k1, k2, k3⟩ := recvBody_clean_msg cap c m rest tail hc hp hne hf hcap
      exact ⟨c', k1, k2, by rw [recvAll_unfold, k3]; simp [hne]⟩) tail bodies c hm hc hp

theorem recvAll_nil (cap : Nat) : recvAll cap [] = [.error .eof] := by
  simp [recvAll, iterF, recvBody, recvBodyF, readExact]

end Edp.Framing
