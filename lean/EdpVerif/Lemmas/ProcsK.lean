import EdpVerif.Impl.ProcsK
/-! Lemmas about the send-form parametrised model (`Impl/ProcsK.lean`): with every site waiting it IS `Impl/Procs.lean`;
a full mailbox suspends the sending step; the receiver's step makes room. -/
namespace Edp.Impl.ProcsK
open Edp Edp.Impl.Procs Edp.Chan

theorem clientStepK_await (F : Site → Form) (hF : ∀ s, F s = .await) (k : KSt) (t : Tid) :
    clientStepK F k t = (clientStep k.st t).map (⟨·, k.dropped⟩) := by
  unfold clientStepK
  simp only [hF, Form.givesUp, Bool.false_eq_true, and_false, if_false]
  split <;> rfl

theorem procStepK_await (F : Site → Form) (hF : ∀ s, F s = .await) (k : KSt) (p : Pid) (i : Nat) :
    procStepK F k p i = (procStep k.st p i).map (⟨·, k.dropped⟩) := by
  unfold procStepK
  simp only [hF, Form.givesUp, Bool.false_eq_true, and_false, if_false]
  split <;> rfl

theorem stepEvK_await (F : Site → Form) (hF : ∀ s, F s = .await) (k : KSt) (e : Ev) :
    stepEvK F k e = (stepEv k.st e).map (⟨·, k.dropped⟩) := by
  cases e with
  | start t op => rfl
  | cont t => exact clientStepK_await F hF k t
  | «proc» p i => exact procStepK_await F hF k p i

theorem runK_await (F : Site → Form) (hF : ∀ s, F s = .await) (evs : List Ev) (k : KSt) :
    runK F k evs = ⟨run k.st evs, k.dropped⟩ := by
  induction evs generalizing k with
  | nil => rfl
  | cons e es ih =>
    have h1 : runK F k (e :: es) = runK F ((stepEvK F k e).getD k) es := rfl
    have h2 : run k.st (e :: es) = run ((stepEv k.st e).getD k.st) es := rfl
    rw [h1, h2, ih, stepEvK_await F hF]
    cases stepEv k.st e <;> rfl

/-- a client step that sends into `p`: suspended while `p`'s mailbox is full and its receiver is there -/
theorem clientStep_full_blocks (st : St) (t : Tid) (p : Pid) (ht : cTarget (st.cpc t) = some p)
    (hc : (st.procs p).closed = false) (hf : st.cap ≤ (st.procs p).mailbox.length) : clientStep st t = none := by
  have hn : ¬ (st.procs p).mailbox.length < st.cap := by omega
  unfold clientStep
  cases h : st.cpc t <;> simp [h, cTarget] at ht <;> subst ht <;> simp [hc, hn]

/-- … and with room it is enabled and puts exactly one message at the end of `p`'s queue (and of what `p` accepted) -/
theorem clientStep_room_sends (st : St) (t : Tid) (p : Pid) (ht : cTarget (st.cpc t) = some p)
    (hc : (st.procs p).closed = false) (hf : (st.procs p).mailbox.length < st.cap) :
    ∃ st' m, clientStep st t = some st' ∧ (st'.procs p).mailbox = (st.procs p).mailbox ++ [m] ∧
      (st'.procs p).accepted.map (·.2) = (st.procs p).accepted.map (·.2) ++ [m] ∧
      ∀ q, q ≠ p → (st'.procs q).mailbox = (st.procs q).mailbox := by
  unfold clientStep
  cases h : st.cpc t <;> simp [h, cTarget] at ht <;> subst ht <;>
    simp [hc, hf, St.deliver, St.modP, St.ret, St.setC, Proc.push, upd] <;>
    (intro q hq; simp [hq])

theorem procStep_full_blocks (st : St) (q : Pid) (i : Nat) (p : Pid) (ht : pTarget (st.procs q).pc = some p)
    (hc : (st.procs p).closed = false) (hf : st.cap ≤ (st.procs p).mailbox.length) : procStep st q i = none := by
  have hn : ¬ (st.procs p).mailbox.length < st.cap := by omega
  unfold procStep
  cases h : (st.procs q).pc <;> simp [h, pTarget] at ht <;> subst ht <;> simp [hc, hn]

/-- the receiver's step: a process in its loop with a non-empty queue can always step; the step takes the OLDEST message
and nothing else out of the queue, and touches no other process, no client task -/
theorem procStep_recv_makes_room (st : St) (p : Pid) (i : Nat) (m : Msg) (rest : List Msg)
    (hp : (st.procs p).pc = .recv) (hm : (st.procs p).mailbox = m :: rest) :
    ∃ st', procStep st p i = some st' ∧ (st'.procs p).mailbox = rest ∧ (st'.procs p).closed = (st.procs p).closed ∧
      st'.cap = st.cap ∧ st'.cpc = st.cpc ∧ ∀ q, q ≠ p → st'.procs q = st.procs q := by
  unfold procStep
  simp [hp, hm, St.modP, upd]
  intro q hq
  simp [hq]

end Edp.Impl.ProcsK
