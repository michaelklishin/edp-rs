import EdpVerif.Lemmas.DistHeader
import EdpVerif.Lemmas.RoundTrip
import EdpVerif.Lemmas.SpecValid
/-
C14, the part after the header: the terms of a header-mode message (every atom a reference into the header), read
by the independent reader and by the library's own decoder.  Built on the cache-generic codec lemmas of C01
(`spec_enc`, `dec_enc`).
-/
namespace Edp.DistHeader
open Edp Edp.Spec.DistHeader

mutual
/-- the atoms `collect_atoms` finds are atoms of the term: valid UTF-8 when the term is well formed -/
theorem atoms_valid (t : Term) (hw : wfT t = true) : ∀ a ∈ atomsOf t, validUtf8 a = true := by
  match t with
  | .atom a => intro b hb; simp only [atomsOf, List.mem_singleton] at hb; subst hb; simpa [wfT] using hw
  | .int _ | .float _ | .bin _ | .str _ | .bits _ _ | .big _ _ | .nil => intro b hb; simp [atomsOf] at hb
  | .pid p =>
    intro b hb; simp only [atomsOf, List.mem_singleton] at hb; subst hb
    simp only [wfT, wfPid, Bool.and_eq_true] at hw; exact hw.1.1.1.1
  | .port n _ _ _ | .ref n _ _ _ =>
    intro b hb; simp only [atomsOf, List.mem_singleton] at hb; subst hb
    simp only [wfT, Bool.and_eq_true] at hw; exact hw.1.1.1
  | .xfun m f _ =>
    intro b hb; simp only [atomsOf, List.mem_cons, List.not_mem_nil, or_false] at hb
    simp only [wfT, Bool.and_eq_true] at hw
    rcases hb with rfl | rfl
    · exact hw.1.1
    · exact hw.1.2
  | .tuple l | .list l => simp only [wfT, Bool.and_eq_true] at hw; simpa [atomsOf] using atomsL_valid l hw.2
  | .ilist l tl =>
    simp only [wfT, Bool.and_eq_true] at hw
    intro b hb; simp only [atomsOf, List.mem_append] at hb
    rcases hb with hb | hb
    · exact atomsL_valid l hw.1.2 b hb
    · exact atoms_valid tl hw.2 b hb
  | .map kvs => simp only [wfT, Bool.and_eq_true] at hw; simpa [atomsOf] using atomsKV_valid kvs hw.2
  | .ifun a u i nf m oi ou p fr =>
    simp only [wfT, wfPid, Bool.and_eq_true] at hw
    intro b hb; simp only [atomsOf, List.mem_cons] at hb
    rcases hb with rfl | rfl | hb
    · exact hw.1.1.1.1.2
    · exact hw.1.2.1.1.1.1
    · exact atomsL_valid fr hw.2 b hb
termination_by sizeOf t
decreasing_by all_goals (simp_wf; try omega)
theorem atomsL_valid (l : List Term) (hw : wfL l = true) : ∀ a ∈ atomsOfL l, validUtf8 a = true := by
  match l with
  | [] => intro b hb; simp [atomsOfL] at hb
  | t :: ts =>
    simp only [wfL, Bool.and_eq_true] at hw
    intro b hb; simp only [atomsOfL, List.mem_append] at hb
    rcases hb with hb | hb
    · exact atoms_valid t hw.1 b hb
    · exact atomsL_valid ts hw.2 b hb
termination_by sizeOf l
decreasing_by all_goals (simp_wf; try omega)
theorem atomsKV_valid (l : List (Term × Term)) (hw : wfKV l = true) : ∀ a ∈ atomsOfKV l, validUtf8 a = true := by
  match l with
  | [] => intro b hb; simp [atomsOfKV] at hb
  | (k, v) :: r =>
    simp only [wfKV, Bool.and_eq_true] at hw
    intro b hb; simp only [atomsOfKV, List.mem_append] at hb
    rcases hb with (hb | hb) | hb
    · exact atoms_valid k hw.1.1 b hb
    · exact atoms_valid v hw.1.2 b hb
    · exact atomsKV_valid r hw.2 b hb
termination_by sizeOf l
decreasing_by all_goals (simp_wf; try omega)
end

/-- an order accepted by `isOrderFor` lists exactly the atoms of the terms -/
theorem mem_order_iff {order : List Bytes} {terms : List Term} (h : isOrderFor order terms = true) (a : Bytes) :
    a ∈ order ↔ a ∈ atomsOfL terms := by
  simp only [isOrderFor, Bool.and_eq_true, List.all_eq_true] at h
  exact ⟨fun ha => by simpa using h.1.1 a ha, fun ha => by simpa using h.1.2 a ha⟩

theorem order_valid (order : List Bytes) (terms : List Term) (h : isOrderFor order terms = true)
    (hw : wfL terms = true) : ∀ a ∈ order, validUtf8 a = true :=
  fun a ha => atomsL_valid terms hw a ((mem_order_iff h a).mp ha)

theorem mapM_cps (order : List Bytes) (hv : ∀ a ∈ order, validUtf8 a = true) :
    order.mapM utf8Decode = some (order.map cps) := by
  induction order with
  | nil => rfl
  | cons a r ih =>
    have := ih (fun b hb => hv b (by simp [hb]))
    simp [List.mapM_cons, utf8_cps a (hv a (by simp)), this]

theorem indexOf?_of_mem (a : Bytes) (c : List Bytes) (h : a ∈ c) : ∃ i, indexOf? a c = some i := by
  induction c with
  | nil => cases h
  | cons x xs ih =>
    simp only [indexOf?]
    by_cases hx : (x == a) = true
    · exact ⟨0, by simp [hx]⟩
    · have : a ∈ xs := by
        rcases List.mem_cons.mp h with rfl | h'
        · simp at hx
        · exact h'
      obtain ⟨i, hi⟩ := ih this
      exact ⟨i + 1, by simp [hx, hi]⟩

theorem encAtom_ref (order : List Bytes) (a : Bytes) (h : a ∈ order) :
    ∃ i, i < order.length ∧ order[i]? = some a ∧ encAtom order a = .ok [82, UInt8.ofNat i] := by
  obtain ⟨i, hi⟩ := indexOf?_of_mem a order h
  exact ⟨i, indexOf?_lt a order i hi, indexOf?_get a order i hi, by simp [encAtom, hi]⟩

theorem encL_length_ge (cache : List Bytes) : ∀ (l : List Term) (b : Bytes), encL cache l = .ok b → l.length ≤ b.length := by
  intro l
  induction l with
  | nil => intro b _; simp
  | cons t ts ih =>
    intro b h
    obtain ⟨a, c, h1, h2, rfl⟩ := encL_cons_ok h
    obtain ⟨tag, rest, rfl, _⟩ := enc_head cache t a h1
    have := ih c h2
    simp only [List.length_append, List.length_cons]
    omega

theorem readTerms_encL (env : Spec.Env) (cache : List Bytes) (hrefs : env.refs = cache.map cps)
    (hlen : cache.length ≤ 256) :
    ∀ (terms : List Term) (body : Bytes) (fuel : Nat), terms ≠ [] → wfL terms = true → finiteFloatsL terms = true →
      encL cache terms = .ok body → body.length < 4294967296 → terms.length ≤ fuel →
      readTerms env fuel body = some (Term.denL terms) := by
  intro terms
  induction terms with
  | nil => intro _ _ h; exact absurd rfl h
  | cons t ts ih =>
    intro body fuel _ hw hfin he hsz hf
    simp only [wfL, Bool.and_eq_true] at hw
    simp only [finiteFloatsL, Bool.and_eq_true] at hfin
    obtain ⟨a, b, h1, h2, rfl⟩ := encL_cons_ok he
    obtain ⟨f, rfl⟩ : ∃ f, fuel = f + 1 := ⟨fuel - 1, by simp at hf; omega⟩
    have hl := tsz_le_length cache t a hw.1 h1
    have hp := spec_enc env cache hrefs hlen t a b ((a ++ b).length + 1) hw.1 hfin.1 h1
      (by simp at hsz; omega) (by simp; omega)
    simp only [readTerms, hp]
    cases ts with
    | nil =>
      simp only [encL, Except.ok.injEq] at h2
      subst h2
      simp [Term.denL]
    | cons t2 ts2 =>
      have hb : b ≠ [] := by
        intro hb
        have := encL_length_ge cache (t2 :: ts2) b h2
        simp [hb] at this
      have ih' := ih b f (by simp) hw.2 hfin.2 h2 (by simp at hsz; omega) (by simp at hf ⊢; omega)
      cases b with
      | nil => exact absurd rfl hb
      | cons b0 br => simp only [ih', Option.map_some, Term.denL]

/-- what the encoder writes for a term reads as that term (in wire form) under a table that fits the encoder's atom order -/
theorem reads_enc (x : Ext) {c : Recv.PosTable} {order : List Bytes} (hc : cfgFor order { cache := c }) (hlen : order.length ≤ 256)
    {t : Term} {bs : Bytes} (hw : wfT t = true) (hd : dep t ≤ MAX_NESTING_DEPTH) (he : enc order t = .ok bs) :
    Recv.Reads x c bs (wire t) := fun r fuel hf =>
  dec_enc x { cache := c } order hc hlen t bs r fuel 0 hw (by omega) he (by have := tsz_le_length order t bs hw he; omega)

/-- `decode_with_atom_cache` after a header that was read: the control term and the optional payload come back, the
cache is the one the header left -/
theorem own_decode (x : Ext) (c c1 : Cache) (order : List Bytes) (hlen : order.length ≤ 256) (r1 body : Bytes)
    (hp : parseHeader c r1 = (c1, .ok body)) (hc : cfgFor order { cache := c1.atoms })
    (hbl : body.length ≤ r1.length) (t : Term) (q : Option Term)
    (hw : wfT t = true) (hwq : ∀ u ∈ q, wfT u = true)
    (hd : dep t ≤ MAX_NESTING_DEPTH) (hdq : ∀ u ∈ q, dep u ≤ MAX_NESTING_DEPTH)
    (he : encL order (t :: q.toList) = .ok body) :
    decodeWithAtomCache x c (131 :: 68 :: r1) = (c1, .ok (wire t, q.map wire)) := by
  rw [decodeWithAtomCache_cons, if_pos rfl, hp]
  obtain ⟨a, rest, h1, h2, rfl⟩ := encL_cons_ok he
  have hf : (a ++ rest).length < (131 :: 68 :: r1).length + 1 + x.extra := by simp only [List.length_cons]; omega
  cases q with
  | none =>
    cases h2
    exact congrArg _ (Recv.termsOf_reads (reads_enc x hc hlen hw hd h1) none (fun _ _ h => nomatch h) hf)
  | some u =>
    obtain ⟨b, _, h3, h4, rfl⟩ := encL_cons_ok h2
    cases h4
    rw [List.append_nil] at hf ⊢
    exact congrArg _ (Recv.termsOf_reads (reads_enc x hc hlen hw hd h1) (some (b, wire u))
      (fun pb p h => by cases h; exact reads_enc x hc hlen (hwq u rfl) (hdq u rfl) h3) hf)

/-- the library reads its own header: the decoder's position table fits the encoder's atom order, whatever older
positions the table still holds -/
theorem cfgFor_of_lookup (order : List Bytes) (c1 : Cache)
    (h : ∀ j (hj : j < order.length), c1.atoms.lookup j = some order[j]) : cfgFor order { cache := c1.atoms } := by
  refine Or.inr ⟨rfl, ?_⟩
  intro a i hi
  have hlt := indexOf?_lt a order i hi
  have hg := indexOf?_get a order i hi
  rw [h i hlt]
  rw [List.getElem?_eq_getElem hlt] at hg
  exact hg

end Edp.DistHeader
