import EdpVerif.Lemmas.RoundTrip
import EdpVerif.Lemmas.CmpSwap
import EdpVerif.Impl.Den
import EdpVerif.Lemmas.MapInsert
/-! Re-encoding the decoded term (`enc (wire t) = enc t`) and the value it denotes (`den (wire t) = den t`). -/
namespace Edp

def allLt (k : Term) (r : List (Term × Term)) : Bool := r.all (fun kv => Term.cmp k kv.1 == .lt)

/-- every key is strictly below every later key (`Term.cmp`), pairwise — what iterating a `BTreeMap` yields -/
def pairwiseLt : List (Term × Term) → Bool
  | [] => true
  | (k, _) :: r => allLt k r && pairwiseLt r

theorem insertAll_append (acc kvs : List (Term × Term))
    (h1 : ∀ a ∈ acc, ∀ b ∈ kvs, Term.cmp a.1 b.1 = .lt) (h2 : pairwiseLt kvs = true) :
    insertAll acc kvs = acc ++ kvs := by
  induction kvs generalizing acc with
  | nil => simp [insertAll]
  | cons kv r ih =>
    obtain ⟨k, v⟩ := kv
    simp only [pairwiseLt, Bool.and_eq_true, allLt, List.all_eq_true, beq_iff_eq] at h2
    simp only [insertAll]
    rw [mapInsert_append acc k v (fun a ha => by rw [Term.cmp_swap, h1 a ha (k, v) (by simp)]; rfl)]
    rw [ih (acc ++ [(k, v)]) ?_ h2.2]
    · simp
    · intro a ha b hb
      simp only [List.mem_append, List.mem_singleton] at ha
      rcases ha with ha | rfl
      · exact h1 a ha b (by simp [hb])
      · exact h2.1 b hb

theorem insertAll_sorted (kvs : List (Term × Term)) (h : pairwiseLt kvs = true) : insertAll [] kvs = kvs := by
  simpa using insertAll_append [] kvs (by simp) h

mutual
/-- every map in the term has its keys (as they come back from the wire) pairwise strictly increasing — true of any
term whose maps were built as `BTreeMap`s, provided the order does not change under `wire` -/
def sortedKeys : Term → Bool
  | .list l => sortedKeysL l
  | .ilist l t => sortedKeysL l && sortedKeys t
  | .map kvs => sortedKeysKV kvs && pairwiseLt (wireKV kvs)
  | .tuple l => sortedKeysL l
  | .ifun _ _ _ _ _ _ _ _ fr => sortedKeysL fr
  | _ => true
def sortedKeysL : List Term → Bool
  | [] => true
  | t :: ts => sortedKeys t && sortedKeysL ts
def sortedKeysKV : List (Term × Term) → Bool
  | [] => true
  | (k, v) :: r => sortedKeys k && sortedKeys v && sortedKeysKV r
end

mutual
/-- no improper list with no elements and a nil tail (`ImproperList{elements: [], tail: Nil}`: written as
`108,0,0,0,0,106`, read back as the empty list, which is written as `106`) -/
def noEmptyImproper : Term → Bool
  | .list l => noEmptyImproperL l
  | .ilist l t => noEmptyImproperL l && noEmptyImproper t && !(l.isEmpty && (wire t).isNil)
  | .map kvs => noEmptyImproperKV kvs
  | .tuple l => noEmptyImproperL l
  | .ifun _ _ _ _ _ _ _ _ fr => noEmptyImproperL fr
  | _ => true
def noEmptyImproperL : List Term → Bool
  | [] => true
  | t :: ts => noEmptyImproper t && noEmptyImproperL ts
def noEmptyImproperKV : List (Term × Term) → Bool
  | [] => true
  | (k, v) :: r => noEmptyImproper k && noEmptyImproper v && noEmptyImproperKV r
end

theorem wireL_length (l : List Term) : (wireL l).length = l.length := by
  induction l with
  | nil => rfl
  | cons a l ih => simp [wireL, ih]

theorem wireKV_length (l : List (Term × Term)) : (wireKV l).length = l.length := by
  induction l with
  | nil => rfl
  | cons a l ih => simp [wireKV, ih]

theorem wireL_isEmpty (l : List Term) : (wireL l).isEmpty = l.isEmpty := by cases l <;> rfl

theorem enc_wire_int (cache : List Bytes) (i : Int) : enc cache (wire (.int i)) = .ok (encInt i) := by
  by_cases h : -2147483648 ≤ i ∧ i ≤ 2147483647
  · rw [wire, if_pos h, enc]
  · rw [wire, if_neg h, encInt_big h, enc]

/-- LIST_EXT is written the same way whether the nil tail is implicit or explicit, except for the empty list -/
theorem enc_listOf (cache : List Bytes) (l : List Term) (t : Term) (h : ¬ (l.isEmpty = true ∧ t.isNil = true)) :
    enc cache (listOf l t) = enc cache (.ilist l t) := by
  cases t <;> try rfl
  have hl : l.isEmpty = false := by simpa [Term.isNil] using h
  simp only [listOf, enc, hl, Bool.false_eq_true, ↓reduceIte]

mutual
theorem enc_wire (cache : List Bytes) (t : Term) (bs : Bytes) (hs : sortedKeys t = true) (hn : noEmptyImproper t = true)
    (he : enc cache t = .ok bs) : enc cache (wire t) = .ok bs := by
  match t with
  | .atom _ | .float _ | .bin _ | .str _ | .bits _ _ | .big _ _ | .nil | .pid _ | .port _ _ _ _ | .ref _ _ _ _
  | .xfun _ _ _ => exact he
  | .int i => cases he; exact enc_wire_int cache i
  | .tuple l =>
    obtain ⟨_, lb, hl, _⟩ := enc_tuple_ok he
    rw [← he]
    simp only [wire, enc, wireL_length, hl, encL_wire cache l lb hs hn hl]
  | .list l =>
    rcases enc_list_ok he with ⟨rfl, _⟩ | ⟨hne, _, lb, hl, _⟩
    · exact he
    · rw [← he]
      have e : wire (.list l) = .list (wireL l) := by cases l with | nil => exact absurd rfl hne | cons _ _ => rfl
      simp only [e, enc, wireL_isEmpty, wireL_length, hl, encL_wire cache l lb hs hn hl]
  | .ilist l tl =>
    obtain ⟨_, lb, tb, hl, ht, _⟩ := enc_ilist_ok he
    simp only [sortedKeys, noEmptyImproper, Bool.and_eq_true, Bool.not_eq_true', Bool.and_eq_false_iff] at hs hn
    rw [← he, wire_ilist, enc_listOf _ _ _ (by rw [wireL_isEmpty]; intro h; rcases hn.2 with h' | h' <;> simp [h'] at h)]
    simp only [enc, wireL_length, hl, ht, encL_wire cache l lb hs.1 hn.1.1 hl, enc_wire cache tl tb hs.2 hn.1.2 ht]
  | .map kvs =>
    obtain ⟨_, b, hl, _⟩ := enc_map_ok he
    simp only [sortedKeys, Bool.and_eq_true] at hs
    rw [← he]
    simp only [wire, insertAll_sorted _ hs.2, enc, wireKV_length, hl, encKV_wire cache kvs b hs.1 hn hl]
  | .ifun a u i nf m oi ou p fr =>
    obtain ⟨mb, pb, fb, hm, hp, hfr, _⟩ := enc_ifun_ok he
    rw [← he]
    simp only [wire, enc, hm, hp, hfr, encL_wire cache fr fb hs hn hfr]
theorem encL_wire (cache : List Bytes) (l : List Term) (bs : Bytes) (hs : sortedKeysL l = true)
    (hn : noEmptyImproperL l = true) (he : encL cache l = .ok bs) : encL cache (wireL l) = .ok bs := by
  match l with
  | [] => exact he
  | t :: ts =>
    obtain ⟨a, b, ha, hb, rfl⟩ := encL_cons_ok he
    simp only [sortedKeysL, noEmptyImproperL, Bool.and_eq_true] at hs hn
    simp only [wireL, encL, enc_wire cache t a hs.1 hn.1 ha, encL_wire cache ts b hs.2 hn.2 hb]
theorem encKV_wire (cache : List Bytes) (kvs : List (Term × Term)) (bs : Bytes) (hs : sortedKeysKV kvs = true)
    (hn : noEmptyImproperKV kvs = true) (he : encKV cache kvs = .ok bs) : encKV cache (wireKV kvs) = .ok bs := by
  match kvs with
  | [] => exact he
  | (k, v) :: ts =>
    obtain ⟨a, b, c, ha, hb, hc, rfl⟩ := encKV_cons_ok he
    simp only [sortedKeysKV, noEmptyImproperKV, Bool.and_eq_true] at hs hn
    simp only [wireKV, encKV, enc_wire cache k a hs.1.1 hn.1.1 ha, enc_wire cache v b hs.1.2 hn.1.2 hb,
      encKV_wire cache ts c hs.2 hn.2 hc]
end

theorem encode_wire (t : Term) (bs : Bytes) (hs : sortedKeys t = true) (hn : noEmptyImproper t = true)
    (he : encode t = .ok bs) : encode (wire t) = .ok bs := by
  obtain ⟨b, h, rfl⟩ := encode_ok he
  rw [encode, enc_wire [] t b hs hn h]

open Term

/-- `sigLen` of a reversed list, stated on the most-significant-first list -/
def sigLenR (e : Bytes) : Nat :=
  match e.dropWhile (· == 0) with
  | [] => 1
  | r => r.length

theorem sigLen_eq (d : Bytes) : sigLen d = sigLenR d.reverse := rfl

theorem den_wire_int (i : Int) (h : -9223372036854775808 ≤ i ∧ i ≤ 9223372036854775807) :
    den (wire (.int i)) = .int i := by
  unfold wire
  by_cases h2 : -2147483648 ≤ i ∧ i ≤ 2147483647
  · simp [h2, den]
  · simp only [h2, ↓reduceIte, den, bigVal, magVal_take_sigLen, magVal_leN]
    have : i.natAbs % 256 ^ 8 = i.natAbs := Nat.mod_eq_of_lt (by omega)
    rw [this]
    by_cases hn : i < 0
    · simp [hn]; omega
    · simp [hn]; omega


theorem den_listOf (l : List Term) (t : Term) : den (listOf l t) = Value.mkList (denL l) (den t) := by
  cases t <;> rfl

mutual
theorem den_wire (t : Term) (hw : wfT t = true) (hs : sortedKeys t = true) : den (wire t) = den t := by
  match t with
  | .atom _ | .float _ | .bin _ | .str _ | .bits _ _ | .big _ _ | .nil | .pid _ | .port _ _ _ _ | .ref _ _ _ _
  | .xfun _ _ _ => rfl
  | .int i => exact den_wire_int i (of_decide_eq_true hw)
  | .tuple l =>
    simp only [wfT, Bool.and_eq_true] at hw
    simp only [wire, den, denL_wire l hw.2 hs]
  | .list l =>
    simp only [wfT, Bool.and_eq_true] at hw
    cases l with
    | nil => rfl
    | cons a l' => simp only [wire, den, denL_wire _ hw.2 hs]
  | .ilist l tl =>
    simp only [wfT, sortedKeys, Bool.and_eq_true] at hw hs
    rw [wire_ilist, den_listOf, denL_wire l hw.1.2 hs.1, den_wire tl hw.2 hs.2, den]
  | .map kvs =>
    simp only [wfT, sortedKeys, Bool.and_eq_true] at hw hs
    simp only [wire, den, insertAll_sorted _ hs.2, denKV_wire kvs hw.2 hs.1]
  | .ifun a u i nf m oi ou p fr =>
    simp only [wfT, Bool.and_eq_true] at hw
    simp only [wire, den, denL_wire fr hw.2 hs]
theorem denL_wire (l : List Term) (hw : wfL l = true) (hs : sortedKeysL l = true) : denL (wireL l) = denL l := by
  match l with
  | [] => rfl
  | t :: ts =>
    simp only [wfL, sortedKeysL, Bool.and_eq_true] at hw hs
    simp only [wireL, denL, den_wire t hw.1 hs.1, denL_wire ts hw.2 hs.2]
theorem denKV_wire (kvs : List (Term × Term)) (hw : wfKV kvs = true) (hs : sortedKeysKV kvs = true) :
    denKV (wireKV kvs) = denKV kvs := by
  match kvs with
  | [] => rfl
  | (k, v) :: ts =>
    simp only [wfKV, sortedKeysKV, Bool.and_eq_true] at hw hs
    simp only [wireKV, denKV, den_wire k hw.1.1 hs.1.1, den_wire v hw.1.2 hs.1.2, denKV_wire ts hw.2 hs.2]
end

end Edp
