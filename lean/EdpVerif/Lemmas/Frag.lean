import EdpVerif.Impl.Frag
import EdpVerif.Spec.Frag
/-! The fragment assembler (C09). An event acts on the entry of its own sequence only (`stepQ`); every phase of an entry —
pending map before the header, slot vector or pending map after it — is read as one slot vector (`FragMsg.vslots`); on that
view, a conforming sequence among arbitrary other events. -/
namespace Edp.Frag
open Edp

theorem lookup_filter_key (f : Nat → Bool) (q : Nat) (l : PMap) :
    lookup q (l.filter (fun p => f p.1)) = if f q then lookup q l else none := by
  induction l with
  | nil => simp [lookup]
  | cons p r ih =>
    obtain ⟨k, m⟩ := p
    by_cases hk : k = q
    · subst hk
      cases hf : f k <;> simp [hf, lookup, ih]
    · cases hf : f k <;> simp [hf, lookup, hk, ih]

theorem lookup_eraseKey (q q' : Nat) (l : PMap) : lookup q (eraseKey q' l) = if q = q' then none else lookup q l := by
  rw [eraseKey, lookup_filter_key (fun k => k != q')]
  by_cases h : q = q' <;> simp [h]

/-- at most one entry per sequence id (what a `HashMap` gives) -/
def WF (l : PMap) : Prop := (l.map Prod.fst).Nodup

theorem lookup_eq_none_iff {q : Nat} {l : PMap} : lookup q l = none ↔ q ∉ l.map Prod.fst := by
  induction l with
  | nil => simp [lookup]
  | cons p r ih =>
    obtain ⟨k, m⟩ := p
    by_cases h : k = q
    · simp [lookup, h]
    · simp [lookup, h, ih, Ne.symm h]

theorem mem_keys_of_lookup {q : Nat} {l : PMap} {m : FragMsg} (h : lookup q l = some m) : (q, m) ∈ l := by
  induction l with
  | nil => simp [lookup] at h
  | cons p r ih =>
    obtain ⟨k, m'⟩ := p
    by_cases hk : k = q
    · simp [lookup, hk] at h; simp [hk, h]
    · simp [lookup, hk] at h; simp [ih h]

theorem lookup_of_mem {q : Nat} {l : PMap} {m : FragMsg} (hw : WF l) (h : (q, m) ∈ l) : lookup q l = some m := by
  induction l with
  | nil => simp at h
  | cons p r ih =>
    obtain ⟨k, m'⟩ := p
    simp only [WF, List.map_cons, List.nodup_cons] at hw
    simp only [List.mem_cons, Prod.mk.injEq] at h
    rcases h with ⟨h1, h2⟩ | h
    · simp [lookup, h1, h2]
    · have : ¬ k = q := by
        intro e; subst e
        exact hw.1 (List.mem_map.mpr ⟨(k, m), h, rfl⟩)
      simp [lookup, this, ih hw.2 h]

theorem WF_filter {l : PMap} (f : Nat × FragMsg → Bool) (h : WF l) : WF (l.filter f) :=
  List.Nodup.sublist (List.Sublist.map _ List.filter_sublist) h

theorem lookup_filter_none {q : Nat} {l : PMap} (f : Nat × FragMsg → Bool) (h : lookup q l = none) :
    lookup q (l.filter f) = none :=
  lookup_eq_none_iff.mpr fun hm => lookup_eq_none_iff.mp h ((List.filter_sublist.map _).subset hm)

theorem lookup_filter {l : PMap} (f : FragMsg → Bool) (q : Nat) (hw : WF l) :
    lookup q (l.filter (fun p => f p.2)) = (lookup q l).filter f :=
  Option.ext fun m => by
    rw [Option.filter_eq_some_iff]
    exact ⟨fun h => (List.mem_filter.mp (mem_keys_of_lookup h)).imp_left (lookup_of_mem hw),
      fun h => lookup_of_mem (WF_filter _ hw) (List.mem_filter.mpr (h.imp_left mem_keys_of_lookup))⟩

/-- the end of `start_fragment` / `add_fragment`: a complete entry is taken out and reassembled -/
def settle (m : FragMsg) : Option FragMsg × Option Bytes := if m.isComplete then (none, m.reassemble) else (some m, none)

/-- `start_fragment` as seen by the entry of its sequence -/
def startQ (st : Option FragMsg) (now fid : Nat) (cache : Option Bytes) (payload : Bytes) : Option FragMsg × Option Bytes :=
  if fid = 0 ∨ MAX_FRAGMENT_COUNT < fid then (st, none) else
  match st with
  | some msg =>
    if msg.total.isSome ∧ msg.total ≠ some fid then (some msg, none)
    else settle (({ msg.setTotal fid with cache := cache }).addFragment now fid payload)
  | none => settle ((FragMsg.new (some fid) cache now).addFragment now fid payload)

/-- `add_fragment` as seen by the entry of its sequence -/
def addQ (st : Option FragMsg) (now fid : Nat) (payload : Bytes) : Option FragMsg × Option Bytes :=
  match st with
  | some msg => settle (msg.addFragment now fid payload)
  | none => (some ((FragMsg.new none none now).addFragment now fid payload), none)

/-- `cleanup_expired` as seen by one entry -/
def cleanQ (timeout : Nat) (st : Option FragMsg) (now : Nat) : Option FragMsg :=
  st.filter (fun m => !m.isExpired now timeout)

def stepQ (timeout : Nat) (st : Option FragMsg) : Op → Option FragMsg × Option Bytes
  | .start now _ fid cache payload => startQ st now fid cache payload
  | .add now _ fid payload => addQ st now fid payload
  | .cleanup now => (cleanQ timeout st now, none)

def afterQ (timeout : Nat) (st : Option FragMsg) : List Op → Option FragMsg
  | [] => st
  | o :: r => afterQ timeout (stepQ timeout st o).1 r

def outsQ (timeout : Nat) (st : Option FragMsg) : List Op → List (Option Bytes)
  | [] => []
  | o :: r =>
    if o.seq.isSome then (stepQ timeout st o).2 :: outsQ timeout (stepQ timeout st o).1 r
    else outsQ timeout (stepQ timeout st o).1 r

/-- the events that concern sequence `q`: its own fragments and every cleanup -/
def proj (q : Nat) (ops : List Op) : List Op := ops.filter (fun o => o.seq == some q || o.seq == none)

theorem seq_none {o : Op} (h : o.seq = none) : ∃ now, o = .cleanup now := by
  cases o with
  | cleanup now => exact ⟨now, rfl⟩
  | start _ _ _ _ _ => cases h
  | add _ _ _ _ => cases h

def SetAt (q : Nat) (st : Option FragMsg) (l l' : PMap) : Prop :=
  (l' = l ∧ lookup q l = st) ∨ (l' = eraseKey q l ∧ st = none) ∨ ∃ m, l' = insertKey q m l ∧ st = some m

theorem SetAt.lookup {q : Nat} {st : Option FragMsg} {l l' : PMap} (h : SetAt q st l l') (q' : Nat) :
    lookup q' l' = if q' = q then st else lookup q' l := by
  rcases h with ⟨rfl, rfl⟩ | ⟨rfl, rfl⟩ | ⟨m, rfl, rfl⟩
  · by_cases e : q' = q <;> simp [e]
  · exact lookup_eraseKey q' q l
  · by_cases h : q' = q
    · simp [insertKey, Frag.lookup, h]
    · simp [insertKey, Frag.lookup, lookup_eraseKey, h, Ne.symm h]

theorem SetAt.wf {q : Nat} {st : Option FragMsg} {l l' : PMap} (h : SetAt q st l l') (hw : WF l) : WF l' := by
  rcases h with ⟨rfl, _⟩ | ⟨rfl, _⟩ | ⟨m, rfl, _⟩
  · exact hw
  · exact WF_filter _ hw
  · unfold insertKey WF
    rw [List.map_cons, List.nodup_cons, ← lookup_eq_none_iff, lookup_eraseKey, if_pos rfl]
    exact ⟨rfl, WF_filter _ hw⟩

/-- an event of sequence `q` acts on `q`'s entry as `stepQ` says, and on nothing else -/
theorem step_seq (a : Assembler) (o : Op) (q : Nat) (h : o.seq = some q) :
    SetAt q (stepQ a.timeout (lookup q a.pending) o).1 a.pending (a.step o).1.pending ∧
    (a.step o).2 = (stepQ a.timeout (lookup q a.pending) o).2 ∧ (a.step o).1.timeout = a.timeout := by
  cases o with
  | start now q' fid cache payload =>
    cases Option.some.inj h
    simp only [Assembler.step, Assembler.startFragment, stepQ, startQ]
    split
    · exact ⟨.inl ⟨rfl, rfl⟩, rfl, rfl⟩
    · cases hl : lookup q a.pending with
      | none =>
        simp only [settle]
        split
        · exact ⟨.inl ⟨rfl, hl⟩, rfl, rfl⟩
        · exact ⟨.inr (.inr ⟨_, rfl, rfl⟩), rfl, rfl⟩
      | some msg =>
        simp only
        split
        · exact ⟨.inl ⟨rfl, hl⟩, rfl, rfl⟩
        · simp only [settle]
          split
          · exact ⟨.inr (.inl ⟨rfl, rfl⟩), rfl, rfl⟩
          · exact ⟨.inr (.inr ⟨_, rfl, rfl⟩), rfl, rfl⟩
  | add now q' fid payload =>
    cases Option.some.inj h
    simp only [Assembler.step, Assembler.addFragment, stepQ, addQ, settle]
    cases hl : lookup q a.pending with
    | none => exact ⟨.inr (.inr ⟨_, rfl, rfl⟩), rfl, rfl⟩
    | some msg =>
      simp only
      split
      · exact ⟨.inr (.inl ⟨rfl, rfl⟩), rfl, rfl⟩
      · exact ⟨.inr (.inr ⟨_, rfl, rfl⟩), rfl, rfl⟩
  | cleanup now => cases h

theorem step_self (a : Assembler) (o : Op) (q : Nat) (h : o.seq = some q) :
    lookup q (a.step o).1.pending = (stepQ a.timeout (lookup q a.pending) o).1 ∧
    (a.step o).2 = (stepQ a.timeout (lookup q a.pending) o).2 :=
  ⟨by rw [(step_seq a o q h).1.lookup, if_pos rfl], (step_seq a o q h).2.1⟩

theorem step_other (a : Assembler) (o : Op) (q q' : Nat) (h : o.seq = some q') (hne : q' ≠ q) :
    lookup q (a.step o).1.pending = lookup q a.pending := by
  rw [(step_seq a o q' h).1.lookup, if_neg (Ne.symm hne)]

theorem step_timeout (a : Assembler) (o : Op) : (a.step o).1.timeout = a.timeout := by
  cases hs : o.seq with
  | some q => exact (step_seq a o q hs).2.2
  | none => cases o <;> first | rfl | cases hs

theorem step_WF (a : Assembler) (o : Op) (h : WF a.pending) : WF (a.step o).1.pending := by
  cases hs : o.seq with
  | some q => exact (step_seq a o q hs).1.wf h
  | none => cases o <;> first | exact WF_filter _ h | cases hs

theorem step_cleanup (a : Assembler) (now q : Nat) (hw : WF a.pending) :
    lookup q (a.step (.cleanup now)).1.pending = (stepQ a.timeout (lookup q a.pending) (.cleanup now)).1 ∧
    (a.step (.cleanup now)).2 = none := by
  simp only [Assembler.step, Assembler.cleanupExpired, stepQ, cleanQ, and_true]
  exact lookup_filter (fun m => !m.isExpired now a.timeout) q hw

/-- ISOLATION, factored: the entry of `q` and what the assembler returns at `q`'s events are those of the one-sequence
machine run over `q`'s own events (and the cleanups) -/
theorem after_outs_proj (q : Nat) (ops : List Op) : ∀ (a : Assembler), WF a.pending →
    lookup q (a.after ops).pending = afterQ a.timeout (lookup q a.pending) (proj q ops) ∧
    a.outsFor q ops = outsQ a.timeout (lookup q a.pending) (proj q ops) := by
  induction ops with
  | nil => intro a _; exact ⟨rfl, rfl⟩
  | cons o r ih =>
    intro a hw
    have ih := ih (a.step o).1 (step_WF a o hw)
    rw [step_timeout] at ih
    cases hs : o.seq with
    | none =>
      obtain ⟨now, rfl⟩ := seq_none hs
      have hp : proj q (.cleanup now :: r) = .cleanup now :: proj q r := by simp [proj, Op.seq]
      rw [hp, afterQ, outsQ, ← (step_cleanup a now q hw).1]
      simpa only [Assembler.after, Assembler.outsFor, afterQ, outsQ, Op.seq, reduceCtorEq, if_false,
        Option.isSome_none, Bool.false_eq_true] using ih
    | some q' =>
      by_cases hq : q' = q
      · subst hq
        have hp : proj q' (o :: r) = o :: proj q' r := by simp [proj, hs]
        rw [hp, afterQ, outsQ, ← (step_self a o q' hs).1, ← (step_self a o q' hs).2]
        simpa only [Assembler.after, Assembler.outsFor, hs, if_true, Option.isSome_some, List.cons.injEq, true_and] using ih
      · have hn : ¬ (some q' = some q) := fun e => hq (Option.some.inj e)
        have hp : proj q (o :: r) = proj q r := by simp [proj, hs, hq]
        rw [hp, ← step_other a o q q' hs hq]
        simpa only [Assembler.after, Assembler.outsFor, hs, hn, if_false] using ih

theorem any_key_eq (l : List (Nat × Bytes)) (k : Nat) : l.any (fun p => p.1 == k) = (pendGet k l).isSome := by
  induction l with
  | nil => rfl
  | cons p r ih =>
    obtain ⟨k', d⟩ := p
    by_cases h : k' = k
    · simp [pendGet, h]
    · simp [pendGet, h, ih]

theorem pendGet_snoc (j k : Nat) (d : Bytes) (l : List (Nat × Bytes)) :
    pendGet j (l ++ [(k, d)]) = match pendGet j l with
      | some x => some x
      | none => if k = j then some d else none := by
  induction l with
  | nil => simp [pendGet]
  | cons p r ih =>
    obtain ⟨k', d'⟩ := p
    by_cases h : k' = j
    · simp [pendGet, h]
    · simp [pendGet, h, ih]

theorem pendGet_filter_le {j c : Nat} (hj : j ≤ c) (l : List (Nat × Bytes)) :
    pendGet j (l.filter (fun p => decide (p.1 ≤ c))) = pendGet j l := by
  induction l with
  | nil => rfl
  | cons p r ih =>
    obtain ⟨k', d'⟩ := p
    by_cases h : k' = j
    · subst h; simp [pendGet, hj]
    · by_cases hc : k' ≤ c <;> simp [pendGet, h, hc, ih]

/-- the pending map read as a slot vector of length `n`: entry `i` is the fragment with id `i + 1` -/
def vmap (n : Nat) (l : List (Nat × Bytes)) : List (Option Bytes) := (List.range n).map (fun i => pendGet (i + 1) l)

theorem vmap_length (n : Nat) (l : List (Nat × Bytes)) : (vmap n l).length = n := by simp [vmap]

theorem vmap_get {n i : Nat} (l : List (Nat × Bytes)) (h : i < n) : (vmap n l)[i]? = some (pendGet (i + 1) l) := by
  simp [vmap, h]

theorem vmap_nil (n : Nat) : vmap n [] = List.replicate n none := by
  apply List.ext_getElem?
  intro i
  by_cases hi : i < n
  · rw [vmap_get _ hi]; simp [pendGet, hi]
  · rw [List.getElem?_eq_none (by rw [vmap_length]; omega), List.getElem?_eq_none (by simp; omega)]

theorem vmap_snoc {n k : Nat} {d : Bytes} {l : List (Nat × Bytes)} (hk1 : 1 ≤ k) (hn : pendGet k l = none) :
    vmap n (l ++ [(k, d)]) = (vmap n l).set (k - 1) (some d) := by
  apply List.ext_getElem?
  intro i
  by_cases hi : i < n
  · rw [vmap_get _ hi, List.getElem?_set, pendGet_snoc]
    by_cases hik : k - 1 = i
    · have : k = i + 1 := by omega
      simp [this ▸ hn, this, vmap_length, hi]
    · have : ¬ k = i + 1 := by omega
      rw [if_neg hik, vmap_get _ hi, if_neg this]
      cases pendGet (i + 1) l <;> rfl
  · rw [List.getElem?_eq_none (by rw [vmap_length]; omega),
      List.getElem?_eq_none (by rw [List.length_set, vmap_length]; omega)]

/-- the slot vector of an entry for a sequence of `n` fragments: the vector itself once `set_total_fragments` has sized it
(count known and within the vector limit); before that, and above the limit, the pending map -/
def FragMsg.vslots (m : FragMsg) (n : Nat) : List (Option Bytes) :=
  if m.total.isSome ∧ ¬ MAX_FRAGMENTS_VEC < n then m.slots else vmap n m.pend

/-- the counter that goes with it: `received_count` once the count is known, before that the size of the pending map -/
def FragMsg.vcount (m : FragMsg) : Nat := if m.total.isSome then m.received else m.pend.length

/-- the fragment `(k, d)` arriving at the slot vector `vs` with counter `rc` leaves `vs'` and `rc'`: an empty slot `k` is
filled and counted; a filled slot (a duplicate) or a slot that is not there changes nothing -/
def Fills (k : Nat) (d : Bytes) (vs : List (Option Bytes)) (rc : Nat) (vs' : List (Option Bytes)) (rc' : Nat) : Prop :=
  (vs[k - 1]? ≠ some none ∧ vs' = vs ∧ rc' = rc) ∨ (vs[k - 1]? = some none ∧ vs' = vs.set (k - 1) (some d) ∧ rc' = rc + 1)

theorem place_view (m : FragMsg) (k : Nat) (d : Bytes) :
    (m.slots[k - 1]? ≠ some none ∧ m.place k d = m) ∨
    (m.slots[k - 1]? = some none ∧
      m.place k d = { m with slots := m.slots.set (k - 1) (some d), received := m.received + 1 }) := by
  unfold FragMsg.place
  by_cases h : m.slots[k - 1]? = some none
  · exact .inr ⟨h, by rw [if_pos (List.getElem?_eq_some_iff.mp h).1, h]⟩
  · refine .inl ⟨h, ?_⟩
    split
    · split
      · rename_i h'; exact absurd h' h
      · rfl
    · rfl

theorem buffer_view (m : FragMsg) (c : Bool) (k : Nat) (d : Bytes) :
    (pendGet k m.pend ≠ none ∧ m.buffer c k d = m) ∨
    (pendGet k m.pend = none ∧
      m.buffer c k d = { m with pend := m.pend ++ [(k, d)], received := if c then m.received + 1 else m.received }) := by
  unfold FragMsg.buffer
  rw [any_key_eq]
  cases h : pendGet k m.pend with
  | none => exact .inr ⟨rfl, rfl⟩
  | some x => exact .inl ⟨by simp, rfl⟩

theorem place_pend (m : FragMsg) (k : Nat) (d : Bytes) : (m.place k d).pend = m.pend := by
  rcases place_view m k d with ⟨_, h⟩ | ⟨_, h⟩ <;> rw [h]

theorem buffer_slots (m : FragMsg) (c : Bool) (k : Nat) (d : Bytes) : (m.buffer c k d).slots = m.slots := by
  rcases buffer_view m c k d with ⟨_, h⟩ | ⟨_, h⟩ <;> rw [h]

theorem addFragment_frame (m : FragMsg) (now fid : Nat) (d : Bytes) :
    (m.addFragment now fid d).total = m.total ∧ (m.addFragment now fid d).cache = m.cache ∧
    (m.addFragment now fid d).last = now := by
  have hb : ∀ c, (({ m with last := now } : FragMsg).buffer c fid d).total = m.total ∧
      (({ m with last := now } : FragMsg).buffer c fid d).cache = m.cache ∧
      (({ m with last := now } : FragMsg).buffer c fid d).last = now := fun c => by
    rcases buffer_view { m with last := now } c fid d with ⟨_, h⟩ | ⟨_, h⟩ <;> rw [h] <;> exact ⟨rfl, rfl, rfl⟩
  unfold FragMsg.addFragment
  simp only
  split
  · exact ⟨rfl, rfl, rfl⟩
  · split
    · split
      · split
        · exact hb true
        · rcases place_view { m with last := now } fid d with ⟨_, h⟩ | ⟨_, h⟩ <;> rw [h] <;> exact ⟨rfl, rfl, rfl⟩
      · exact ⟨rfl, rfl, rfl⟩
    · exact hb false

theorem place_vslots {m : FragMsg} {n : Nat} (hv : m.total.isSome ∧ ¬ MAX_FRAGMENTS_VEC < n) (k : Nat) (d : Bytes) :
    Fills k d (m.vslots n) m.vcount ((m.place k d).vslots n) (m.place k d).vcount := by
  have hs : m.vslots n = m.slots := if_pos hv
  rcases place_view m k d with ⟨h1, h2⟩ | ⟨h1, h2⟩
  · exact .inl ⟨hs ▸ h1, by rw [h2], by rw [h2]⟩
  · refine .inr ⟨hs ▸ h1, ?_, ?_⟩
    · simp only [h2, FragMsg.vslots, if_pos hv]
    · simp only [h2, FragMsg.vcount, if_pos hv.1]

theorem buffer_vslots {m : FragMsg} {n k : Nat} (hv : ¬ (m.total.isSome ∧ ¬ MAX_FRAGMENTS_VEC < n)) (hk1 : 1 ≤ k)
    (hk2 : k ≤ n) (d : Bytes) :
    Fills k d (m.vslots n) m.vcount ((m.buffer m.total.isSome k d).vslots n) (m.buffer m.total.isSome k d).vcount := by
  unfold Fills
  have hget : (vmap n m.pend)[k - 1]? = some (pendGet k m.pend) := by
    rw [vmap_get _ (show k - 1 < n by omega), show k - 1 + 1 = k by omega]
  have hs : m.vslots n = vmap n m.pend := if_neg hv
  rw [hs, hget]
  rcases buffer_view m m.total.isSome k d with ⟨h1, h2⟩ | ⟨h1, h2⟩
  · exact .inl ⟨by simpa using h1, by rw [h2, hs], by rw [h2]⟩
  · refine .inr ⟨by rw [h1], ?_, ?_⟩
    · simp only [h2, FragMsg.vslots, if_neg hv, vmap_snoc hk1 h1]
    · simp only [h2, FragMsg.vcount]
      cases m.total.isSome <;> simp

theorem add_view {m : FragMsg} {n k : Nat} (now : Nat) (d : Bytes) (hk1 : 1 ≤ k) (hk2 : k ≤ n)
    (ht : m.total = none ∨ m.total = some n) :
    Fills k d (m.vslots n) m.vcount ((m.addFragment now k d).vslots n) (m.addFragment now k d).vcount := by
  have hk0 : ¬ k = 0 := by omega
  by_cases hv : m.total.isSome ∧ ¬ MAX_FRAGMENTS_VEC < n
  · have hcn : m.total = some n := by rcases ht with h | h <;> simp_all
    have hadd : m.addFragment now k d = ({ m with last := now } : FragMsg).place k d := by
      simp only [FragMsg.addFragment, hk0, if_false, hcn, hk2, if_true, hv.2]
    rw [hadd]
    exact place_vslots (m := { m with last := now }) hv k d
  · have hadd : m.addFragment now k d = ({ m with last := now } : FragMsg).buffer m.total.isSome k d := by
      rcases ht with h | h
      · simp only [FragMsg.addFragment, hk0, if_false, h, Option.isSome_none]
      · have : MAX_FRAGMENTS_VEC < n := by simpa [h] using hv
        simp only [FragMsg.addFragment, hk0, if_false, h, hk2, if_true, this, Option.isSome_some]
    rw [hadd]
    exact buffer_vslots (m := { m with last := now }) hv hk1 hk2 d

/-- the drain loop of `set_total_fragments` over a sized slot vector: an empty slot takes the first pending copy of its id -/
theorem fold_place_view (n : Nat) (L : List (Nat × Bytes)) (hL : ∀ p ∈ L, 1 ≤ p.1 ∧ p.1 ≤ n) : ∀ (m : FragMsg),
    m.slots.length = n → m.received = m.slots.countP Option.isSome →
    (L.foldl (FragMsg.placePending n) m).total = m.total ∧
    (L.foldl (FragMsg.placePending n) m).received = (L.foldl (FragMsg.placePending n) m).slots.countP Option.isSome ∧
    (L.foldl (FragMsg.placePending n) m).slots.length = n ∧
    ∀ i (hi : i < m.slots.length), (L.foldl (FragMsg.placePending n) m).slots[i]? = some (m.slots[i].or (pendGet (i + 1) L)) := by
  induction L with
  | nil => exact fun m hl hc => ⟨rfl, hc, hl, fun i hi => by rw [List.foldl_nil, List.getElem?_eq_getElem hi, pendGet, Option.or_none]⟩
  | cons p r ih =>
    intro m hl hc
    obtain ⟨k, d⟩ := p
    obtain ⟨k1, k2⟩ := hL (k, d) List.mem_cons_self
    have ih := ih (fun x hx => hL x (List.mem_cons_of_mem _ hx))
    rw [List.foldl_cons, show FragMsg.placePending n m (k, d) = m.place k d from if_pos ⟨k1, k2⟩]
    have hidx : k - 1 < m.slots.length := by simp only at k1 k2; omega
    rcases place_view m k d with ⟨h1, e⟩ | ⟨h1, e⟩
    · -- a later copy of an id: `place` ignores it, in the pending map the first copy shadows it
      obtain ⟨g1, g2, g3, g4⟩ := ih m hl hc
      rw [e]
      refine ⟨g1, g2, g3, fun i hi => ?_⟩
      rw [g4 i hi, pendGet]
      split
      · rename_i hk
        subst hk
        rw [List.getElem?_eq_getElem hidx] at h1
        cases hs : m.slots[i + 1 - 1] with
        | none => rw [hs] at h1; exact absurd rfl h1
        | some x => simp only [Nat.add_sub_cancel] at hs; rw [hs]; rfl
      · rfl
    · rw [List.getElem?_eq_getElem hidx, Option.some.injEq] at h1
      rw [e]
      obtain ⟨g1, g2, g3, g4⟩ := ih { m with slots := m.slots.set (k - 1) (some d), received := m.received + 1 }
        (by rw [List.length_set]; exact hl) (by simp [List.countP_set hidx, h1, hc])
      refine ⟨g1, g2, g3, fun i hi => ?_⟩
      rw [g4 i (by rw [List.length_set]; exact hi), pendGet]
      simp only [List.getElem_set]
      by_cases hik : k - 1 = i
      · subst hik
        rw [if_pos rfl, if_pos (show k = k - 1 + 1 by omega), h1]; rfl
      · have : ¬ k = i + 1 := by omega
        rw [if_neg hik, if_neg this]
/-- an entry before its header has arrived, of a sequence of `n` fragments -/
def Unsized (n : Nat) (m : FragMsg) : Prop :=
  m.total = none ∧ m.slots = [] ∧ m.received = 0 ∧ ∀ p ∈ m.pend, 1 ≤ p.1 ∧ p.1 ≤ n

/-- `set_total_fragments` when the header arrives after other fragments: the count is known, the slot-vector view stays -/
theorem setTotal_view {m : FragMsg} {n : Nat} (hu : Unsized n m) (hc : m.vcount = (m.vslots n).countP Option.isSome) :
    (m.setTotal n).total = some n ∧ (m.setTotal n).vslots n = m.vslots n ∧ (m.setTotal n).vcount = m.vcount := by
  obtain ⟨ht, hsl, hr, hp⟩ := hu
  have hne : ¬ m.total = some n := by rw [ht]; simp
  have hvs : m.vslots n = vmap n m.pend := by simp [FragMsg.vslots, ht]
  by_cases hv : MAX_FRAGMENTS_VEC < n
  · have hkeep : m.pend.filter (fun p => decide (p.1 ≤ n)) = m.pend :=
      List.filter_eq_self.mpr fun p hp' => by simpa using (hp p hp').2
    have hst : m.setTotal n = { m with total := some n, received := m.pend.length } := by
      simp only [FragMsg.setTotal, if_neg hne, if_pos hv, hkeep]
    rw [hst]
    exact ⟨rfl, by simp [FragMsg.vslots, hv, ht], by simp [FragMsg.vcount, ht]⟩
  · have hst : m.setTotal n = m.pend.foldl (FragMsg.placePending n)
          { m with total := some n, slots := resize m.slots n, pend := [] } := by
      simp only [FragMsg.setTotal, if_neg hne, if_neg hv]
    obtain ⟨g1, g2, g3, g4⟩ := fold_place_view n m.pend hp { m with total := some n, slots := resize m.slots n, pend := [] }
      (by simp [resize, hsl]) (by simp [resize, hsl, hr, List.countP_replicate])
    rw [← hst] at g1 g2 g3 g4
    have hslots : (m.setTotal n).slots = vmap n m.pend := by
      apply List.ext_getElem?
      intro i
      by_cases hi : i < n
      · rw [g4 i (by simpa [resize, hsl] using hi), vmap_get _ hi]; simp [resize, hsl]
      · rw [List.getElem?_eq_none (by omega), List.getElem?_eq_none (by rw [vmap_length]; omega)]
    have hvs' : (m.setTotal n).vslots n = (m.setTotal n).slots := by simp [FragMsg.vslots, g1, hv]
    refine ⟨g1, by rw [hvs', hslots, hvs], ?_⟩
    rw [hc, hvs, ← hslots]
    simp [FragMsg.vcount, g1, g2]

/-! One conforming sequence: `R[i]` is the data of the fragment with id `i + 1` (so `R = pieces.reverse`), `S` the ids
seen so far. -/

variable {R : List Bytes} {cache : Option Bytes} {S : List Nat} {q : Nat}

/-- a slot vector `vs` and a counter `rc` that reflect exactly the ids `S` of the sequence `R` -/
def VOK (R : List Bytes) (S : List Nat) (vs : List (Option Bytes)) (rc : Nat) : Prop :=
  vs.length = R.length ∧
  (∀ i, i < R.length → vs[i]? = some (if i + 1 ∈ S then R[i]? else none)) ∧
  rc = vs.countP Option.isSome

def SlotsOK (R : List Bytes) (S : List Nat) (m : FragMsg) : Prop := VOK R S (m.vslots R.length) m.vcount

def Full (R : List Bytes) (S : List Nat) : Prop := ∀ k, 1 ≤ k → k ≤ R.length → k ∈ S

theorem vok_step {vs vs' : List (Option Bytes)} {rc rc' k : Nat} {d : Bytes}
    (h : VOK R S vs rc) (hk1 : 1 ≤ k) (hk2 : k ≤ R.length) (hd : R[k - 1]? = some d)
    (hv : Fills k d vs rc vs' rc') : VOK R (k :: S) vs' rc' := by
  obtain ⟨hl, hp, hr⟩ := h
  have hidx : k - 1 < vs.length := by omega
  have e : k - 1 + 1 = k := by omega
  have hs := hp (k - 1) (by omega)
  rw [e, hd] at hs
  rcases hv with ⟨h1, rfl, rfl⟩ | ⟨h1, rfl, rfl⟩
  · have hk : k ∈ S := by
      apply Classical.byContradiction
      intro hk; rw [if_neg hk] at hs; exact h1 hs
    refine ⟨hl, fun i hi => ?_, hr⟩
    rw [hp i hi]
    by_cases hik : i + 1 = k
    · simp [hik, hk]
    · simp [List.mem_cons, hik]
  · have hk : k ∉ S := fun hk => by rw [hs, if_pos hk] at h1; cases h1
    refine ⟨by simp [hl], fun i hi => ?_, ?_⟩
    · simp only [List.getElem?_set]
      by_cases hik : k - 1 = i
      · subst hik; simp [hidx, e, hd]
      · have : ¬ i + 1 = k := by omega
        simp [hik, hp i hi, List.mem_cons, this]
    · rw [List.countP_set hidx]
      have hnone : vs[k - 1] = none := by
        rw [List.getElem?_eq_getElem hidx] at h1; exact Option.some.inj h1
      simp [hnone, hr]

theorem received_eq_iff {m : FragMsg} (h : SlotsOK R S m) :
    m.vcount = R.length ↔ Full R S := by
  obtain ⟨hl, hp, hr⟩ := h
  generalize m.vslots R.length = vs at hl hp hr
  rw [hr, ← hl, List.countP_eq_length]
  constructor
  · intro ha k k1 k2
    have hs := hp (k - 1) (by omega)
    rw [show k - 1 + 1 = k by omega] at hs
    apply Classical.byContradiction
    intro hm
    rw [if_neg hm] at hs
    have := ha none (List.mem_iff_getElem?.mpr ⟨_, hs⟩)
    simp at this
  · intro hf a ha
    obtain ⟨i, hi⟩ := List.mem_iff_getElem?.mp ha
    have hlt : i < R.length := by
      have := (List.getElem?_eq_some_iff.mp hi).1
      omega
    rw [hp i hlt, if_pos (hf _ (by omega) (by omega)), List.getElem?_eq_getElem hlt] at hi
    rw [← Option.some.inj hi]; rfl

theorem slots_full {m : FragMsg} (h : SlotsOK R S m) (hf : Full R S) :
    ((m.vslots R.length).filterMap id).flatten = R.flatten := by
  obtain ⟨hl, hp, _⟩ := h
  have : m.vslots R.length = R.map some := by
    apply List.ext_getElem?
    intro i
    by_cases hi : i < R.length
    · rw [hp i hi, if_pos (hf _ (by omega) (by omega))]
      simp [List.getElem?_eq_getElem hi]
    · rw [List.getElem?_eq_none (by omega), List.getElem?_eq_none (by simp; omega)]
  rw [this, List.filterMap_map]
  simp

theorem reassemble_eq {m : FragMsg} {n : Nat} (ht : m.total = some n) (hc : m.isComplete = true) :
    m.reassemble = some (m.cache.getD [] ++ ((m.vslots n).filterMap id).flatten) := by
  unfold FragMsg.reassemble FragMsg.vslots
  rw [ht, if_pos hc]
  simp only [Option.isSome_some, true_and]
  split
  · rw [vmap, List.filterMap_map]; rfl
  · rfl

theorem slotsOK_new (R : List Bytes) (t : Option Nat) (c : Option Bytes) (now : Nat) (ht : t = none ∨ t = some R.length) :
    SlotsOK R [] (FragMsg.new t c now) := by
  have hv : (FragMsg.new t c now).vslots R.length = List.replicate R.length none := by
    rcases ht with rfl | rfl
    · exact vmap_nil _
    · by_cases hv : MAX_FRAGMENTS_VEC < R.length <;> simp [FragMsg.vslots, FragMsg.new, hv, vmap_nil]
  have hc : (FragMsg.new t c now).vcount = 0 := by unfold FragMsg.vcount; split <;> rfl
  rw [SlotsOK, hv, hc]
  exact ⟨by simp, fun i hi => by simp [hi], by rw [List.countP_replicate]; simp⟩

/-- the state of a sequence that has received the ids `S` (not all of them) -/
def Good (R : List Bytes) (cache : Option Bytes) (S : List Nat) : Option FragMsg → Prop
  | none => S = []
  | some m => S ≠ [] ∧ SlotsOK R S m ∧
      (R.length ∈ S → m.total = some R.length ∧ m.cache = cache) ∧ (R.length ∉ S → Unsized R.length m)

/-- the fragment id an event carries -/
def Op.fid : Op → Nat
  | .start _ _ fid _ _ => fid
  | .add _ _ fid _ => fid
  | .cleanup _ => 0

/-- `o` delivers one of the fragments of the conforming sequence `(q, cache, R)`: the header frame for id `n`,
a continuation frame for an id below `n` -/
def IsFrag (R : List Bytes) (q : Nat) (cache : Option Bytes) : Op → Prop
  | .start _ q' fid c d => q' = q ∧ fid = R.length ∧ c = cache ∧ R[fid - 1]? = some d
  | .add _ q' fid d => q' = q ∧ 1 ≤ fid ∧ fid < R.length ∧ R[fid - 1]? = some d
  | .cleanup _ => False

/-- a fragment of the sequence arriving at an entry whose count is known: when it was the last one missing the entry is taken
out and the pieces are returned by ASCENDING id; otherwise the entry is the `Good` one for the ids seen -/
theorem settle_frag {m : FragMsg} {k : Nat} (now : Nat) {d : Bytes}
    (ht : m.total = some R.length) (hc : m.cache = cache) (hs : SlotsOK R S m)
    (hk1 : 1 ≤ k) (hk2 : k ≤ R.length) (hd : R[k - 1]? = some d) (hmem : R.length ∈ k :: S) :
    (Full R (k :: S) → settle (m.addFragment now k d) = (none, some (cache.getD [] ++ R.flatten))) ∧
    (¬ Full R (k :: S) → Good R cache (k :: S) (settle (m.addFragment now k d)).1 ∧ (settle (m.addFragment now k d)).2 = none) := by
  obtain ⟨f1, f2, _⟩ := addFragment_frame m now k d
  have htot := f1.trans ht
  have hok : SlotsOK R (k :: S) (m.addFragment now k d) := vok_step hs hk1 hk2 hd (add_view now d hk1 hk2 (.inr ht))
  have hcomp : (m.addFragment now k d).isComplete = true ↔ Full R (k :: S) := by
    simpa [FragMsg.isComplete, FragMsg.vcount, htot] using received_eq_iff hok
  constructor
  · intro hf
    rw [settle, if_pos (hcomp.mpr hf), reassemble_eq htot (hcomp.mpr hf), f2, hc, slots_full hok hf]
  · intro hf
    rw [settle, if_neg (fun h => hf (hcomp.mp h))]
    exact ⟨⟨List.cons_ne_nil _ _, hok, fun _ => ⟨htot, f2.trans hc⟩, fun hx => absurd hmem hx⟩, rfl⟩

/-- a continuation fragment of the sequence arriving before the header: it is buffered, nothing can be complete -/
theorem unsized_add {m : FragMsg} {k : Nat} (now : Nat) {d : Bytes}
    (hu : Unsized R.length m) (hs : SlotsOK R S m) (hk1 : 1 ≤ k) (hk2 : k < R.length) (hd : R[k - 1]? = some d) (hmem : R.length ∉ S) :
    (m.addFragment now k d).isComplete = false ∧ Good R cache (k :: S) (some (m.addFragment now k d)) := by
  obtain ⟨ht, hsl, hr, hp⟩ := hu
  have htot : (m.addFragment now k d).total = none := (addFragment_frame m now k d).1.trans ht
  have hu' : Unsized R.length (m.addFragment now k d) := by
    have hadd : m.addFragment now k d = ({ m with last := now } : FragMsg).buffer false k d := by
      simp only [FragMsg.addFragment, show ¬ k = 0 by omega, if_false, ht]
    rw [hadd]
    rcases buffer_view { m with last := now } false k d with ⟨_, e⟩ | ⟨_, e⟩ <;> rw [e]
    · exact ⟨ht, hsl, hr, hp⟩
    · refine ⟨ht, hsl, hr, fun p hp' => ?_⟩
      rcases List.mem_append.mp hp' with h | h
      · exact hp p h
      · cases List.mem_singleton.mp h; exact ⟨hk1, Nat.le_of_lt hk2⟩
  have hnm : R.length ∉ k :: S := by
    simp only [List.mem_cons, not_or]; exact ⟨by omega, hmem⟩
  exact ⟨by simp [FragMsg.isComplete, htot], List.cons_ne_nil _ _,
    vok_step hs hk1 (Nat.le_of_lt hk2) hd (add_view now d hk1 (Nat.le_of_lt hk2) (.inl ht)), fun hx => absurd hx hnm, fun _ => hu'⟩

/-- one fragment of a conforming sequence arriving at its entry -/
theorem stepQ_frag {t : Nat} {st : Option FragMsg} {o : Op}
    (hn : 1 ≤ R.length) (hvm : R.length ≤ MAX_FRAGMENT_COUNT) (hg : Good R cache S st) (ho : IsFrag R q cache o) :
    (Full R (Op.fid o :: S) → stepQ t st o = (none, some (cache.getD [] ++ R.flatten))) ∧
    (¬ Full R (Op.fid o :: S) → Good R cache (Op.fid o :: S) (stepQ t st o).1 ∧ (stepQ t st o).2 = none) := by
  cases o with
  | cleanup now => exact ho.elim
  | start now q' fid c d =>
    obtain ⟨_, rfl, rfl, hd⟩ := ho
    have hguard : ¬ (R.length = 0 ∨ MAX_FRAGMENT_COUNT < R.length) := by omega
    simp only [stepQ, startQ, Op.fid, if_neg hguard]
    cases st with
    | none =>
      cases (hg : S = [])
      exact settle_frag now rfl rfl (slotsOK_new R _ c now (.inr rfl)) hn (Nat.le_refl _) hd List.mem_cons_self
    | some m =>
      obtain ⟨_, hs, hB, hA⟩ := hg
      dsimp only
      by_cases hmem : R.length ∈ S
      · obtain ⟨ht, _⟩ := hB hmem
        have hst : m.setTotal R.length = m := by simp [FragMsg.setTotal, ht]
        rw [if_neg (fun h => h.2 ht), hst]
        exact settle_frag (m := { m with cache := c }) now ht rfl hs hn (Nat.le_refl _) hd List.mem_cons_self
      · obtain ⟨g1, e1, e2⟩ := setTotal_view (hA hmem) hs.2.2
        have g2 : SlotsOK R S (m.setTotal R.length) := by rw [SlotsOK, e1, e2]; exact hs
        rw [if_neg (fun h => by simp [(hA hmem).1] at h)]
        exact settle_frag (m := { m.setTotal R.length with cache := c }) now g1 rfl g2 hn (Nat.le_refl _) hd List.mem_cons_self
  | add now q' fid d =>
    obtain ⟨_, hf1, hf2, hd⟩ := ho
    simp only [stepQ, addQ, Op.fid]
    have hnot : R.length ∉ S → ¬ Full R (fid :: S) := fun h hf => by
      rcases List.mem_cons.mp (hf _ hn (Nat.le_refl _)) with e | e
      · omega
      · exact h e
    cases st with
    | none =>
      cases (hg : S = [])
      obtain ⟨_, g⟩ := unsized_add (cache := cache) now ⟨rfl, rfl, rfl, fun p hp => by cases hp⟩
        (slotsOK_new R none none now (.inl rfl)) hf1 hf2 hd (by simp)
      exact ⟨fun hf => absurd hf (hnot (by simp)), fun _ => ⟨g, rfl⟩⟩
    | some m =>
      obtain ⟨_, hs, hB, hA⟩ := hg
      dsimp only
      by_cases hmem : R.length ∈ S
      · exact settle_frag now (hB hmem).1 (hB hmem).2 hs hf1 (Nat.le_of_lt hf2) hd (List.mem_cons_of_mem _ hmem)
      · obtain ⟨hc, g⟩ := unsized_add (cache := cache) now (hA hmem) hs hf1 hf2 hd hmem
        have hset : settle (m.addFragment now fid d) = (some (m.addFragment now fid d), none) := by simp [settle, hc]
        rw [hset]
        exact ⟨fun hf => absurd hf (hnot hmem), fun _ => ⟨g, rfl⟩⟩

/-- the event by which the fragment `f` reaches the assembler when the clock shows `now`:
`start_fragment` for the header frame, `add_fragment` for a continuation frame -/
def fragOp (now : Nat) (f : Spec.Frag.Frag) : Op :=
  if f.hdr then .start now f.seq f.fid f.cache f.data else .add now f.seq f.fid f.data

/-- `o` delivers one of the fragments into which the protocol splits the pieces `ps` of sequence `q` -/
def Delivers (q : Nat) (cache : Option Bytes) (ps : List Bytes) (o : Op) : Prop :=
  ∃ now f, f ∈ Spec.Frag.number q cache ps ∧ o = fragOp now f

/-- number of events of sequence `q` -/
def cnt (q : Nat) (ops : List Op) : Nat := ops.countP (fun o => o.seq == some q)

/-- no cleanup in `ops` runs later than `t` (so with timeout `t` it finds nothing expired) -/
def Unexpiring (t : Nat) (ops : List Op) : Prop := ∀ now, Op.cleanup now ∈ ops → now ≤ t

theorem isFrag_of_delivers {ps : List Bytes} {o : Op} (h : Delivers q cache ps o) :
    IsFrag ps.reverse q cache o := by
  obtain ⟨now, f, hf, rfl⟩ := h
  obtain ⟨i, hi, rfl⟩ := List.mem_mapIdx.mp hf
  have : ps.reverse[ps.length - i - 1]? = some ps[i] := by
    rw [List.getElem?_reverse (by omega), show ps.length - 1 - (ps.length - i - 1) = i by omega, List.getElem?_eq_getElem hi]
  by_cases h0 : i = 0
  · subst h0
    simpa [fragOp, IsFrag] using this
  · have hb : (i == 0) = false := by simpa using h0
    simp only [fragOp, hb, Bool.false_eq_true, if_false, IsFrag, List.length_reverse, true_and]
    exact ⟨by omega, by omega, this⟩

theorem isFrag_fid_range {o : Op} (hn : 1 ≤ R.length)
    (h : IsFrag R q cache o) : 1 ≤ Op.fid o ∧ Op.fid o ≤ R.length := by
  cases o with
  | start _ _ fid _ _ => obtain ⟨_, h2, _⟩ := h; simp only [Op.fid]; omega
  | add _ _ fid _ => obtain ⟨_, h2, h3, _⟩ := h; simp only [Op.fid]; omega
  | cleanup _ => exact h.elim

theorem after_append (a : Assembler) (X Y : List Op) : a.after (X ++ Y) = (a.after X).after Y := by
  induction X generalizing a with
  | nil => rfl
  | cons o r ih => exact ih _

theorem outsFor_append (q : Nat) (a : Assembler) (X Y : List Op) :
    a.outsFor q (X ++ Y) = a.outsFor q X ++ (a.after X).outsFor q Y := by
  induction X generalizing a with
  | nil => rfl
  | cons o r ih =>
    simp only [List.cons_append, Assembler.outsFor, Assembler.after, ih]
    split <;> rfl

theorem after_induct {P : Assembler → Prop} (hP : ∀ a o, P a → P (a.step o).1) :
    ∀ (ops : List Op) (a : Assembler), P a → P (a.after ops)
  | [], _, h => h
  | o :: r, a, h => after_induct hP r _ (hP a o h)

theorem onFrame_induct {P : Assembler → Prop} (hP : ∀ a o, P a → P (a.step o).1) (a : Assembler) (now : Nat)
    (o : Option Op) (h : P a) : P (a.onFrame now o).1 := by
  cases o with
  | none => exact hP a (.cleanup now) h
  | some op => exact hP _ op (hP a (.cleanup now) h)

theorem afterFrames_induct {P : Assembler → Prop} (hP : ∀ a o, P a → P (a.step o).1) :
    ∀ (frames : List (Nat × Option Op)) (a : Assembler), P a → P (a.afterFrames frames)
  | [], _, h => h
  | f :: r, a, h => afterFrames_induct hP r _ (onFrame_induct hP a f.1 f.2 h)

/-- the fragment ids the events of `q` carry, latest first -/
def seen (q : Nat) (ops : List Op) : List Nat := ((ops.filter (fun o => o.seq == some q)).map Op.fid).reverse

theorem mem_seen {q k : Nat} {ops : List Op} : k ∈ seen q ops ↔ ∃ o ∈ ops, o.seq = some q ∧ Op.fid o = k := by
  simp [seen, and_assoc]

theorem not_mem_seen {q k : Nat} {ops : List Op} : k ∉ seen q ops ↔ ∀ o ∈ ops, o.seq = some q → Op.fid o ≠ k := by
  simp [mem_seen]

theorem length_seen (q : Nat) (ops : List Op) : (seen q ops).length = cnt q ops := by
  simp [seen, cnt, List.countP_eq_length_filter]

theorem cleanQ_unexpired {t now : Nat} (h : now ≤ t) (st : Option FragMsg) : cleanQ t st now = st := by
  cases st with
  | none => rfl
  | some m =>
    have : m.isExpired now t = false := by
      simp only [FragMsg.isExpired, decide_eq_false_iff_not]; omega
    simp [cleanQ, Option.filter, this]

/-- as long as some id is missing nothing is returned at the events of the sequence, whatever is interleaved, and the
entry is the `Good` one for the ids seen -/
theorem run_missing (hn : 1 ≤ R.length) (hv : R.length ≤ MAX_FRAGMENT_COUNT) :
    ∀ (ops : List Op) (a : Assembler) (S : List Nat), WF a.pending → Good R cache S (lookup q a.pending) →
      (∀ o ∈ ops, o.seq = some q → IsFrag R q cache o) → Unexpiring a.timeout ops → ¬ Full R (seen q ops ++ S) →
      a.outsFor q ops = List.replicate (cnt q ops) none ∧ Good R cache (seen q ops ++ S) (lookup q (a.after ops).pending) := by
  intro ops
  induction ops with
  | nil => intro a S _ hg _ _ _; exact ⟨rfl, hg⟩
  | cons o r ih =>
    intro a S hw hg hc hu hnf
    have ih := fun S' hg' hnf' => ih (a.step o).1 S' (step_WF a o hw) hg' (fun x hx => hc x (List.mem_cons_of_mem _ hx))
      (by rw [step_timeout]; exact fun now h => hu now (List.mem_cons_of_mem _ h)) hnf'
    by_cases hs : o.seq = some q
    · -- an event of `q`: one more id seen, still not all of them
      have e : seen q (o :: r) ++ S = seen q r ++ (Op.fid o :: S) := by simp [seen, hs]
      rw [e] at hnf ⊢
      obtain ⟨g1, g2⟩ := (stepQ_frag (t := a.timeout) hn hv hg (hc o List.mem_cons_self hs)).2
        (fun hf => hnf fun k k1 k2 => List.mem_append_right _ (hf k k1 k2))
      obtain ⟨i1, i2⟩ := ih _ ((step_self a o q hs).1 ▸ g1) hnf
      simp only [Assembler.outsFor, Assembler.after, hs, if_true, cnt, List.countP_cons, beq_self_eq_true]
      exact ⟨by rw [i1, (step_self a o q hs).2, g2]; rfl, i2⟩
    · -- another sequence, or a cleanup that finds nothing expired: the entry of `q` stays
      have e : seen q (o :: r) = seen q r := by simp [seen, hs]
      have hl : lookup q (a.step o).1.pending = lookup q a.pending := by
        cases hs' : o.seq with
        | some q' => exact step_other a o q q' hs' (fun e => hs (e ▸ hs'))
        | none =>
          obtain ⟨now, rfl⟩ := seq_none hs'
          rw [(step_cleanup a now q hw).1]
          exact cleanQ_unexpired (hu now List.mem_cons_self) _
      rw [e] at hnf ⊢
      simp only [Assembler.outsFor, Assembler.after, hs, if_false, cnt, List.countP_cons, beq_iff_eq, Nat.add_zero]
      exact ih S (hl ▸ hg) hnf

theorem good_none_iff {st : Option FragMsg}
    (h : Good R cache S st) : st = none ↔ S = [] := by
  cases st with
  | none => exact ⟨fun _ => h, fun _ => rfl⟩
  | some m => exact ⟨fun e => absurd e (by simp), fun e => absurd e h.1⟩

/-- A CONFORMING SEQUENCE AMONG ARBITRARY OTHER EVENTS, SOME ID STILL MISSING: from an assembler that holds nothing for
`q`, whatever the events of `q` (fragments of the split, any order, any multiplicity) and whatever is interleaved: nothing
is returned at `q`'s events, `q` is held iff something of it has arrived, and its entry is the `Good` one for the ids seen -/
theorem conforming_prefix {a : Assembler} (hw : WF a.pending) (h0 : lookup q a.pending = none)
    {ps : List Bytes} (hne : ps ≠ []) (hlim : ps.length ≤ MAX_FRAGMENT_COUNT) {ops : List Op}
    (hconf : ∀ o ∈ ops, o.seq = some q → Delivers q cache ps o) (hexp : Unexpiring a.timeout ops)
    (hmissing : ∃ k, 1 ≤ k ∧ k ≤ ps.length ∧ k ∉ seen q ops) :
    a.outsFor q ops = List.replicate (cnt q ops) none ∧
    (lookup q (a.after ops).pending = none ↔ cnt q ops = 0) ∧
    Good ps.reverse cache (seen q ops) (lookup q (a.after ops).pending) := by
  obtain ⟨k, k1, k2, hk⟩ := hmissing
  obtain ⟨r1, r2⟩ := run_missing (R := ps.reverse) (by simpa [Nat.one_le_iff_ne_zero] using hne) (by simpa using hlim)
    ops a [] hw (h0 ▸ rfl) (fun o ho hs => isFrag_of_delivers (hconf o ho hs)) hexp
    (fun hf => hk (by simpa using hf k k1 (by simpa using k2)))
  rw [List.append_nil] at r2
  exact ⟨r1, by rw [good_none_iff r2, ← List.length_eq_zero_iff, length_seen], r2⟩

/-- … AND THE NEXT EVENT OF THE SEQUENCE returns the message (pieces by ascending id) and takes the entry away when it
brings the last missing id, and returns nothing otherwise -/
theorem conforming_next (a : Assembler) {ps : List Bytes} (hne : ps ≠ [])
    (hlim : ps.length ≤ MAX_FRAGMENT_COUNT) (hg : Good ps.reverse cache S (lookup q a.pending))
    {o : Op} (ho : o.seq = some q) (hd : Delivers q cache ps o) :
    ((∀ k, 1 ≤ k → k ≤ ps.length → k ≠ Op.fid o → k ∈ S) →
      (a.step o).2 = some (cache.getD [] ++ ps.reverse.flatten) ∧ lookup q (a.step o).1.pending = none) ∧
    (¬ (∀ k, 1 ≤ k → k ≤ ps.length → k ≠ Op.fid o → k ∈ S) →
      (a.step o).2 = none ∧ Good ps.reverse cache (Op.fid o :: S) (lookup q (a.step o).1.pending)) := by
  obtain ⟨s1, s2⟩ := step_self a o q ho
  obtain ⟨f1, f2⟩ := stepQ_frag (t := a.timeout) (by simpa [Nat.one_le_iff_ne_zero] using hne) (by simpa using hlim) hg
    (isFrag_of_delivers hd)
  have hfull : Full ps.reverse (Op.fid o :: S) ↔ ∀ k, 1 ≤ k → k ≤ ps.length → k ≠ Op.fid o → k ∈ S := by
    simp only [Full, List.length_reverse, List.mem_cons]
    exact forall_congr' fun k => forall_congr' fun _ => forall_congr' fun _ => Decidable.or_iff_not_imp_left
  rw [hfull] at f1 f2
  rw [s1, s2]
  exact ⟨fun h => by rw [f1 h]; exact ⟨rfl, rfl⟩, fun h => ⟨(f2 h).2, (f2 h).1⟩⟩

/-- EXACTLY ONCE, ANY ORDER, ANY DUPLICATION, ANY INTERLEAVING: the events `pre ++ l :: post` are arbitrary except that
those of sequence `q` deliver fragments of the split of `ps`, `l` brings the last missing id, and no complete second round
follows: nothing at `q`'s events before `l`, the pieces in ascending id at `l`, nothing afterwards; and `q` is held
afterwards only if a late duplicate arrived -/
theorem any_order {a : Assembler} (hw : WF a.pending) (h0 : lookup q a.pending = none)
    {ps : List Bytes} (hne : ps ≠ []) (hlim : ps.length ≤ MAX_FRAGMENT_COUNT) {pre post : List Op} {l : Op}
    (hconf : ∀ o ∈ pre ++ l :: post, o.seq = some q → Delivers q cache ps o)
    (hexp : Unexpiring a.timeout (pre ++ l :: post)) (hl : l.seq = some q) (hmiss : Op.fid l ∉ seen q pre)
    (hall : ∀ k, 1 ≤ k → k ≤ ps.length → k ≠ Op.fid l → k ∈ seen q pre)
    (hpost : ∃ k, 1 ≤ k ∧ k ≤ ps.length ∧ k ∉ seen q post) :
    a.outsFor q (pre ++ l :: post) =
      List.replicate (cnt q pre) none ++ some (cache.getD [] ++ ps.reverse.flatten) :: List.replicate (cnt q post) none ∧
    (lookup q (a.after (pre ++ l :: post)).pending = none ↔ cnt q post = 0) := by
  have hfid : 1 ≤ Op.fid l ∧ Op.fid l ≤ ps.length := by
    have := isFrag_fid_range (by simpa [Nat.one_le_iff_ne_zero] using hne) (isFrag_of_delivers (hconf l (by simp) hl))
    simpa using this
  -- nothing up to `l` (its id is still missing), the message at `l` (every other id has arrived), nothing afterwards
  obtain ⟨o1, _, hg⟩ := conforming_prefix hw h0 hne hlim (fun o ho => hconf o (by simp [ho]))
    (fun now h => hexp now (by simp [h])) ⟨Op.fid l, hfid.1, hfid.2, hmiss⟩
  obtain ⟨o2, h2⟩ := (conforming_next (a.after pre) hne hlim hg hl (hconf l (by simp) hl)).1 hall
  obtain ⟨hwp, htp⟩ := after_induct (P := fun b => WF b.pending ∧ b.timeout = a.timeout)
    (fun b o h => ⟨step_WF b o h.1, (step_timeout b o).trans h.2⟩) pre a ⟨hw, rfl⟩
  obtain ⟨o3, h3, _⟩ := conforming_prefix (step_WF _ l hwp) h2 hne hlim (fun o ho => hconf o (by simp [ho]))
    (by rw [step_timeout, htp]; exact fun now h => hexp now (by simp [h])) hpost
  rw [outsFor_append, after_append]
  simp only [Assembler.outsFor, Assembler.after, hl, if_true]
  exact ⟨by rw [o1, o2, o3], h3⟩

/-- the entry an event leaves behind is the one it found — not for an `add_fragment`, and for a cleanup only if it is
unexpired at that clock reading — or a new incomplete one stamped with the event's clock reading -/
theorem stepQ_entry {t : Nat} {st : Option FragMsg} {o : Op} {m : FragMsg} (h : (stepQ t st o).1 = some m) :
    (st = some m ∧ match o with
      | .cleanup now => m.isExpired now t = false
      | .start .. => True
      | .add .. => False) ∨
    (m.isComplete = false ∧ m.last = Op.now o ∧ o.seq.isSome) := by
  have hset : ∀ {m' : FragMsg} {now fid d}, (settle (m'.addFragment now fid d)).1 = some m →
      m.isComplete = false ∧ m.last = now := fun {m' now fid d} h => by
    unfold settle at h
    split at h
    · cases h
    · rename_i hc
      cases h; exact ⟨by simpa using hc, (addFragment_frame m' now fid d).2.2⟩
  cases o with
  | cleanup now =>
    obtain ⟨rfl, hp⟩ := Option.filter_eq_some_iff.mp (h : st.filter _ = some m)
    exact .inl ⟨rfl, by simpa using hp⟩
  | add now q fid d =>
    cases st with
    | none =>
      cases h
      obtain ⟨h1, _, h3⟩ := addFragment_frame (FragMsg.new none none now) now fid d
      have h1 : ((FragMsg.new none none now).addFragment now fid d).total = none := h1
      exact .inr ⟨by simp [FragMsg.isComplete, h1], h3, rfl⟩
    | some m' => exact .inr ⟨(hset h).1, (hset h).2, rfl⟩
  | start now q fid c d =>
    simp only [stepQ, startQ] at h
    split at h
    · exact .inl ⟨h, trivial⟩
    · cases st with
      | none => exact .inr ⟨(hset h).1, (hset h).2, rfl⟩
      | some m' =>
        dsimp only at h
        split at h
        · exact .inl ⟨h, trivial⟩
        · exact .inr ⟨(hset h).1, (hset h).2, rfl⟩

/-- the same, of the assembler and any sequence `q` -/
theorem step_entry (a : Assembler) (hw : WF a.pending) (o : Op) {q : Nat} {m : FragMsg}
    (h : lookup q (a.step o).1.pending = some m) :
    (lookup q a.pending = some m ∧ match o with
      | .cleanup now => m.isExpired now a.timeout = false
      | .start .. => True
      | .add _ q' _ _ => q' ≠ q) ∨
    (m.isComplete = false ∧ m.last = Op.now o ∧ o.seq = some q) := by
  by_cases hs : o.seq = some q
  · rw [(step_self a o q hs).1] at h
    rcases stepQ_entry h with ⟨e, hx⟩ | ⟨h1, h2, _⟩
    · refine .inl ⟨e, ?_⟩
      cases o with
      | add _ _ _ _ => exact hx.elim
      | _ => exact hx
    · exact .inr ⟨h1, h2, hs⟩
  · refine .inl ?_
    cases o with
    | cleanup now =>
      rw [(step_cleanup a now q hw).1] at h
      rcases stepQ_entry h with ⟨e, hx⟩ | ⟨_, _, hx⟩
      · exact ⟨e, hx⟩
      · cases hx
    | start now q' fid c d => exact ⟨step_other a (.start now q' fid c d) q q' rfl (fun e => hs (e ▸ rfl)) ▸ h, trivial⟩
    | add now q' fid d => exact ⟨step_other a (.add now q' fid d) q q' rfl (fun e => hs (e ▸ rfl)) ▸ h, fun e => hs (e ▸ rfl)⟩

theorem held_has_event : ∀ (ops : List Op) (a : Assembler), WF a.pending → ∀ {q : Nat} {m : FragMsg},
    lookup q (a.after ops).pending = some m → (lookup q a.pending).isSome ∨ ∃ o ∈ ops, o.seq = some q
  | [], a, _, q, _, h => .inl (by rw [show lookup q a.pending = _ from h]; rfl)
  | o :: r, a, hw, q, _, h => by
    rcases held_has_event r _ (step_WF a o hw) h with h' | ⟨x, hx, hs⟩
    · obtain ⟨m', hm'⟩ := Option.isSome_iff_exists.mp h'
      rcases step_entry a hw o hm' with ⟨e, _⟩ | ⟨_, _, hs⟩
      · exact .inl (by rw [e]; rfl)
      · exact .inr ⟨o, List.mem_cons_self, hs⟩
    · exact .inr ⟨x, List.mem_cons_of_mem _ hx, hs⟩

theorem setTotal_last (m : FragMsg) (c : Nat) : (m.setTotal c).last = m.last := by
  have hfold : ∀ (L : List (Nat × Bytes)) (m0 : FragMsg), (L.foldl (FragMsg.placePending c) m0).last = m0.last := by
    intro L
    induction L with
    | nil => intro _; rfl
    | cons p r ih =>
      intro m0
      rw [List.foldl_cons, ih, FragMsg.placePending]
      split
      · rcases place_view m0 p.1 p.2 with ⟨_, e⟩ | ⟨_, e⟩ <;> rw [e]
      · rfl
  unfold FragMsg.setTotal
  split
  · rfl
  · simp only
    split
    · rfl
    · exact hfold _ _

theorem cleanup_eq_step (a : Assembler) (now : Nat) : (a.cleanupExpired now).1 = (a.step (.cleanup now)).1 := rfl

def Inv (t : Nat) (a : Assembler) : Prop :=
  WF a.pending ∧ (∀ q m, lookup q a.pending = some m → m.isComplete = false) ∧ a.timeout = t

theorem step_inv {t : Nat} (a : Assembler) (o : Op) (h : Inv t a) : Inv t (a.step o).1 :=
  ⟨step_WF a o h.1, fun q m hm => (step_entry a h.1 o hm).elim (fun e => h.2.1 q m e.1) (·.1), (step_timeout a o).trans h.2.2⟩

theorem new_inv (t : Nat) : Inv t (Assembler.new t) := ⟨List.nodup_nil, fun _ _ h => (by cases h), rfl⟩

/-- after a frame received at `now`, every entry held is unexpired at `now` (the clock does not run backwards between the
expiry and the fragment operation of the same frame) -/
theorem onFrame_unexpired (a : Assembler) (now : Nat) (o : Option Op) (hw : WF a.pending)
    (hmono : ∀ op, o = some op → now ≤ Op.now op) :
    ∀ q m, lookup q (a.onFrame now o).1.pending = some m → now - m.last ≤ a.timeout := by
  have u1 : ∀ q m, lookup q (a.cleanupExpired now).1.pending = some m → now - m.last ≤ a.timeout := fun q m hm => by
    rcases step_entry a hw (.cleanup now) hm with ⟨_, hexp⟩ | ⟨_, _, hs⟩
    · simpa [FragMsg.isExpired] using hexp
    · cases hs
  cases o with
  | none => exact u1
  | some op =>
    intro q m hm
    rcases step_entry _ (step_WF a (.cleanup now) hw) op hm with ⟨h, _⟩ | ⟨_, h, _⟩
    · exact u1 q m h
    · have := hmono op rfl
      rw [h]; omega

/-- the fragment an event carries (inverse of `fragOp`) -/
def Op.toFrag : Op → Option Spec.Frag.Frag
  | .start _ q fid c d => some ⟨q, fid, true, c, d⟩
  | .add _ q fid d => some ⟨q, fid, false, none, d⟩
  | .cleanup _ => none

theorem toFrag_spec {o : Op} (h : o.seq = some q) :
    ∃ f, o.toFrag = some f ∧ o = fragOp (Op.now o) f ∧ f.fid = Op.fid o := by
  cases o with
  | start now q fid c d => exact ⟨_, rfl, rfl, rfl⟩
  | add now q fid d => exact ⟨_, rfl, rfl, rfl⟩
  | cleanup now => cases h

theorem fids_filterMap (q : Nat) : ∀ (L : List Op), (∀ o ∈ L, o.seq = some q) →
    (L.filterMap Op.toFrag).map (·.fid) = L.map Op.fid
  | [], _ => rfl
  | o :: r, h => by
    obtain ⟨f, hf, _, hfid⟩ := toFrag_spec (h o List.mem_cons_self)
    simp only [List.filterMap_cons, hf, List.map_cons, hfid, fids_filterMap q r (fun x hx => h x (List.mem_cons_of_mem _ hx))]

theorem number_fids_nodup (q : Nat) (cache : Option Bytes) (ps : List Bytes) :
    ((Spec.Frag.number q cache ps).map (·.fid)).Nodup := by
  rw [List.Nodup, List.pairwise_iff_getElem]
  intro i j hi hj hij
  simp only [Spec.Frag.number, List.length_map, List.length_mapIdx] at hi hj
  simp only [Spec.Frag.number, List.getElem_map, List.getElem_mapIdx]
  omega

theorem number_has_fid (q : Nat) (cache : Option Bytes) (ps : List Bytes) (k : Nat) (h1 : 1 ≤ k) (h2 : k ≤ ps.length) :
    ∃ f ∈ Spec.Frag.number q cache ps, f.fid = k := by
  have hi : ps.length - k < ps.length := by omega
  refine ⟨_, List.mem_mapIdx.mpr ⟨ps.length - k, hi, rfl⟩, ?_⟩
  simp only
  omega

theorem exists_last {α : Type} (p : α → Bool) (l : List α) (h : ∃ x ∈ l, p x = true) :
    ∃ pre x post, l = pre ++ x :: post ∧ p x = true ∧ ∀ y ∈ post, p y = false := by
  obtain ⟨x, hx, hpx⟩ := h
  cases hf : l.reverse.find? p with
  | none => exact absurd hpx (by simpa using List.find?_eq_none.mp hf x (List.mem_reverse.mpr hx))
  | some b =>
    obtain ⟨hb, as, bs, e, has⟩ := List.find?_eq_some_iff_append.mp hf
    refine ⟨bs.reverse, b, as.reverse, ?_, hb, fun y hy => by simpa using has y (List.mem_reverse.mp hy)⟩
    rw [← List.reverse_reverse l, e, List.reverse_append, List.reverse_cons, List.append_assoc]; rfl

/-- ANY ARRIVAL PERMUTATION: if the fragments that the events of sequence `q` carry are, in some order, exactly the
protocol's split of the pieces `ps` — each once —, then whatever else is interleaved the assembler returns nothing at the
first `n - 1` of them, the pieces in ascending id at the last, and holds nothing for `q` afterwards -/
theorem perm_run {a : Assembler} (hw : WF a.pending) (h0 : lookup q a.pending = none)
    {ps : List Bytes} (hne : ps ≠ []) (hlim : ps.length ≤ MAX_FRAGMENT_COUNT)
    {ops : List Op} (hexp : Unexpiring a.timeout ops)
    (hperm : ((ops.filter (fun o => o.seq == some q)).filterMap Op.toFrag).Perm (Spec.Frag.number q cache ps)) :
    a.outsFor q ops = List.replicate (ps.length - 1) none ++ [some (cache.getD [] ++ ps.reverse.flatten)] ∧
    lookup q (a.after ops).pending = none := by
  have hpos : 1 ≤ ps.length := by simpa [Nat.one_le_iff_ne_zero] using hne
  have hdel : ∀ o ∈ ops, o.seq = some q → Delivers q cache ps o := by
    intro o ho hs
    obtain ⟨f, hf, hof, _⟩ := toFrag_spec hs
    exact ⟨_, f, hperm.mem_iff.mp (List.mem_filterMap.mpr ⟨o, List.mem_filter.mpr ⟨ho, by simp [hs]⟩, hf⟩), hof⟩
  -- the ids seen are those of the split: distinct, and each of `1..n` among them
  have hfids : (seen q ops).Perm ((Spec.Frag.number q cache ps).map (·.fid)) := by
    rw [seen, ← fids_filterMap q _ (fun o ho => by simpa using (List.mem_filter.mp ho).2)]
    exact (List.reverse_perm _).trans (hperm.map _)
  have hnd := hfids.nodup_iff.mpr (number_fids_nodup q cache ps)
  have hcover : ∀ k, 1 ≤ k → k ≤ ps.length → k ∈ seen q ops := fun k k1 k2 => by
    obtain ⟨f, hf, hfk⟩ := number_has_fid q cache ps k k1 k2
    exact hfids.mem_iff.mpr (List.mem_map.mpr ⟨f, hf, hfk⟩)
  have hlen : cnt q ops = ps.length := by
    rw [← length_seen, hfids.length_eq, List.length_map, Spec.Frag.number, List.length_mapIdx]
  -- split at the last event of `q`: it brings the last missing id
  obtain ⟨o1, ho1, hs1, _⟩ := mem_seen.mp (hcover 1 (Nat.le_refl _) hpos)
  obtain ⟨pre, l, post, rfl, hlp, hpostp⟩ := exists_last (fun o : Op => o.seq == some q) ops ⟨o1, ho1, by simp [hs1]⟩
  have hl : l.seq = some q := by simpa using hlp
  have hpost : seen q post = [] := by simpa [seen] using hpostp
  have hsplit : seen q (pre ++ l :: post) = Op.fid l :: seen q pre := by
    simpa [seen, hl] using congrArg (· ++ Op.fid l :: seen q pre) hpost
  rw [hsplit] at hnd hcover
  have c0 : cnt q post = 0 := by rw [← length_seen, hpost]; rfl
  obtain ⟨e1, e2⟩ := any_order hw h0 hne hlim hdel hexp hl (List.nodup_cons.mp hnd).1
    (fun k k1 k2 hk => (List.mem_cons.mp (hcover k k1 k2)).resolve_left hk)
    ⟨1, Nat.le_refl _, hpos, by simp [hpost]⟩
  rw [← length_seen, hsplit, List.length_cons, length_seen] at hlen
  rw [e1, c0, show cnt q pre = ps.length - 1 by omega]
  exact ⟨rfl, e2.mpr c0⟩

theorem fragOp_number {ps : List Bytes} {f : Spec.Frag.Frag} (now : Nat)
    (hf : f ∈ Spec.Frag.number q cache ps) : (fragOp now f).seq = some q ∧ (fragOp now f).toFrag = some f := by
  obtain ⟨i, hi, rfl⟩ := List.mem_mapIdx.mp hf
  by_cases h0 : i = 0
  · subst h0; exact ⟨rfl, rfl⟩
  · have hb : (i == 0) = false := by simpa using h0
    simp [fragOp, hb, Op.seq, Op.toFrag]

theorem filterMap_toFrag_map (now : Nat) : ∀ (L : List Spec.Frag.Frag), (∀ f ∈ L, (fragOp now f).toFrag = some f) →
    (L.map (fragOp now)).filterMap Op.toFrag = L
  | [], _ => rfl
  | f :: r, h => by
    simp only [List.map_cons, List.filterMap_cons, h f List.mem_cons_self,
      filterMap_toFrag_map now r (fun g hg => h g (List.mem_cons_of_mem _ hg))]

theorem outsFor_eq_outs : ∀ (L : List Op) (a : Assembler), (∀ o ∈ L, o.seq = some q) → a.outsFor q L = a.outs L
  | [], _, _ => rfl
  | o :: r, a, h => by
    simp only [Assembler.outsFor, Assembler.outs, h o List.mem_cons_self, if_true,
      outsFor_eq_outs r _ (fun x hx => h x (List.mem_cons_of_mem _ hx))]

end Edp.Frag
