import EdpVerif.Lemmas.Codec
/-! Exactly when the encoder reports an error, and which one (C01). -/
namespace Edp

/-! Which size limit a term exceeds: `over e t` says that `t` contains a node that exceeds the limit named by `e`
(identifiers that carry preserved LOCAL_EXT bytes are written verbatim, so their fields are not inspected). -/

def atomOver (e : EncErr) (a : Bytes) : Bool := decide (e = .atomTooLarge) && decide (a.length > 65535)
def pidOver (e : EncErr) (p : PidF) : Bool := p.loc.isNone && atomOver e p.node

mutual
def over (e : EncErr) : Term → Bool
  | .atom a => atomOver e a
  | .bin b => decide (e = .binaryTooLarge) && decide (b.length > 4294967295)
  | .str b => decide (e = .binaryTooLarge) && decide (b.length > 4294967295)
  | .bits b _ => decide (e = .binaryTooLarge) && decide (b.length > 4294967295)
  | .list l => (decide (e = .listTooLarge) && decide (l.length > 4294967295)) || overL e l
  | .ilist l t => (decide (e = .listTooLarge) && decide (l.length > 4294967295)) || overL e l || over e t
  | .map kvs => (decide (e = .mapTooLarge) && decide (kvs.length > 4294967295)) || overKV e kvs
  | .tuple l => (decide (e = .tupleTooLarge) && decide (l.length > 4294967295)) || overL e l
  | .pid p => pidOver e p
  | .port n _ _ l => l.isNone && atomOver e n
  | .ref n _ ids l => l.isNone && ((decide (e = .refTooLarge) && decide (ids.length > 65535)) || atomOver e n)
  | .xfun m f _ => atomOver e m || atomOver e f
  | .ifun _ _ _ _ m _ _ p fr => atomOver e m || pidOver e p || overL e fr
  | _ => false
def overL (e : EncErr) : List Term → Bool
  | [] => false
  | t :: ts => over e t || overL e ts
def overKV (e : EncErr) : List (Term × Term) → Bool
  | [] => false
  | (k, v) :: r => over e k || over e v || overKV e r
end

theorem encAtom_err (cache : List Bytes) (a : Bytes) (e : EncErr) (h : encAtom cache a = .error e) : atomOver e a = true := by
  unfold encAtom u16max at h
  split at h
  · cases h
  · split at h
    · cases h; simpa [atomOver]
    · split at h <;> cases h

theorem encPid_err (cache : List Bytes) (p : PidF) (e : EncErr) (h : encPid cache p = .error e) : pidOver e p = true := by
  unfold encPid at h
  split at h
  · cases h
  · split at h <;> cases h
    simp [pidOver, *, encAtom_err cache _ _ ‹_›]

theorem encBinary_err {b : Bytes} {e : EncErr} (h : encBinary b = .error e) :
    (decide (e = .binaryTooLarge) && decide (b.length > 4294967295)) = true := by
  unfold encBinary u32max at h
  split at h <;> cases h
  simpa

mutual
theorem enc_err (cache : List Bytes) (t : Term) (e : EncErr) (h : enc cache t = .error e) : over e t = true := by
  match t with
  | .int _ | .float _ | .big _ _ | .nil => cases h
  | .atom a => exact encAtom_err cache a e h
  | .bin b | .str b => exact encBinary_err h
  | .bits b n =>
    simp only [enc, encBits] at h
    split at h <;> cases h
    simpa [over, u32max] using ‹_ > _›
  | .pid p => exact encPid_err cache p e h
  | .port n i c l =>
    simp only [enc, encPort] at h
    split at h
    · cases h
    · split at h <;> cases h
      simp [over, encAtom_err cache _ _ ‹_›]
  | .ref n c ids l =>
    simp only [enc, encRef] at h
    split at h
    · cases h
    · split at h
      · cases h; simpa [over, u32max, u16max] using .inl ‹_›
      · split at h <;> cases h
        simp [over, encAtom_err cache _ _ ‹_›]
  | .xfun m fn a =>
    simp only [enc] at h
    split at h
    · split at h <;> cases h
      simp [over, encAtom_err cache _ _ ‹_›]
    · cases h; simp [over, encAtom_err cache _ _ ‹_›]
  | .tuple l =>
    simp only [enc] at h
    split at h
    · split at h <;> cases h
      simp [over, encL_err cache l _ ‹_›]
    · split at h
      · cases h; simpa [over, u32max, u16max] using .inl ‹_›
      · split at h <;> cases h
        simp [over, encL_err cache l _ ‹_›]
  | .list l =>
    simp only [enc] at h
    split at h
    · cases h
    · split at h
      · cases h; simpa [over, u32max, u16max] using .inl ‹_›
      · split at h <;> cases h
        simp [over, encL_err cache l _ ‹_›]
  | .ilist l tl =>
    simp only [enc] at h
    split at h
    · cases h; simpa [over, u32max, u16max] using .inl (.inl ‹_›)
    · split at h
      · split at h <;> cases h
        simp [over, enc_err cache tl _ ‹_›]
      · cases h; simp [over, encL_err cache l _ ‹_›]
  | .map kvs =>
    simp only [enc] at h
    split at h
    · cases h; simpa [over, u32max, u16max] using .inl ‹_›
    · split at h <;> cases h
      simp [over, encKV_err cache kvs _ ‹_›]
  | .ifun a u i nf m oi ou p fr =>
    simp only [enc] at h
    split at h
    · split at h
      · split at h <;> cases h
        simp [over, encL_err cache fr _ ‹_›]
      · cases h; simp [over, encPid_err cache _ _ ‹_›]
    · cases h; simp [over, encAtom_err cache _ _ ‹_›]
theorem encL_err (cache : List Bytes) (l : List Term) (e : EncErr) (h : encL cache l = .error e) : overL e l = true := by
  match l with
  | [] => cases h
  | t :: ts =>
    simp only [encL] at h
    split at h
    · split at h <;> cases h
      simp [overL, encL_err cache ts _ ‹_›]
    · cases h; simp [overL, enc_err cache t _ ‹_›]
theorem encKV_err (cache : List Bytes) (kvs : List (Term × Term)) (e : EncErr) (h : encKV cache kvs = .error e) :
    overKV e kvs = true := by
  match kvs with
  | [] => cases h
  | (k, v) :: ts =>
    simp only [encKV] at h
    split at h
    · split at h
      · split at h <;> cases h
        simp [overKV, encKV_err cache ts _ ‹_›]
      · cases h; simp [overKV, enc_err cache v _ ‹_›]
    · cases h; simp [overKV, enc_err cache k _ ‹_›]
end

theorem encAtom_over (a bs : Bytes) (e : EncErr) (ho : atomOver e a = true) : encAtom [] a ≠ .ok bs := by
  simp only [atomOver, Bool.and_eq_true, decide_eq_true_eq] at ho
  simp [encAtom, indexOf?, u16max, ho.2]

theorem encPid_over (p : PidF) (bs : Bytes) (e : EncErr) (ho : pidOver e p = true) : encPid [] p ≠ .ok bs := by
  simp only [pidOver, Bool.and_eq_true, Option.isNone_iff_eq_none] at ho
  intro h
  obtain ⟨ab, ha, _⟩ := encPid_ok h ho.1
  exact encAtom_over _ _ _ ho.2 ha

mutual
theorem enc_over (t : Term) (e : EncErr) (bs : Bytes) (ho : over e t = true) : enc [] t ≠ .ok bs := by
  intro h
  match t with
  | .int _ | .float _ | .big _ _ | .nil => cases ho
  | .atom a => exact encAtom_over _ _ _ ho h
  | .bin b | .str b =>
    have := (encBinary_ok h).1
    simp only [over, u32max, Bool.and_eq_true, decide_eq_true_eq] at ho this; omega
  | .bits b n =>
    have := (encBits_ok h).1
    simp only [over, u32max, Bool.and_eq_true, decide_eq_true_eq] at ho this; omega
  | .pid p => exact encPid_over _ _ _ ho h
  | .port n i c l =>
    simp only [over, Bool.and_eq_true, Option.isNone_iff_eq_none] at ho
    cases ho.1
    obtain ⟨ab, ha, _⟩ := encPort_ok h
    exact encAtom_over _ _ _ ho.2 ha
  | .ref n c ids l =>
    simp only [over, Bool.or_eq_true, Bool.and_eq_true, decide_eq_true_eq, Option.isNone_iff_eq_none] at ho
    cases ho.1
    obtain ⟨hl, ab, ha, _⟩ := encRef_ok h
    rcases ho.2 with h1 | h1
    · simp only [u16max] at hl; omega
    · exact encAtom_over _ _ _ h1 ha
  | .xfun m fn a =>
    simp only [over, Bool.or_eq_true] at ho
    obtain ⟨mb, fb, hm, hf, _⟩ := enc_xfun_ok h
    exact ho.elim (encAtom_over _ _ _ · hm) (encAtom_over _ _ _ · hf)
  | .tuple l =>
    simp only [over, Bool.or_eq_true, Bool.and_eq_true, decide_eq_true_eq] at ho
    obtain ⟨hl, lb, hlb, _⟩ := enc_tuple_ok h
    rcases ho with h1 | h1
    · simp only [u32max] at hl; omega
    · exact encL_over l e lb h1 hlb
  | .list l =>
    simp only [over, Bool.or_eq_true, Bool.and_eq_true, decide_eq_true_eq] at ho
    rcases enc_list_ok h with ⟨rfl, _⟩ | ⟨_, hl, lb, hlb, _⟩
    · simp [overL] at ho
    · rcases ho with h1 | h1
      · simp only [u32max] at hl; omega
      · exact encL_over l e lb h1 hlb
  | .ilist l tl =>
    simp only [over, Bool.or_eq_true, Bool.and_eq_true, decide_eq_true_eq] at ho
    obtain ⟨hl, lb, tb, hlb, htb, _⟩ := enc_ilist_ok h
    rcases ho with (h1 | h1) | h1
    · simp only [u32max] at hl; omega
    · exact encL_over l e lb h1 hlb
    · exact enc_over tl e tb h1 htb
  | .map kvs =>
    simp only [over, Bool.or_eq_true, Bool.and_eq_true, decide_eq_true_eq] at ho
    obtain ⟨hl, b, hb, _⟩ := enc_map_ok h
    rcases ho with h1 | h1
    · simp only [u32max] at hl; omega
    · exact encKV_over kvs e b h1 hb
  | .ifun a u i nf m oi ou p fr =>
    simp only [over, Bool.or_eq_true] at ho
    obtain ⟨mb, pb, fb, hm, hp, hfr, _⟩ := enc_ifun_ok h
    rcases ho with (h1 | h1) | h1
    · exact encAtom_over _ _ _ h1 hm
    · exact encPid_over _ _ _ h1 hp
    · exact encL_over fr e fb h1 hfr
theorem encL_over (l : List Term) (e : EncErr) (bs : Bytes) (ho : overL e l = true) : encL [] l ≠ .ok bs := by
  intro h
  match l with
  | [] => cases ho
  | t :: ts =>
    obtain ⟨a, b, ha, hb, _⟩ := encL_cons_ok h
    simp only [overL, Bool.or_eq_true] at ho
    exact ho.elim (enc_over t e a · ha) (encL_over ts e b · hb)
theorem encKV_over (kvs : List (Term × Term)) (e : EncErr) (bs : Bytes) (ho : overKV e kvs = true) : encKV [] kvs ≠ .ok bs := by
  intro h
  match kvs with
  | [] => cases ho
  | (k, v) :: ts =>
    obtain ⟨a, b, c, ha, hb, hc, _⟩ := encKV_cons_ok h
    simp only [overKV, Bool.or_eq_true] at ho
    exact ho.elim (·.elim (enc_over k e a · ha) (enc_over v e b · hb)) (encKV_over ts e c · hc)
end


mutual
theorem over_tooManyAtoms (t : Term) : over .tooManyAtoms t = false := by
  match t with
  | .atom _ | .int _ | .float _ | .bin _ | .str _ | .bits _ _ | .big _ _ | .nil | .pid _ | .port _ _ _ _
  | .ref _ _ _ _ | .xfun _ _ _ => simp [over, pidOver, atomOver]
  | .tuple l | .list l => simp [over, overL_tooManyAtoms l]
  | .ilist l tl => simp [over, overL_tooManyAtoms l, over_tooManyAtoms tl]
  | .map kvs => simp [over, overKV_tooManyAtoms kvs]
  | .ifun a u i nf m oi ou p fr => simp [over, pidOver, atomOver, overL_tooManyAtoms fr]
theorem overL_tooManyAtoms (l : List Term) : overL .tooManyAtoms l = false := by
  match l with
  | [] => rfl
  | t :: ts => simp [overL, over_tooManyAtoms t, overL_tooManyAtoms ts]
theorem overKV_tooManyAtoms (kvs : List (Term × Term)) : overKV .tooManyAtoms kvs = false := by
  match kvs with
  | [] => rfl
  | (k, v) :: ts => simp [overKV, over_tooManyAtoms k, over_tooManyAtoms v, overKV_tooManyAtoms ts]
end

end Edp
