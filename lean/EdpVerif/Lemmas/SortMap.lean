import EdpVerif.Lemmas.SortedInsert
import EdpVerif.Lemmas.ErlAgreeRec
/-!
Consequences of the order laws for the containers the property names:
* sorting (core Lean's stable merge sort, run with the model order) returns a permutation in ascending order;
* the ordered map (`mapInsert`, the model of `BTreeMap::insert`): a lookup returns the LAST value written under a key
  that compares Equal; removal keeps the keys sorted;
* every map built by insertions stores its entries in ascending key order (`adjSorted`, the `mapsSorted` guard of C12).
-/
open Edp Edp.Term
namespace Edp

/-- terms whose big integers have minimal digits -/
abbrev WTerm := { t : Term // WFo t = true }

/-- `a <= b` under the model order -/
def leT (a b : WTerm) : Bool := Term.cmp a.1 b.1 != .gt

theorem leT_trans (a b c : WTerm) (h1 : leT a b = true) (h2 : leT b c = true) : leT a c = true := by
  simp only [leT, bne_iff_ne] at *
  exact cmp_trans_le a.2 b.2 c.2 h1 h2

theorem leT_total (a b : WTerm) : (leT a b || leT b a) = true := by
  simp only [leT]
  rw [cmp_swap a.1 b.1]
  cases Term.cmp b.1 a.1 <;> simp

/-- lookup under the order's equality: the value stored under the first key that compares Equal -/
def mapGet (m : List (Term × Term)) (k : Term) : Option Term :=
  (m.find? (fun p => Term.cmp k p.1 == .eq)).map (·.2)

theorem mapGet_cons (p : Term × Term) (m : List (Term × Term)) (k : Term) :
    mapGet (p :: m) k = if Term.cmp k p.1 = .eq then some p.2 else mapGet m k := by
  simp only [mapGet, List.find?_cons]
  cases h : Term.cmp k p.1 <;> simp

/-- one insertion: the inserted key (and every key Equal to it) now reads the new value, every other key reads what it
read before -/
theorem mapGet_mapInsert (m : List (Term × Term)) (k v k' : Term) (hk : WFo k) (hk' : WFo k')
    (hm : ∀ p ∈ m, WFo p.1) :
    mapGet (mapInsert m k v) k' = if Term.cmp k' k = .eq then some v else mapGet m k' := by
  induction m with
  | nil => simp [mapInsert, mapGet]
  | cons p0 r ih =>
    obtain ⟨k0, v0⟩ := p0
    have hk0 : WFo k0 := hm (k0, v0) (by simp)
    have hr : ∀ p ∈ r, WFo p.1 := fun p hp => hm p (List.mem_cons_of_mem _ hp)
    simp only [mapInsert]
    cases h : Term.cmp k k0 <;> simp only
    · simp only [mapGet_cons]
    · -- the stored key stays, its value is replaced: `k'` equals `k` exactly when it equals the stored key
      have : Term.cmp k' k = .eq ↔ Term.cmp k' k0 = .eq :=
        ⟨fun h1 => cmp_trans_eq_eq hk' hk hk0 h1 h,
          fun h2 => cmp_trans_eq_eq hk' hk0 hk h2 (by rw [cmp_swap k0 k, h]; rfl)⟩
      simp only [mapGet_cons, this]
      split <;> rfl
    · simp only [mapGet_cons, ih hr]
      by_cases h1 : Term.cmp k' k = .eq
      · -- `k'` equals `k`, which is above the stored key
        have : Term.cmp k' k0 ≠ .eq := by
          intro h2
          have := cmp_trans_eq_eq hk hk' hk0 (by rw [cmp_swap k k', h1]; rfl) h2
          rw [h] at this; cases this
        simp [h1, this]
      · simp [h1]

/-- any sequence of insertions into the empty map: a lookup returns the value of the LAST insertion whose key compares
Equal to the looked-up key, and nothing if there was none -/
theorem mapGet_build (l : List (Term × Term)) (k' : Term) (hl : ∀ p ∈ l, WFo p.1) (hk' : WFo k') :
    mapGet (l.foldl (fun m kv => mapInsert m kv.1 kv.2) []) k' =
      (l.reverse.find? (fun p => Term.cmp k' p.1 == .eq)).map (·.2) := by
  suffices H : ∀ (l acc : List (Term × Term)), (∀ p ∈ l, WFo p.1) → (∀ p ∈ acc, WFo p.1) →
      mapGet (l.foldl (fun m kv => mapInsert m kv.1 kv.2) acc) k' =
        match l.reverse.find? (fun p => Term.cmp k' p.1 == .eq) with
        | some p => some p.2
        | none => mapGet acc k' by
    rw [H l [] hl (by simp)]
    cases l.reverse.find? (fun p => Term.cmp k' p.1 == .eq) <;> simp [mapGet]
  intro l
  induction l with
  | nil => intro acc _ _; simp
  | cons e r ih =>
    intro acc hl hacc
    have he : WFo e.1 := hl e (by simp)
    have hr : ∀ p ∈ r, WFo p.1 := fun p hp => hl p (List.mem_cons_of_mem _ hp)
    simp only [List.foldl_cons, List.reverse_cons, List.find?_append]
    rw [ih (mapInsert acc e.1 e.2) hr (mapInsert_wf acc e.1 e.2 he hacc)]
    cases hf : r.reverse.find? (fun p => Term.cmp k' p.1 == .eq) with
    | some p => simp
    | none =>
      simp only [Option.none_or, List.find?_cons, List.find?_nil]
      rw [mapGet_mapInsert acc e.1 e.2 k' he hk' hacc]
      cases h : Term.cmp k' e.1 <;> simp

/-- removing entries keeps the keys strictly ascending -/
theorem keysSorted_sublist {m m' : List (Term × Term)} (h : m'.Sublist m) (hs : keysSorted m) : keysSorted m' :=
  List.Pairwise.sublist h hs

/-- strictly ascending keys are in particular ascending from each entry to the next (the `mapsSorted` guard of C12) -/
theorem adjSorted_of_keysSorted : ∀ (m : List (Term × Term)), keysSorted m → adjSorted m = true
  | [], _ => by simp [adjSorted]
  | [_], _ => by simp [adjSorted]
  | (k, v) :: (k2, v2) :: r, hs => by
    unfold keysSorted at hs
    rw [List.pairwise_cons] at hs
    simp only [adjSorted, Bool.and_eq_true, beq_iff_eq]
    exact ⟨hs.1 (k2, v2) (by simp), adjSorted_of_keysSorted ((k2, v2) :: r) hs.2⟩

theorem mapsSortedKV_iff : ∀ (m : List (Term × Term)),
    mapsSortedKV m = true ↔ ∀ p ∈ m, mapsSorted p.1 = true ∧ mapsSorted p.2 = true
  | [] => by simp [mapsSortedKV]
  | (k, v) :: r => by
    simp only [mapsSortedKV, Bool.and_eq_true, List.mem_cons, forall_eq_or_imp, mapsSortedKV_iff r, and_assoc]

/-- the map built from an entry list by successive insertions -/
def mapBuild (l : List (Term × Term)) : List (Term × Term) := l.foldl (fun m kv => mapInsert m kv.1 kv.2) []

/-- a map built by insertions from entries whose own maps are in key order is in key order, at every level -/
theorem mapsSorted_mapBuild (l : List (Term × Term)) (hk : ∀ p ∈ l, WFo p.1)
    (hs : ∀ p ∈ l, mapsSorted p.1 = true ∧ mapsSorted p.2 = true) : mapsSorted (.map (mapBuild l)) = true := by
  simp only [mapsSorted, Bool.and_eq_true]
  exact ⟨adjSorted_of_keysSorted _ (foldl_mapInsert_sorted (fun kv : Term × Term => kv.1) (·.2) l [] hk (by simp) .nil).1,
    (mapsSortedKV_iff _).mpr (foldl_mapInsert_all (mapsSorted · = true) (mapsSorted · = true)
      (fun kv : Term × Term => kv.1) (·.2) l [] hs (by simp)).1⟩

end Edp
