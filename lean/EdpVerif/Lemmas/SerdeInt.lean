import EdpVerif.Lemmas.Digits
import EdpVerif.Spec.Serde
/-!
C15, integers: `integer_term_as` reads exactly the numeric value of an integer term (either representation) when it is in
the range of the requested type, and is an error otherwise — never a truncated or wrapped value; `to_term` and the wire
keep that value.
-/
namespace Edp.Serde
open Edp
open Edp.Spec.Serde (intVal)

theorem inRange_i64 (k : IntTy) (i : Int) (h : k.inRange i = true) (hn : ¬ (k = .u64 ∧ i > i64Max)) :
    IntTy.i64.inRange i = true := by
  simp only [IntTy.inRange, Bool.and_eq_true, decide_eq_true_eq] at h ⊢
  cases k <;> simp only [IntTy.lo, IntTy.hi, i64Max, true_and, reduceCtorEq, false_and, not_false_eq_true] at h hn ⊢ <;> omega

theorem inRange_64 (k : IntTy) (i : Int) (h : k.inRange i = true) :
    IntTy.i64.inRange i = true ∨ IntTy.u64.inRange i = true := by
  by_cases hc : k = .u64 ∧ i > i64Max
  · exact .inr (hc.1 ▸ h)
  · exact .inl (inRange_i64 k i h hc)

theorem inRange_abs (k : IntTy) (i : Int) (h : k.inRange i = true) : i.natAbs < 2 ^ 64 := by
  have := inRange_64 k i h
  simp only [IntTy.inRange, Bool.and_eq_true, decide_eq_true_eq] at this
  simp only [IntTy.lo, IntTy.hi] at this
  omega

end Edp.Serde

namespace Edp.SerdeInt
open Edp Edp.Serde
open Edp.Spec.Serde (intVal)

/-- `integer_term_as` as a function of the number the term denotes -/
theorem deInt_eq (k : IntTy) (t : Term) : deInt k t = match intVal t with
    | some i => if k.inRange i then .ok (.int k i) else .error .err
    | none => .error .err := by
  cases t with
  | int i => rfl
  | big neg d =>
    simp only [deInt, intVal]
    split
    · rename_i h8
      rw [if_neg]
      intro hr
      have hge := le_magVal_of_sig d 8 (by simpa [maxBigDigits, sigCount] using h8)
      have hab := inRange_abs k _ hr
      cases neg <;> simp at hab <;> omega
    · rw [show magVal (d.take (sigCount d)) = magVal d from magVal_take d _ (Nat.le_refl _)]
  | _ => rfl

theorem deInt_exact (k : IntTy) (t : Term) (v : Val) :
    deInt k t = .ok v ↔ ∃ i, intVal t = some i ∧ k.inRange i = true ∧ v = .int k i := by
  rw [deInt_eq]
  cases intVal t with
  | none => simp
  | some i =>
    by_cases h : k.inRange i = true
    · simp only [h, if_true, Except.ok.injEq, Option.some.injEq, exists_eq_left', true_and]
      exact eq_comm
    · simp [h]

end Edp.SerdeInt

namespace Edp.Serde
open Edp.Spec.Serde (intVal)

theorem intVal_serInt (k : IntTy) (i : Int) (h : k.inRange i = true) : intVal (serInt k i) = some i := by
  unfold serInt
  split
  · rename_i hc
    have := inRange_abs k i h
    simp only [i64Max] at hc
    simp only [intVal, magVal_leN, Nat.mod_eq_of_lt (show i.toNat < 256 ^ 8 by omega), Bool.false_eq_true, if_false,
      Option.some.injEq]
    omega
  · rfl

/-- the wire keeps the number an integer term denotes (either representation holds every 64-bit value) -/
theorem intVal_wireT (t : Term) (i : Int) (hv : intVal t = some i) (hb : i.natAbs < 2 ^ 64) :
    intVal (wireT t) = some i := by
  cases t with
  | int j =>
    obtain rfl : j = i := by simpa [intVal] using hv
    simp only [wireT]
    split
    · rfl
    · simp only [intVal, intDigits, magVal_take_sigLen, magVal_leN,
        Nat.mod_eq_of_lt (show j.natAbs < 256 ^ 8 from hb), Option.some.injEq]
      by_cases hneg : j < 0 <;> simp only [hneg, decide_true, decide_false, if_true, Bool.false_eq_true, if_false] <;> omega
  | big _ _ => exact hv
  | _ => cases hv

theorem deInt_serInt (k : IntTy) (i : Int) (h : k.inRange i = true) : deInt k (serInt k i) = .ok (.int k i) :=
  (SerdeInt.deInt_exact k _ _).mpr ⟨i, intVal_serInt k i h, h, rfl⟩

theorem deInt_wire (k : IntTy) (i : Int) (h : k.inRange i = true) :
    deInt k (wireT (serInt k i)) = .ok (.int k i) :=
  (SerdeInt.deInt_exact k _ _).mpr ⟨i, intVal_wireT _ i (intVal_serInt k i h) (inRange_abs k i h), h, rfl⟩

end Edp.Serde
