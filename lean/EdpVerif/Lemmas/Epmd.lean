import EdpVerif.Impl.Epmd
import EdpVerif.Spec.Epmd
/-! Lemmas about the EPMD client model: the reply reader against the protocol's layout. -/
namespace Edp.Impl.Epmd
open Edp

/-- the protocol's record for a model record -/
def toSpec (i : NodeInfo) : Spec.Epmd.NodeInfo := ⟨i.port, i.type, i.proto, i.hi, i.lo, i.name, i.extra⟩

/-- what the client accepts beyond the layout: a node type and a protocol it knows, a name of at most `maxName` bytes
that is UTF-8, at most `maxExtra` bytes of extra -/
def accepted (i : NodeInfo) : Prop :=
  i.port < 65536 ∧ typeArms.contains i.type = true ∧ protoArms.contains i.proto = true ∧ i.hi < 65536 ∧ i.lo < 65536 ∧
    i.name.length ≤ maxName ∧ validUtf8 i.name = true ∧ i.extra.length ≤ maxExtra

theorem rdB_ok {n : Nat} {s : Stream} {b : Bytes} {s' : Stream} (h : rdB n s = .ok (b, s')) :
    s.data = b ++ s'.data ∧ b.length = n ∧ s'.closed = s.closed := by
  unfold rdB takeN at h
  by_cases hn : n ≤ s.data.length
  · simp [hn] at h
    obtain ⟨h1, h2⟩ := h
    subst h1; subst h2
    simp [List.length_take, Nat.min_eq_left hn]
  · simp [hn] at h

theorem rdU_append (k n : Nat) (r : Bytes) (c : Bool) (h : n < 256 ^ k) :
    rdU k ⟨beN k n ++ r, c⟩ = .ok (n, ⟨r, c⟩) := by
  simp [rdU, rdN_beN k n r h]

theorem rdB_append (a r : Bytes) (c : Bool) : rdB a.length ⟨a ++ r, c⟩ = .ok (a, ⟨r, c⟩) := by
  simp [rdB, takeN_append]

theorem rdN_eq_beN : ∀ (k : Nat) (bs : Bytes) (v : Nat) (r : Bytes), rdN k bs = some (v, r) → bs = beN k v ++ r := by
  intro k
  induction k with
  | zero => intro bs v r h; simp [rdN] at h; simp [beN, h.2]
  | succ k ih =>
    intro bs v r h
    cases bs with
    | nil => simp [rdN] at h
    | cons b bs =>
      simp only [rdN] at h
      cases hr : rdN k bs with
      | none => simp [hr] at h
      | some p =>
        obtain ⟨v', r'⟩ := p
        simp [hr] at h
        obtain ⟨rfl, rfl⟩ := h
        -- `v' < 256 ^ k`: the top byte of `b * 256 ^ k + v'` is `b`, the lower `k` bytes are those of `v'`
        have hlt := rdN_lt k bs v' r' hr
        have hd : (b.toNat * 256 ^ k + v') / 256 ^ k = b.toNat := by
          rw [Nat.mul_comm, Nat.mul_add_div (Nat.pow_pos (by decide)), Nat.div_eq_of_lt hlt]; rfl
        have hm : beN k (b.toNat * 256 ^ k + v') = beN k v' := by
          rw [beN_mod, Nat.mul_comm, Nat.mul_add_mod, Nat.mod_eq_of_lt hlt]
        simp [beN, hd, hm, ← ih bs v' r' hr]

theorem rdU_front {k : Nat} {s : Stream} {v : Nat} {s' : Stream} (h : rdU k s = .ok (v, s')) :
    s.data = beN k v ++ s'.data ∧ v < 256 ^ k ∧ s'.closed = s.closed := by
  unfold rdU at h
  cases hr : rdN k s.data with
  | none => simp [hr] at h
  | some p =>
    simp only [hr, Except.ok.injEq, Prod.mk.injEq] at h
    obtain ⟨rfl, rfl⟩ := h
    exact ⟨rdN_eq_beN k _ _ _ hr, rdN_lt k _ _ _ hr, rfl⟩

theorem rdU_byte (b : UInt8) (r : Bytes) (c : Bool) : rdU 1 ⟨b :: r, c⟩ = .ok (b.toNat, ⟨r, c⟩) := by
  simp [rdU, rdN]

theorem rdU_ofNat (v : Nat) (r : Bytes) (c : Bool) (h : v < 256) : rdU 1 ⟨UInt8.ofNat v :: r, c⟩ = .ok (v, ⟨r, c⟩) := by
  rw [rdU_byte, UInt8.toNat_ofNat_of_lt' h]

theorem beN_one (v : Nat) : beN 1 v = [UInt8.ofNat v] := by simp [beN]

/-! A property of the reply reader's result is proved stage by stage: of the error a read or test can end with, and of
the rest of the chain given what was read (`split` on the unfolded chain is far slower). -/

theorem rdU_cases {β : Type} {P : β → Prop} {k : Nat} {s : Stream} {E : Err → β} {K : Nat → Stream → β}
    (he : ∀ e, P (E e)) (hk : ∀ v s', rdU k s = .ok (v, s') → P (K v s')) :
    P (match rdU k s with | .error e => E e | .ok (v, s') => K v s') := by
  cases h : rdU k s with
  | error e => exact he e
  | ok p => exact hk p.1 p.2 h

theorem rdB_cases {β : Type} {P : β → Prop} {n : Nat} {s : Stream} {E : Err → β} {K : Bytes → Stream → β}
    (he : ∀ e, P (E e)) (hk : ∀ b s', rdB n s = .ok (b, s') → P (K b s')) :
    P (match rdB n s with | .error e => E e | .ok (b, s') => K b s') := by
  cases h : rdB n s with
  | error e => exact he e
  | ok p => exact hk p.1 p.2 h

theorem ite_cases {β : Type} {P : β → Prop} {c : Prop} [Decidable c] {a b : β} (ha : c → P a) (hb : ¬ c → P b) :
    P (if c then a else b) := by
  by_cases h : c
  · rw [if_pos h]; exact ha h
  · rw [if_neg h]; exact hb h

/-- what a run of the reply reader on `s` can come to -/
def Outcome (s : Stream) (r : List Nat × Except Err NodeInfo) : Prop :=
  (∃ e, r = ([], .error e)) ∨ (∃ n e, n ≤ maxName ∧ r = ([n], .error e)) ∨
  (∃ n m e, n ≤ maxName ∧ m ≤ maxExtra ∧ r = ([n, m], .error e)) ∨
  ∃ i rest, s.data = Spec.Epmd.port2Resp (toSpec i) ++ rest ∧ accepted i ∧ r = ([i.name.length, i.extra.length], .ok i)

theorem lookupParse_spec (s : Stream) : Outcome s (lookupParse s) := by
  have e0 : ∀ e, Outcome s ([], .error e) := fun e => .inl ⟨e, rfl⟩
  unfold lookupParse
  refine rdU_cases e0 fun t s1 h1 => ?_
  refine ite_cases (fun _ => e0 _) fun ht => ?_
  refine rdU_cases e0 fun res s2 h2 => ?_
  refine ite_cases (fun _ => e0 _) fun hres => ?_
  refine rdU_cases e0 fun port s3 h3 => ?_
  refine rdU_cases e0 fun ty s4 h4 => ?_
  refine ite_cases (fun _ => e0 _) fun hty => ?_
  refine rdU_cases e0 fun pr s5 h5 => ?_
  refine ite_cases (fun _ => e0 _) fun hpr => ?_
  refine rdU_cases e0 fun hi s6 h6 => ?_
  refine rdU_cases e0 fun lo s7 h7 => ?_
  refine rdU_cases e0 fun nlen s8 h8 => ?_
  refine ite_cases (fun _ => e0 _) fun hnl => ?_
  have e1 : ∀ e, Outcome s ([nlen], .error e) := fun e => .inr (.inl ⟨nlen, e, Nat.not_lt.mp hnl, rfl⟩)
  refine rdB_cases e1 fun name s9 h9 => ?_
  refine ite_cases (fun _ => e1 _) fun hutf => ?_
  refine rdU_cases e1 fun elen s10 h10 => ?_
  refine ite_cases (fun _ => e1 _) fun hel => ?_
  refine rdB_cases (fun e => .inr (.inr (.inl ⟨nlen, elen, e, Nat.not_lt.mp hnl, Nat.not_lt.mp hel, rfl⟩)))
    fun extra s11 h11 => ?_
  obtain ⟨d1, _, _⟩ := rdU_front h1
  obtain ⟨d2, _, _⟩ := rdU_front h2
  obtain ⟨d3, b3, _⟩ := rdU_front h3
  obtain ⟨d4, _, _⟩ := rdU_front h4
  obtain ⟨d5, _, _⟩ := rdU_front h5
  obtain ⟨d6, b6, _⟩ := rdU_front h6
  obtain ⟨d7, b7, _⟩ := rdU_front h7
  obtain ⟨d8, _, _⟩ := rdU_front h8
  obtain ⟨d9, l9, _⟩ := rdB_ok h9
  obtain ⟨d10, _, _⟩ := rdU_front h10
  obtain ⟨d11, l11, _⟩ := rdB_ok h11
  have ht' : t = 119 := Decidable.not_not.mp ht
  have hres' : res = 0 := Decidable.not_not.mp hres
  subst ht' hres'
  refine .inr (.inr (.inr ⟨⟨port, ty, pr, hi, lo, name, extra⟩, s11.data, ?_, ?_, by rw [l9, l11]⟩))
  · rw [d1, d2, d3, d4, d5, d6, d7, d8, d9, d10, d11]
    simp [Spec.Epmd.port2Resp, toSpec, beN_one, be16, l9, l11]
  · exact ⟨by simpa using b3, Decidable.not_not.mp hty, Decidable.not_not.mp hpr, by simpa using b6, by simpa using b7,
      by rw [l9]; exact Nat.not_lt.mp hnl, Decidable.not_not.mp hutf, by rw [l11]; exact Nat.not_lt.mp hel⟩

theorem lookupParse_sound (s : Stream) (i : NodeInfo) (h : (lookupParse s).2 = .ok i) :
    (∃ rest, s.data = Spec.Epmd.port2Resp (toSpec i) ++ rest) ∧ accepted i := by
  rcases lookupParse_spec s with ⟨e, he⟩ | ⟨n, e, _, he⟩ | ⟨n, m, e, _, _, he⟩ | ⟨j, rest, hd, ha, he⟩
  all_goals rw [he] at h
  · cases h
  · cases h
  · cases h
  · cases h; exact ⟨⟨rest, hd⟩, ha⟩

theorem lookupParse_complete (i : NodeInfo) (rest : Bytes) (c : Bool) (h : accepted i) :
    lookupParse ⟨Spec.Epmd.port2Resp (toSpec i) ++ rest, c⟩ = ([i.name.length, i.extra.length], .ok i) := by
  obtain ⟨hp, hty, hpr, hhi, hlo, hn, hu, he⟩ := h
  have hty' : i.type < 256 := (by decide : ∀ x ∈ typeArms, x < 256) _ (by simpa using hty)
  have hpr' : i.proto < 256 := (by decide : ∀ x ∈ protoArms, x < 256) _ (by simpa using hpr)
  have hn' : i.name.length < 65536 := Nat.lt_of_le_of_lt hn (by decide)
  have he' : i.extra.length < 65536 := Nat.lt_of_le_of_lt he (by decide)
  simp only [lookupParse, Spec.Epmd.port2Resp, toSpec, be16, List.cons_append, List.nil_append, List.append_assoc,
    rdU_byte, rdU_ofNat _ _ _ hty', rdU_ofNat _ _ _ hpr', rdU_append 2 _ _ _ hp, rdU_append 2 _ _ _ hhi,
    rdU_append 2 _ _ _ hlo, rdU_append 2 _ _ _ hn', rdU_append 2 _ _ _ he', rdB_append, hty, hpr, hu,
    Nat.not_lt.mpr hn, Nat.not_lt.mpr he]
  rfl

theorem lookupParse_truncated (i : NodeInfo) (n : Nat) (c : Bool) (h : accepted i)
    (hn : n < (Spec.Epmd.port2Resp (toSpec i)).length) (j : NodeInfo) :
    (lookupParse ⟨(Spec.Epmd.port2Resp (toSpec i)).take n, c⟩).2 ≠ .ok j := by
  intro hj
  obtain ⟨⟨rest, hd⟩, hacc⟩ := lookupParse_sound _ _ hj
  simp only at hd
  -- the full reply starts with the same well-formed reply for `j`, so it parses to `j` — but it parses to `i`
  have hfull : Spec.Epmd.port2Resp (toSpec i) = Spec.Epmd.port2Resp (toSpec j) ++ (rest ++ (Spec.Epmd.port2Resp (toSpec i)).drop n) := by
    rw [← List.append_assoc, ← hd, List.take_append_drop]
  have h1 := lookupParse_complete i [] c h
  have h2 := lookupParse_complete j (rest ++ (Spec.Epmd.port2Resp (toSpec i)).drop n) c hacc
  rw [← hfull] at h2
  simp only [List.append_nil] at h1
  rw [h1] at h2
  have hij : i = j := by simpa using congrArg (·.2) h2
  subst hij
  have hl := congrArg List.length hd
  simp only [List.length_take, List.length_append] at hl
  omega

theorem lookupParse_allocs (s : Stream) :
    (lookupParse s).1 = [] ∨ (∃ n, (lookupParse s).1 = [n] ∧ n ≤ maxName) ∨
      (∃ n e, (lookupParse s).1 = [n, e] ∧ n ≤ maxName ∧ e ≤ maxExtra) := by
  rcases lookupParse_spec s with ⟨e, he⟩ | ⟨n, e, hn, he⟩ | ⟨n, m, e, hn, hm, he⟩ | ⟨i, rest, _, ha, he⟩
  all_goals rw [he]
  · exact .inl rfl
  · exact .inr (.inl ⟨n, rfl, hn⟩)
  · exact .inr (.inr ⟨n, m, rfl, hn, hm⟩)
  · obtain ⟨_, _, _, _, _, hname, _, hextra⟩ := ha
    exact .inr (.inr ⟨_, _, rfl, hname, hextra⟩)

theorem lookupParse_no_ok_when_short (s : Stream) (i : NodeInfo) (h : (lookupParse s).2 = .ok i) :
    Spec.Epmd.port2RespMin + i.name.length + i.extra.length ≤ s.data.length := by
  obtain ⟨⟨rest, hd⟩, _⟩ := lookupParse_sound s i h
  rw [hd]
  simp [Spec.Epmd.port2Resp, toSpec, Spec.Epmd.port2RespMin, be16, beN_length]
  omega

theorem registerParse_resp (cr : Nat) (rest : Bytes) (c : Bool) (h : cr < 65536) :
    registerParse ⟨Spec.Epmd.alive2Resp cr ++ rest, c⟩ = .ok cr := by
  simp only [registerParse, Spec.Epmd.alive2Resp, be16, List.cons_append, List.nil_append, rdU_byte, rdU_append 2 _ _ _ h]
  rfl

theorem registerParse_xresp (cr : Nat) (rest : Bytes) (c : Bool) (h : cr < 4294967296) :
    registerParse ⟨Spec.Epmd.alive2XResp cr ++ rest, c⟩ = .ok cr := by
  simp only [registerParse, Spec.Epmd.alive2XResp, be32, List.cons_append, List.nil_append, rdU_byte, rdU_append 4 _ _ _ h]
  rfl

end Edp.Impl.Epmd
