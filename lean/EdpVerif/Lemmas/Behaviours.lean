import EdpVerif.Impl.Behaviours
import EdpVerif.Spec.Behaviours
/-!
Refinement of `Spec/Behaviours.lean` by `Impl/Behaviours.lean`: the dispatch of the code recognises exactly the OTP shapes,
and per message the code sends exactly what the Spec says is owed.
-/
namespace Edp.Impl.Beh
open Edp Edp.Impl.Procs
open Edp.Spec.Beh (callOf fromOf isAtom owed ends handled expected survives geOwed shape geExpected Owed)

def toSpecMsg : Msg → Spec.Beh.Msg
  | .regular f b => .regular f b
  | .control => .control
  | .exit r => .exit r
  | .other => .other

def toSpecAns : GsAns → Spec.Beh.Answer
  | .reply v => .reply v
  | .noReply => .noReply
  | .err => .failed

def reachB (env : Env) (p : PidF) : Bool := decide (env p = .live)

def toSpec (s : GsStep) : Spec.Beh.Step := ⟨toSpecMsg s.msg, toSpecAns s.ans, reachB s.env⟩

def toSpecEv (s : GeStep) : Spec.Beh.EvStep := ⟨toSpecMsg s.msg, reachB s.env⟩

theorem isAtom_iff (t : Term) (n : Bytes) : isAtom t n = true ↔ t = .atom n := by
  cases t <;> simp [isAtom]

theorem gs_call_tag : Gen.GS_CALL_TAG = Spec.Beh.tagGenCall := by decide

theorem isRef_iff (r : Term) : isRef r = true ↔ ∃ n c i l, r = .ref n c i l := by
  cases r <;> simp [isRef]

/-- the dispatch of the code finds a call exactly where the Spec reads one -/
theorem callOf_dispatch (body : Term) :
    callOf body = match gsDispatchB body with
      | .call p r q => some (p, r, q)
      | _ => none := by
  unfold callOf
  split
  · rename_i tag p n c i l req
    cases tag with
    | atom t =>
      by_cases h : t = Gen.GS_CALL_TAG
      · simp [gsDispatchB, isAtom, isRef, h, ← gs_call_tag]
      · simp [gsDispatchB, isAtom, h, ← gs_call_tag]
    | _ => simp [gsDispatchB, isAtom]
  · rename_i h
    split
    · rename_i hd
      unfold gsDispatchB at hd
      split at hd
      · split at hd
        · split at hd
          · split at hd
            · rename_i hr
              obtain ⟨n, c, i, l, rfl⟩ := (isRef_iff _).mp hr
              exact absurd rfl (h _ _ _ _ _ _ _)
            · cases hd
          · cases hd
        · split at hd <;> cases hd
      · cases hd
    · rfl

theorem sendsOf_append (a b : List Out) : sendsOf (a ++ b) = sendsOf a ++ sendsOf b := by
  induction a with
  | nil => rfl
  | cons x t ih => cases x <;> simp [sendsOf, ih]

theorem cbsOf_append (a b : List Out) : cbsOf (a ++ b) = cbsOf a ++ cbsOf b := by
  induction a with
  | nil => rfl
  | cons x t ih => cases x <;> simp [cbsOf, ih]

theorem sendsOf_reply (env : Env) (p : PidF) (b : Term) :
    sendsOf (reply env p b) = if reachB env p then [(p, b)] else [] := by
  unfold reply reachB
  cases h : env p <;> simp [sendsOf]

theorem cbsOf_reply (env : Env) (p : PidF) (b : Term) : cbsOf (reply env p b) = [] := by
  unfold reply
  cases env p <;> rfl

theorem gsHandle_sends (s : GsStep) : sendsOf (gsHandle s).1 = (owed (toSpec s)).toList := by
  obtain ⟨msg, ans, env⟩ := s
  cases msg with
  | regular f body =>
    simp only [gsHandle, toSpec, toSpecMsg, owed, callOf_dispatch]
    cases gsDispatchB body with
    | call p r q =>
      cases ans with
      | reply v =>
        simp only [handleGenCall, toSpecAns, sendsOf, sendsOf_reply]
        by_cases hr : reachB env p = true <;> simp [hr]
      | _ => rfl
    | _ => rfl
  | _ => rfl

theorem gsHandle_ok (s : GsStep) : (gsHandle s).2 = !ends (toSpec s) := by
  obtain ⟨msg, ans, env⟩ := s
  cases msg with
  | control => cases ans <;> rfl
  | exit r => cases ans <;> rfl
  | other => cases ans <;> rfl
  | regular f body =>
    simp only [gsHandle, toSpec, toSpecMsg]
    cases hd : gsDispatchB body with
    | call p r q => cases ans <;> rfl
    | cast q => cases ans <;> rfl
    | info b => cases ans <;> rfl

/-- the loop goes on exactly when the Spec says the message does not end the server -/
theorem gsRun_cons (s : GsStep) (rest : List GsStep) :
    gsRun (s :: rest) = if ends (toSpec s) then ((gsHandle s).1 ++ [.cb (.gsTerminate (atomB Gen.GS_TERMINATE_REASON))], false)
      else ((gsHandle s).1 ++ (gsRun rest).1, (gsRun rest).2) := by
  have h := gsHandle_ok s
  simp only [gsRun]
  cases hh : gsHandle s with
  | mk o ok => cases ok <;> simp_all

theorem gsRun_sends (steps : List GsStep) : sendsOf (gsRun steps).1 = expected (steps.map toSpec) := by
  induction steps with
  | nil => rfl
  | cons s rest ih =>
    simp only [gsRun_cons, List.map_cons, expected, handled]
    split <;> simp only [sendsOf_append, gsHandle_sends, sendsOf, ih, expected, List.filterMap_cons, List.filterMap_nil]
    all_goals cases owed (toSpec s) <;> rfl

theorem gsRun_alive (steps : List GsStep) : (gsRun steps).2 = survives (steps.map toSpec) := by
  induction steps with
  | nil => rfl
  | cons s rest ih =>
    simp only [gsRun_cons, List.map_cons, survives, List.any_cons]
    split <;> simp_all [survives]

/-- the callbacks of one message: exactly one for a `Regular` message (chosen by the shape), `terminate` for an `Exit` -/
theorem gsHandle_cbs (s : GsStep) :
    cbsOf (gsHandle s).1 =
      match s.msg with
      | .regular _ body =>
        (match callOf body with
         | some (p, _, q) => [Cb.gsCall q p]
         | none => match gsDispatchB body with
           | .cast q => [Cb.gsCast q]
           | _ => [Cb.gsInfo body])
      | .exit r => [Cb.gsTerminate r]
      | _ => [] := by
  obtain ⟨msg, ans, env⟩ := s
  cases msg with
  | regular f body =>
    simp only [gsHandle, callOf_dispatch]
    cases hd : gsDispatchB body with
    | call p r q => cases ans <;> simp [handleGenCall, cbsOf, cbsOf_reply]
    | cast q => rfl
    | info b =>
      have : b = body := by
        unfold gsDispatchB at hd
        repeat' split at hd
        all_goals first | (cases hd; rfl) | cases hd
      subst this
      rfl
  | _ => rfl

def eventCbs : List Out → List (Nat × Term)
  | [] => []
  | .cb (.event u e) :: r => (u, e) :: eventCbs r
  | _ :: r => eventCbs r

def callCbs : List Out → List (Nat × Term)
  | [] => []
  | .cb (.call u q) :: r => (u, q) :: callCbs r
  | _ :: r => callCbs r

theorem eventCbs_append (a b : List Out) : eventCbs (a ++ b) = eventCbs a ++ eventCbs b := by
  induction a with
  | nil => rfl
  | cons x t ih =>
    cases x with
    | send p m => simpa [eventCbs] using ih
    | cb c => cases c <;> simp [eventCbs, ih]

/-- one handler's `handle_event`: exactly its callback for the event, and nothing is sent -/
theorem notifyOne_out (ω : Oracle) (e : Entry) (ev : Term) :
    sendsOf (notifyOne ω e ev).2.1 = [] ∧ eventCbs (notifyOne ω e ev).2.1 = [(e.uid, ev)] := by
  unfold notifyOne
  simp only
  split
  · exact ⟨rfl, rfl⟩
  · exact ⟨rfl, rfl⟩
  · exact ⟨rfl, rfl⟩
  · split <;> exact ⟨rfl, rfl⟩

/-- `call_handler`: exactly one `handle_call`, of the handler stored under the key, and nothing is sent -/
theorem callHandler_out (ω : Oracle) (st : GeSt) (key req : Term) :
    sendsOf (callHandler ω st key req).2.1 = [] ∧
    callCbs (callHandler ω st key req).2.1 =
      match findKey key st.hs with
      | some e => [(e.uid, req)]
      | none => [] := by
  unfold callHandler
  cases hf : findKey key st.hs with
  | none => exact ⟨rfl, rfl⟩
  | some e =>
    simp only
    split
    · exact ⟨rfl, rfl⟩
    · exact ⟨rfl, rfl⟩
    · exact ⟨rfl, rfl⟩
    · split <;> exact ⟨rfl, rfl⟩

theorem sendsOf_notifyPass (ω : Oracle) (ev : Term) (hs : List Entry) : sendsOf (notifyPass ω ev hs).2 = [] := by
  induction hs with
  | nil => rfl
  | cons e r ih => simp only [notifyPass, sendsOf_append, ih, (notifyOne_out ω e ev).1, List.append_nil]

theorem sendsOf_sweep (l : List (Entry × Bool)) : sendsOf (sweep l).2 = [] := by
  induction l with
  | nil => rfl
  | cons x r ih =>
    obtain ⟨e, b⟩ := x
    cases b <;> simp [sweep, sendsOf, ih]

theorem sendsOf_notify (ω : Oracle) (st : GeSt) (ev : Term) : sendsOf (notify ω st ev).2 = [] := by
  simp [notify, sendsOf_append, sendsOf_notifyPass, sendsOf_sweep]

theorem sendsOf_infoAll (b : Term) (hs : List Entry) : sendsOf (infoAll b hs).2 = [] := by
  induction hs with
  | nil => rfl
  | cons e r ih => simp [infoAll, sendsOf, ih]

theorem sendsOf_terminateAll (reason : Term) (hs : List Entry) : sendsOf (terminateAll reason hs) = [] := by
  induction hs with
  | nil => rfl
  | cons e r ih => simpa [terminateAll, sendsOf] using ih

theorem fromOf_eq (f : Term) :
    fromOf f = match f with
      | .tuple [.pid p, r] => if isRef r then some (p, r) else none
      | _ => none := by
  unfold fromOf
  split
  · simp [isRef]
  · rename_i h
    split
    · rename_i p r
      cases r <;> simp [isRef]
      exact absurd rfl (h _ _ _ _ _)
    · rfl

theorem from_match {α : Type} (b : Term) (k : PidF → Term → α) (d : α) :
    (match b with
      | .tuple [.pid fp, r] => if isRef r then k fp r else d
      | _ => d) =
    match fromOf b with
      | some (p, r) => k p r
      | none => d := by
  rw [fromOf_eq]
  split
  · split <;> simp_all
  · rfl

theorem shape_reply_tuple (env : Env) (p : PidF) (r v : Term) :
    (sendsOf (reply env p (.tuple [r, v]))).map shape = if reachB env p then [Owed.tagged p r] else [] := by
  rw [sendsOf_reply]
  by_cases h : reachB env p = true <;> simp [h, shape]

theorem shape_reply_ok (env : Env) (p : PidF) :
    (sendsOf (reply env p (atomB Gen.GE_ACK_ATOM))).map shape = if reachB env p then [Owed.ack p] else [] := by
  rw [sendsOf_reply]
  by_cases h : reachB env p = true <;> simp [h, shape, atomB, Gen.GE_ACK_ATOM, Spec.Beh.atomOk]

theorem ge_tags : Gen.GE_CALL_TAG = Spec.Beh.tagGenCall ∧ Gen.GE_WHICH_TAG = Spec.Beh.tagWhich ∧
    Gen.GE_SYNC_NOTIFY_TAG = Spec.Beh.tagSyncNotify ∧ Gen.GE_NOTIFY_TAG ≠ Gen.GE_WHICH_TAG ∧
    Gen.GE_NOTIFY_TAG ≠ Gen.GE_SYNC_NOTIFY_TAG ∧ Gen.GE_SYNC_NOTIFY_TAG ≠ Gen.GE_WHICH_TAG := by decide

theorem geHandle_sends_dispatch (ω : Oracle) (st : GeSt) (env : Env) (frm : Option PidF) (body : Term) :
    sendsOf (geHandle ω st ⟨.regular frm body, env⟩).2 =
      match geDispatchB body, frm with
      | .syncNotify _, some p => sendsOf (reply env p (atomB Gen.GE_ACK_ATOM))
      | .call p r hid req, _ => sendsOf (reply env p (.tuple [r, (callHandler ω st hid req).2.2.getD (atomB Gen.GE_CALL_ERROR_ATOM)]))
      | .which p r, _ => sendsOf (reply env p (.tuple [r, .list (whichHandlers st)]))
      | _, _ => [] := by
  simp only [geHandle]
  cases geDispatchB body with
  | syncNotify ev => cases frm <;> simp [sendsOf_append, sendsOf_notify]
  | _ => simp [sendsOf_append, sendsOf_notify, (callHandler_out _ _ _ _).1, sendsOf_infoAll]

theorem geDispatchB_call (b c d : Term) : geDispatchB (.tuple [.atom Gen.GE_CALL_TAG, b, c, d]) =
    match fromOf b with
    | some (p, r) => .call p r c d
    | none => .info (.tuple [.atom Gen.GE_CALL_TAG, b, c, d]) := by
  rw [← from_match]
  simp [geDispatchB]
  split <;> simp_all

theorem geDispatchB_which (b : Term) : geDispatchB (.tuple [.atom Gen.GE_WHICH_TAG, b]) =
    match fromOf b with
    | some (p, r) => .which p r
    | none => .info (.tuple [.atom Gen.GE_WHICH_TAG, b]) := by
  rw [← from_match]
  simp [geDispatchB, ge_tags.2.2.2.1.symm, ge_tags.2.2.2.2.2.symm]
  split <;> simp_all

/-- the dispatch of the code recognises exactly the shapes the Spec reads -/
theorem geOwed_dispatch (frm : Option PidF) (body : Term) (reach : PidF → Bool) :
    geOwed ⟨.regular frm body, reach⟩ =
      match geDispatchB body, frm with
      | .syncNotify _, some p => if reach p then some (.ack p) else none
      | .call p r _ _, _ => if reach p then some (.tagged p r) else none
      | .which p r, _ => if reach p then some (.tagged p r) else none
      | _, _ => none := by
  obtain ⟨t1, t2, t3, n1, n2, n3⟩ := ge_tags
  simp only [geOwed, ← t1, ← t2, ← t3]
  split
  · rename_i tag f a b
    cases tag with
    | atom t =>
      by_cases h : t = Gen.GE_CALL_TAG
      · subst h
        rw [geDispatchB_call]
        cases fromOf f <;> simp [isAtom]
      · simp [isAtom, geDispatchB, h]
    | _ => simp [isAtom, geDispatchB]
  · rename_i tag x
    cases tag with
    | atom t =>
      by_cases h1 : t = Gen.GE_NOTIFY_TAG
      · simp [isAtom, geDispatchB, h1, n1, n2]
      · by_cases h2 : t = Gen.GE_SYNC_NOTIFY_TAG
        · subst h2; cases frm <;> simp [isAtom, geDispatchB, h1, n3]
        · by_cases h3 : t = Gen.GE_WHICH_TAG
          · subst h3
            rw [geDispatchB_which]
            cases fromOf x <;> simp [isAtom]
          · simp [isAtom, geDispatchB, h1, h2, h3]
    | _ => simp [isAtom, geDispatchB]
  · rename_i h4 h2
    have : geDispatchB body = .info body := by
      unfold geDispatchB
      split
      · rename_i tag e1 rest
        match rest with
        | [] => exact absurd rfl (h2 _ _)
        | [a, b] => exact absurd rfl (h4 _ _ _ _)
        | [a] | a :: b :: c :: d => simp
      · rfl
    simp [this]

theorem geHandle_sends (ω : Oracle) (st : GeSt) (s : GeStep) :
    (sendsOf (geHandle ω st s).2).map shape = (geOwed (toSpecEv s)).toList := by
  obtain ⟨msg, env⟩ := s
  cases msg with
  | regular frm body =>
    simp only [toSpecEv, toSpecMsg]
    rw [geHandle_sends_dispatch, geOwed_dispatch]
    cases geDispatchB body with
    | syncNotify ev =>
      cases frm with
      | none => rfl
      | some p => simp only [shape_reply_ok]; split <;> rfl
    | call p r hid req => simp only [shape_reply_tuple]; split <;> rfl
    | which p r => simp only [shape_reply_tuple]; split <;> rfl
    | _ => rfl
  | control => rfl
  | exit r => simp [geHandle, sendsOf_terminateAll, toSpecEv, toSpecMsg, geOwed]
  | other => rfl

theorem geRun_sends (ω : Oracle) : ∀ (steps : List GeStep) (st : GeSt),
    (sendsOf (geRun ω st steps).2).map shape = geExpected (steps.map toSpecEv) := by
  intro steps
  induction steps with
  | nil => intro st; rfl
  | cons s rest ih =>
    intro st
    simp only [geRun, sendsOf_append, List.map_append, List.map_cons, geExpected, List.filterMap_cons]
    rw [geHandle_sends, ih]
    cases geOwed (toSpecEv s) <;> rfl

theorem eventCbs_notifyPass (ω : Oracle) (ev : Term) (hs : List Entry) :
    eventCbs (notifyPass ω ev hs).2 = hs.map fun e => (e.uid, ev) := by
  induction hs with
  | nil => rfl
  | cons e r ih => simp [notifyPass, eventCbs_append, (notifyOne_out _ _ _).2, ih]

theorem eventCbs_sweep (l : List (Entry × Bool)) : eventCbs (sweep l).2 = [] := by
  induction l with
  | nil => rfl
  | cons x r ih =>
    obtain ⟨e, b⟩ := x
    cases b <;> simp [sweep, eventCbs, ih]

theorem eventCbs_notify (ω : Oracle) (st : GeSt) (ev : Term) :
    eventCbs (notify ω st ev).2 = st.hs.map fun e => (e.uid, ev) := by
  simp [notify, eventCbs_append, eventCbs_notifyPass, eventCbs_sweep]

end Edp.Impl.Beh
