import EdpVerif.Lemmas.ErlAgree
/-!
Bit-strings (C12): for bit-strings as the decoder produces them (unused low bits of the last byte zero), the code's
"bytes, then number of bits in the last byte" is Erlang's bit-wise order.
-/
open Edp Edp.Term
namespace Edp

/-- the `k` low bits of `v`, most significant first -/
def bitsN : Nat → Nat → List Bool
  | 0, _ => []
  | k + 1, v => (v / 2 ^ k % 2 == 1) :: bitsN k v

theorem bitsN_length : ∀ k v, (bitsN k v).length = k
  | 0, _ => rfl
  | k + 1, v => by simp [bitsN, bitsN_length k v]

theorem bitsOfByte_eq (b : UInt8) : Erl.bitsOfByte b = bitsN 8 b.toNat := rfl

theorem bitsN_mod : ∀ k v, bitsN k v = bitsN k (v % 2 ^ k)
  | 0, _ => rfl
  | k + 1, v => by
    have h1 : v % 2 ^ (k + 1) / 2 ^ k % 2 = v / 2 ^ k % 2 := by
      rw [Nat.pow_succ, Nat.mod_mul_right_div_self]; simp
    have h2 : v % 2 ^ (k + 1) % 2 ^ k = v % 2 ^ k := Nat.mod_mod_of_dvd _ ⟨2, by rw [Nat.pow_succ]⟩
    simp only [bitsN, h1]
    rw [bitsN_mod k v, bitsN_mod k (v % 2 ^ (k + 1)), h2]

theorem boolsCmp_eq : ∀ (a b : List Bool), Erl.boolsCmp a b = lexCmp (a.map Bool.toNat) (b.map Bool.toNat)
  | [], [] => rfl
  | [], _ :: _ => rfl
  | _ :: _, [] => rfl
  | x :: xs, y :: ys => by simp only [Erl.boolsCmp, List.map_cons, lexCmp, thenO, erl_thenO, boolsCmp_eq xs ys]

theorem boolsCmp_append (a b c d : List Bool) (h : a.length = b.length) :
    Erl.boolsCmp (a ++ c) (b ++ d) = (Erl.boolsCmp a b).then (Erl.boolsCmp c d) := by
  simp only [boolsCmp_eq, List.map_append]
  exact lexCmp_append _ _ _ _ (by simpa using h)

theorem boolsCmp_swap (a b : List Bool) : Erl.boolsCmp a b = (Erl.boolsCmp b a).swap := by
  simp only [boolsCmp_eq]
  exact lexCmp_rev _ _

theorem cmp_bitsN : ∀ k v w, v < 2 ^ k → w < 2 ^ k → Erl.boolsCmp (bitsN k v) (bitsN k w) = compare v w
  | 0, v, w, hv, hw => by
    have : v = 0 := by simpa using hv
    have : w = 0 := by simpa using hw
    subst_vars; simp [bitsN, Erl.boolsCmp]
  | k + 1, v, w, hv, hw => by
    have hp : 0 < 2 ^ k := Nat.two_pow_pos k
    have ih := cmp_bitsN k (v % 2 ^ k) (w % 2 ^ k) (Nat.mod_lt _ hp) (Nat.mod_lt _ hp)
    have bit : ∀ q, q < 2 → (q % 2 == 1).toNat = q := fun q h => by
      rcases (by omega : q = 0 ∨ q = 1) with rfl | rfl <;> rfl
    have lv : v / 2 ^ k < 2 := by rw [Nat.div_lt_iff_lt_mul hp, Nat.mul_comm, ← Nat.pow_succ]; exact hv
    have lw : w / 2 ^ k < 2 := by rw [Nat.div_lt_iff_lt_mul hp, Nat.mul_comm, ← Nat.pow_succ]; exact hw
    simp only [bitsN, Erl.boolsCmp, erl_thenO]
    rw [bitsN_mod k v, bitsN_mod k w, ih, bit _ lv, bit _ lw,
      ← compare_base (2 ^ k) _ _ _ _ (Nat.mod_lt v hp) (Nat.mod_lt w hp), Nat.div_add_mod', Nat.div_add_mod']

theorem bitsN_split : ∀ n j v, bitsN (n + j) v = bitsN n (v / 2 ^ j) ++ bitsN j v
  | 0, j, v => by simp [bitsN]
  | n + 1, j, v => by
    have e : n + 1 + j = (n + j) + 1 := by omega
    rw [e]
    simp only [bitsN, List.cons_append]
    rw [bitsN_split n j v, Nat.div_div_eq_div_mul, ← Nat.pow_add, Nat.add_comm j n]

theorem take_bitsN (n j v : Nat) : (bitsN (n + j) v).take n = bitsN n (v / 2 ^ j) := by
  rw [bitsN_split, List.take_left' (bitsN_length n _)]

theorem boolsCmp_nil_left (z : List Bool) : Erl.boolsCmp [] z = if z = [] then .eq else .lt := by
  cases z <;> simp [Erl.boolsCmp]

/-- an `n`-bit string against a longer one: the first `n` bits decide, then the shorter is smaller -/
theorem bits_vs_longer (n j a' b' : Nat) (rest : List Bool) (ha : a' < 2 ^ n) (hb : b' < 2 ^ (n + j)) :
    Erl.boolsCmp (bitsN n a') (bitsN (n + j) b' ++ rest) =
      (compare (a' * 2 ^ j) b').then (if j = 0 ∧ rest = [] then .eq else .lt) := by
  have hQ : 0 < 2 ^ j := Nat.two_pow_pos j
  have hb1 : b' / 2 ^ j < 2 ^ n := by
    rw [Nat.div_lt_iff_lt_mul hQ, ← Nat.pow_add]; exact hb
  have hX := boolsCmp_append (bitsN n a') (bitsN n (b' / 2 ^ j)) [] (bitsN j b' ++ rest)
    (by rw [bitsN_length, bitsN_length])
  rw [List.append_nil] at hX
  have hc := compare_base (2 ^ j) a' 0 (b' / 2 ^ j) (b' % 2 ^ j) hQ (Nat.mod_lt b' hQ)
  rw [Nat.div_add_mod', Nat.add_zero] at hc
  rw [bitsN_split, List.append_assoc, hX, cmp_bitsN n _ _ ha hb1, boolsCmp_nil_left, hc, Ordering.then_assoc]
  congr 1
  cases j with
  | zero => cases rest <;> simp [bitsN, Nat.mod_one]
  | succ j =>
    simp only [bitsN, List.cons_append, reduceCtorEq, if_false, Nat.succ_ne_zero, false_and]
    cases h : compare 0 (b' % 2 ^ (j + 1))
    · rfl
    · rfl
    · exact absurd (Nat.compare_eq_gt.mp h) (Nat.not_lt_zero _)

/-- a bit-string as the decoder produces it: `bits` in 1..8, the unused low bits of the last byte zero; no bytes: `bits = 8` -/
def bitsOk (b : Bytes) (n : Nat) : Bool :=
  match b.getLast? with
  | none => n == 8
  | some l => decide (1 ≤ n) && decide (n ≤ 8) && l.toNat % 2 ^ (8 - n) == 0

/-- two last bytes with `n` and `m` used bits, as numbers scaled to `s` bits -/
theorem last_last (n m s a' b' : Nat) (hn : n ≤ s) (hm : m ≤ s) (ha : a' < 2 ^ n) (hb : b' < 2 ^ m) :
    Erl.boolsCmp (bitsN n a') (bitsN m b') =
      (compare (a' * 2 ^ (s - n)) (b' * 2 ^ (s - m))).then (compare n m) := by
  -- `n ≤ m`; the other case is this one swapped
  have le : ∀ n j a' b', n + j ≤ s → a' < 2 ^ n → b' < 2 ^ (n + j) → Erl.boolsCmp (bitsN n a') (bitsN (n + j) b') =
      (compare (a' * 2 ^ (s - n)) (b' * 2 ^ (s - (n + j)))).then (compare n (n + j)) := by
    intro n j a' b' hs ha hb
    have := bits_vs_longer n j a' b' [] ha hb
    rw [List.append_nil] at this
    rw [this, show s - n = j + (s - (n + j)) by omega, Nat.pow_add, ← Nat.mul_assoc,
      nat_compare_mul _ _ _ (Nat.two_pow_pos _)]
    congr 1
    cases j with
    | zero => simp
    | succ j => simp only [Nat.succ_ne_zero, false_and, if_false]; exact (Nat.compare_eq_lt.mpr (by omega)).symm
  rcases Nat.le_total n m with h | h
  · obtain ⟨j, rfl⟩ := Nat.exists_eq_add_of_le h
    exact le n j a' b' hm ha hb
  · obtain ⟨j, rfl⟩ := Nat.exists_eq_add_of_le h
    rw [boolsCmp_swap, le m j b' a' hn hb ha, Ordering.swap_then, ← compare_nat_rev, ← compare_nat_rev]

theorem byte_split (a n : Nat) (ha : a < 256) (hn : n ≤ 8) (hz : a % 2 ^ (8 - n) = 0) :
    a / 2 ^ (8 - n) < 2 ^ n ∧ a / 2 ^ (8 - n) * 2 ^ (8 - n) = a := by
  have hp : 0 < 2 ^ (8 - n) := Nat.two_pow_pos _
  constructor
  · rw [Nat.div_lt_iff_lt_mul hp, ← Nat.pow_add, show n + (8 - n) = 8 by omega]; exact ha
  · exact Nat.div_mul_cancel (Nat.dvd_of_mod_eq_zero hz)

theorem bitsOk_cons2 (a c : UInt8) (r : Bytes) (n : Nat) : bitsOk (a :: c :: r) n = bitsOk (c :: r) n := by
  simp [bitsOk, List.getLast?_cons_cons]

theorem bitsOk_single (a : UInt8) (n : Nat) (h : bitsOk [a] n) : 1 ≤ n ∧ n ≤ 8 ∧ a.toNat % 2 ^ (8 - n) = 0 := by
  simpa [bitsOk, and_assoc] using h

theorem bitsOf_single (a : UInt8) (n : Nat) (hn : n ≤ 8) :
    Erl.bitsOf [a] n = bitsN n (a.toNat / 2 ^ (8 - n)) := by
  simp only [Erl.bitsOf, bitsOfByte_eq]
  have := take_bitsN n (8 - n) a.toNat
  rwa [show n + (8 - n) = 8 by omega] at this

theorem bitsOf_ne_nil : ∀ (y : Bytes) (m : Nat), y ≠ [] → bitsOk y m → Erl.bitsOf y m ≠ []
  | [], _, h, _ => absurd rfl h
  | [b], m, _, h => by
    obtain ⟨h1, h2, _⟩ := bitsOk_single b m h
    rw [bitsOf_single b m h2]
    intro h0; have := bitsN_length m (b.toNat / 2 ^ (8 - m)); rw [h0] at this; simp at this; omega
  | b :: c :: r, m, _, _ => by simp [Erl.bitsOf, bitsOfByte_eq, bitsN]

theorem last_vs_more (a b : UInt8) (n : Nat) (rest : List Bool) (hr : rest ≠ []) (h : bitsOk [a] n) :
    Erl.boolsCmp (Erl.bitsOf [a] n) (bitsN 8 b.toNat ++ rest) = (compare a.toNat b.toNat).then .lt := by
  obtain ⟨h1, h2, h3⟩ := bitsOk_single a n h
  obtain ⟨s1, s2⟩ := byte_split a.toNat n a.toNat_lt h2 h3
  have := bits_vs_longer n (8 - n) _ b.toNat rest s1 (by rw [show n + (8 - n) = 8 by omega]; exact b.toNat_lt)
  rw [show n + (8 - n) = 8 by omega, s2, if_neg (fun h => hr h.2)] at this
  rw [bitsOf_single a n h2, this]

theorem bitsOf_cons2 (a c : UInt8) (r : Bytes) (n : Nat) :
    Erl.bitsOf (a :: c :: r) n = bitsN 8 a.toNat ++ Erl.bitsOf (c :: r) n := rfl

theorem bytesCmp_cons (a b : UInt8) (x y : Bytes) :
    bytesCmp (a :: x) (b :: y) = (compare a.toNat b.toNat).then (bytesCmp x y) := rfl

/-- bytes-then-bits is the bit-wise order, for bit-strings whose unused bits are zero -/
theorem bits_core : ∀ (x y : Bytes) (n m : Nat), bitsOk x n → bitsOk y m →
    (bytesCmp x y).then (compare n m) = Erl.boolsCmp (Erl.bitsOf x n) (Erl.bitsOf y m)
  | [], [], n, m, hx, hy => by
    have h1 : n = 8 := by simpa [bitsOk] using hx
    have h2 : m = 8 := by simpa [bitsOk] using hy
    subst h1 h2; rfl
  | [], b :: ry, n, m, _, hy => by
    have hne := bitsOf_ne_nil (b :: ry) m (by simp) hy
    rw [show Erl.bitsOf [] n = [] from rfl, boolsCmp_nil_left, if_neg hne]; rfl
  | a :: rx, [], n, m, hx, _ => by
    have hne := bitsOf_ne_nil (a :: rx) n (by simp) hx
    rw [show Erl.bitsOf [] m = [] from rfl, boolsCmp_swap, boolsCmp_nil_left, if_neg hne]; rfl
  | [a], [b], n, m, hx, hy => by
    obtain ⟨a1, a2, a3⟩ := bitsOk_single a n hx
    obtain ⟨b1, b2, b3⟩ := bitsOk_single b m hy
    obtain ⟨sa1, sa2⟩ := byte_split a.toNat n a.toNat_lt a2 a3
    obtain ⟨sb1, sb2⟩ := byte_split b.toNat m b.toNat_lt b2 b3
    rw [bitsOf_single a n a2, bitsOf_single b m b2, last_last n m 8 _ _ a2 b2 sa1 sb1, sa2, sb2]
    simp [bytesCmp, lexCmp]
  | [a], b :: d :: ry, n, m, hx, hy => by
    have hne := bitsOf_ne_nil (d :: ry) m (by simp) (by rwa [bitsOk_cons2] at hy)
    rw [bitsOf_cons2 b, last_vs_more a b n _ hne hx]
    simp [bytesCmp, lexCmp, Ordering.then_assoc]
  | a :: c :: rx, [b], n, m, hx, hy => by
    have hne := bitsOf_ne_nil (c :: rx) n (by simp) (by rwa [bitsOk_cons2] at hx)
    rw [bitsOf_cons2 a, boolsCmp_swap, last_vs_more b a m _ hne hy]
    simp only [bytesCmp_cons, Ordering.swap_then, ← compare_nat_rev]
    simp [bytesCmp, lexCmp, Ordering.then_assoc]
  | a :: c :: rx, b :: d :: ry, n, m, hx, hy => by
    have ih := bits_core (c :: rx) (d :: ry) n m (by rwa [bitsOk_cons2] at hx) (by rwa [bitsOk_cons2] at hy)
    rw [bitsOf_cons2 a, bitsOf_cons2 b, boolsCmp_append _ _ _ _ (by rw [bitsN_length, bitsN_length]),
      cmp_bitsN 8 _ _ a.toNat_lt b.toNat_lt, ← ih, bytesCmp_cons, Ordering.then_assoc]

theorem maskLast_ok : ∀ (b : Bytes) (n : Nat), bitsOk b n → Value.maskLast b n = b
  | [], _, _ => rfl
  | [a], n, h => by
    obtain ⟨_, h2, h3⟩ := bitsOk_single a n h
    obtain ⟨_, s2⟩ := byte_split a.toNat n a.toNat_lt h2 h3
    simp only [Value.maskLast, s2]
    simp
  | a :: c :: r, n, h => by
    simp only [Value.maskLast]
    rw [maskLast_ok (c :: r) n (by rwa [bitsOk_cons2] at h)]

theorem mkBits_ok (b : Bytes) (n : Nat) (h : bitsOk b n) : Value.mkBits b n = .bitstr b n := by
  unfold Value.mkBits
  cases b with
  | nil => have : n = 8 := by simpa [bitsOk] using h
           subst this; rfl
  | cons a r => simp [maskLast_ok _ _ h]

theorem bitsOk_bytes (b : Bytes) : bitsOk b 8 := by
  unfold bitsOk; cases b.getLast? <;> simp [Nat.mod_one]

/-- binaries, strings and bit-strings: the code's order is Erlang's order of the denoted bit-strings -/
theorem bits_agree (e : Bool) (x y : Bytes) (n m : Nat) (hx : bitsOk x n) (hy : bitsOk y m) :
    thenO (bytesCmp x y) (compare n m) = Erl.cmpX e (Value.mkBits x n) (Value.mkBits y m) := by
  rw [mkBits_ok x n hx, mkBits_ok y m hy]
  simp only [Erl.cmpX, Erl.rank, ne_eq, not_true_eq_false, if_false]
  exact bits_core x y n m hx hy

end Edp
