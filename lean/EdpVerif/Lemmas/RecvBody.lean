import EdpVerif.Lemmas.Recv
/-!
C06, header mode: what a frame does to the connection when its DISTRIBUTION HEADER is accepted and its BODY is not.

`decode_with_atom_cache` parses the header into the connection's cache in place and only then reads the terms; an error
in the terms does not take the header's entries back. The peer cannot know that the body was refused: it has announced
the entries and refers to them as existing entries from then on. So "a malformed frame yields an error for that frame
only; every later frame is still delivered intact" NEEDS the header of a refused frame to be applied. This file proves
that it is, for every history of a conforming sender in which any number of messages arrive with arbitrary bytes in
place of their terms (`Item.bad`); the history in which every message arrives as meant (`outs_cached`) is the special case.
-/
namespace Edp.Recv
open Edp Edp.Spec.Peer Edp.Spec.DistHeader Edp.DistHeader Edp.Props.C14

variable (x : Ext) (tbl : Control.Table)

/-- the bytes that stand in the place of the terms cannot be read as control term [+ payload term] under ANY position
table: truncated terms, an unknown tag, a payload nested too deep, bytes left over, nothing at all -/
def BodyRefused (x : Ext) (body : Bytes) : Prop :=
  ∀ (c : PosTable) (fuel : Nat), ∃ e, e ≠ DErr.panic ∧ termsOf x c fuel body = .error e

theorem bodyRefused_nil (x : Ext) : BodyRefused x [] := by
  intro c fuel
  refine ⟨.err, by simp, ?_⟩
  cases fuel <;> simp [termsOf, dec]

/-- what reaches the receiver for one message of the sender: the message as meant, or its header followed by arbitrary
bytes (`bad`: the sender's `long`/`es`, then `body`) -/
inductive Item where
  | good (h : CSent) (fr : Framing)
  | bad (long : Bool) (es : List Entry) (body : Bytes) (fr : Framing)

/-- the message as C14 sees it (its header and the bytes that follow) -/
def Item.c14 : Item → Props.C14.Msg
  | .good h _ => h.c14
  | .bad long es body _ => (long, es, body)

def Item.framing : Item → Framing
  | .good _ fr => fr
  | .bad _ _ _ fr => fr

/-- the frame on the wire: whole (`131, 68, header, …`) or as the only fragment of a sequence (`131, 69, seq, 1, header, …`) -/
def Item.frame : Item → Bytes
  | .good h fr => h.framed fr
  | .bad long es body .whole => withHeader (sendHeader long es) { ctl := body, pay := none }
  | .bad long es body (.single seq) => fragFirst seq 1 (sendHeader long es) body

/-- the sequence ids the single-fragment items use are 64-bit and the assembler holds nothing for them -/
def ItemsFree (a : Frag.Assembler) (items : List Item) : Prop :=
  ∀ it ∈ items, ∀ seq, it.framing = .single seq → seq < 2 ^ 64 ∧ Frag.lookup seq a.pending = none

/-- what the calls return, item by item: a message as meant is delivered as meant; a frame with a refused body costs
exactly ONE result, and that is an error whenever the body cannot be read under any table -/
def Matches (x : Ext) : List Item → List Res → Prop
  | [], [] => True
  | .good h _ :: its, r :: rs => r = h.m.expected ∧ Matches x its rs
  | .bad _ _ body _ :: its, r :: rs => (BodyRefused x body → r = .err) ∧ Matches x its rs
  | _, _ => False

theorem Item.frame_eq (it : Item) : it.frame = wireOf (sendHeader it.c14.1 it.c14.2.1) it.c14.2.2 it.framing := by
  rcases it with ⟨h, fr⟩ | ⟨long, es, body, _ | seq⟩
  · exact h.framed_eq fr
  · simp [Item.frame, Item.c14, Item.framing, wireOf, withHeader, Wire.terms]
  · rfl

/-- what the call that ends with the frame of an item has to return -/
def Item.Returns (x : Ext) : Item → Res → Prop
  | .good h _, r => r = h.m.expected
  | .bad _ _ body _, r => BodyRefused x body → r = .err

/-- the frame of an item whose header the parser resolves to the sender's atoms: the header is applied to the cache —
whatever follows it — and exactly one result is returned, the one the item asks for -/
theorem recv_item (now : Nat) (s : St) (it : Item)
    (h1 : (parseHeader s.cache (sendHeader it.c14.1 it.c14.2.1 ++ it.c14.2.2)).2 = .ok it.c14.2.2)
    (h2 : Holds (parseHeader s.cache (sendHeader it.c14.1 it.c14.2.1 ++ it.c14.2.2)).1.atoms it.c14.2.1)
    (ht : ∀ h fr, it = .good h fr → h.TermsConform x tbl)
    (hfree : ∀ seq, it.framing = .single seq → seq < 2 ^ 64 ∧ Frag.lookup seq s.asm.pending = none) :
    ∃ r, recv x tbl now s it.frame =
        ({ cache := (parseHeader s.cache (sendHeader it.c14.1 it.c14.2.1 ++ it.c14.2.2)).1, asm := (expire now s).asm }, some r) ∧
      it.Returns x r := by
  cases it with
  | good h fr => exact ⟨_, recv_cached x tbl now s h fr h1 h2 (ht h fr rfl) hfree, rfl⟩
  | bad long es body fr =>
    obtain ⟨fuel, _, hr⟩ := recv_wireOf x tbl now s long es body fr h1 hfree
    refine ⟨_, by rw [Item.frame_eq]; exact hr, fun hb => ?_⟩
    obtain ⟨e, he, hee⟩ := hb (parseHeader s.cache (sendHeader long es ++ body)).1.atoms fuel
    rw [hee]
    cases e with
    | panic => exact absurd rfl he
    | _ => rfl

/-- histories with refused bodies: a conforming sender's messages, each whole or as a single fragment, ticks anywhere, any
clock readings, any number of them arriving with arbitrary bytes in place of their terms: every message that arrives as
meant is delivered as meant, every other one costs exactly one result, and the connection's cache agrees with the
sender's after every frame — the refused ones included -/
theorem outs_items (tfs : List TFrame) :
    ∀ (items : List Item) (s : St) (sndr : Slots),
    SlotsAgree s.cache sndr → ConformingSeq sndr (items.map Item.c14) →
    (∀ h fr, Item.good h fr ∈ items → h.TermsConform x tbl) →
    ItemsFree s.asm items → WithTicks (bodies tfs) (items.map Item.frame) →
    Matches x items ((outs x tbl s tfs).filterMap id) ∧
      SlotsAgree (after x tbl s tfs).cache (slotsAfter sndr (items.map Item.c14)) := by
  induction tfs with
  | nil =>
    intro items s sndr ha _ _ _ hw
    have : items = [] := by simpa [WithTicks, bodies] using hw.symm
    subst this
    exact ⟨trivial, ha⟩
  | cons tf rest ih =>
    intro items s sndr ha hc ht hfree hw
    obtain ⟨t, f⟩ := tf
    have hfree' : ∀ its', (∀ p ∈ its', p ∈ items) → ItemsFree (expire t s).asm its' := by
      intro its' hsub p hp seq hseq
      obtain ⟨h1, h2⟩ := hfree p (hsub p hp) seq hseq
      exact ⟨h1, lookup_expire_none t s seq h2⟩
    rcases withTicks_cons hw with ⟨rfl, hw'⟩ | ⟨_, fr, hfr, hw'⟩
    · simp only [outs, after, recv_tick]
      rw [List.filterMap_cons]
      exact ih items (expire t s) sndr ha hc ht (hfree' items (fun _ h => h)) hw'
    · cases items with
      | nil => simp at hfr
      | cons it its =>
        simp only [List.map_cons, List.cons.injEq] at hfr
        obtain ⟨rfl, rfl⟩ := hfr
        obtain ⟨h1, h2, _⟩ := C14_history _ s.cache sndr ha hc
        obtain ⟨hn, hconf, hv, hrest⟩ := hc
        obtain ⟨r, hr, hrr⟩ := recv_item x tbl t s it h1 h2 (fun h fr e => ht h fr (by simp [e]))
          (hfree it List.mem_cons_self)
        obtain ⟨ih1, ih2⟩ := ih its
          { cache := (parseHeader s.cache (sendHeader it.c14.1 it.c14.2.1 ++ it.c14.2.2)).1, asm := (expire t s).asm } _
          (C14_cache_tracks_sender it.c14.1 s.cache sndr it.c14.2.1 it.c14.2.2 hn hconf hv ha) hrest (fun h' fr' hm => ht h' fr' (by simp [hm])) (hfree' its (fun _ hm => by simp [hm])) hw'
        simp only [outs, after, hr, List.filterMap_cons, id_eq]
        exact ⟨by cases it <;> exact ⟨hrr, ih1⟩, ih2⟩

/-- the sequence ids the single-fragment messages use are 64-bit and the assembler holds nothing for them -/
def SeqsFree (a : Frag.Assembler) (hs : List (CSent × Framing)) : Prop :=
  ∀ p ∈ hs, ∀ seq, p.2 = .single seq → seq < 2 ^ 64 ∧ Frag.lookup seq a.pending = none

theorem matches_good : ∀ (hs : List (CSent × Framing)) (rs : List Res),
    Matches x (hs.map fun p => .good p.1 p.2) rs → rs = hs.map (fun p => p.1.m.expected)
  | [], [], _ => rfl
  | [], _ :: _, h => h.elim
  | _ :: _, [], h => h.elim
  | _ :: hs, _ :: rs, ⟨h1, h2⟩ => by rw [h1, matches_good hs rs h2]; rfl

/-- a conforming sender's messages, each whole or as a single fragment, ticks anywhere, any clock readings:
every message is delivered, once, in order, and the connection's cache ends up agreeing with the sender's -/
theorem outs_cached (tfs : List TFrame) (hs : List (CSent × Framing)) (s : St) (sndr : Slots)
    (ha : SlotsAgree s.cache sndr) (hc : ConformingSeq sndr (hs.map (·.1.c14))) (ht : ∀ p ∈ hs, p.1.TermsConform x tbl)
    (hfree : SeqsFree s.asm hs) (hw : WithTicks (bodies tfs) (hs.map fun p => p.1.framed p.2)) :
    (outs x tbl s tfs).filterMap id = hs.map (fun p => p.1.m.expected) ∧
      SlotsAgree (after x tbl s tfs).cache (slotsAfter sndr (hs.map (·.1.c14))) := by
  have e1 : (hs.map fun p => Item.good p.1 p.2).map Item.c14 = hs.map (·.1.c14) := by simp [Item.c14]
  have e2 : (hs.map fun p => Item.good p.1 p.2).map Item.frame = hs.map fun p => p.1.framed p.2 := by simp [Item.frame]
  obtain ⟨h1, h2⟩ := outs_items x tbl tfs (hs.map fun p => .good p.1 p.2) s sndr ha (e1 ▸ hc)
    (fun h fr hm => by
      obtain ⟨p, hp, e⟩ := List.mem_map.mp hm
      cases e; exact ht p hp)
    (fun it hit seq hseq => by
      obtain ⟨p, hp, rfl⟩ := List.mem_map.mp hit
      exact hfree p hp seq hseq)
    (e2 ▸ hw)
  exact ⟨matches_good x hs _ h1, e1 ▸ h2⟩

/-- the same history started in a state whose cache differs from the sender's in some slots `T` (written behind the
sender's back, e.g. by a malformed frame): every message is still delivered as meant, provided the history never reads a
slot of `T` before writing it anew -/
theorem outs_cached_after_write (tfs : List TFrame) (hs : List (CSent × Framing))
    (c0 : Cache) (s : St) (sndr : Slots) (ha : SlotsAgree c0 sndr) (hsuf : c0.slots <:+ s.cache.slots)
    (hc : ConformingSeq sndr (hs.map (·.1.c14))) (hav : Avoids (wroteSlots c0 s.cache) (hs.map (·.1.c14)))
    (ht : ∀ p ∈ hs, p.1.TermsConform x tbl) (hfree : SeqsFree s.asm hs)
    (hw : WithTicks (bodies tfs) (hs.map fun p => p.1.framed p.2)) :
    (outs x tbl s tfs).filterMap id = hs.map (fun p => p.1.m.expected) := by
  have hag : ∀ k, k ∉ wroteSlots c0 s.cache → s.cache.slots.lookup k = sndr.lookup k := by
    intro k hk
    rw [lookup_of_not_wrote hsuf k hk]
    exact ha k
  have hc' := conformingSeq_transfer _ sndr s.cache.slots _ hag hc hav
  exact (outs_cached x tbl tfs hs s s.cache.slots (fun _ => rfl) hc' ht hfree hw).1

end Edp.Recv
