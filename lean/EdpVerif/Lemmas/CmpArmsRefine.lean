import EdpVerif.Impl.CmpArms
import EdpVerif.Generated.MiscC11
import EdpVerif.Lemmas.CmpTables
import EdpVerif.Lemmas.OrderTrans
import EdpVerif.Lemmas.CmpArmsEq
/-!
The arm-by-arm model of `impl Ord for OwnedTerm` (`cmpO`, Impl/CmpArms.lean: lazily walked cons cells, loops with fuel, fast
path) computes `Term.cmp = cmpN ∘ norm` (Impl/Cmp.lean: list tails followed eagerly), the function all order laws and the
agreement with Erlang's order are proved about — for every pair of terms, given enough fuel.
-/
open Edp Edp.Term
namespace Edp

theorem norm_skipEmptyO (t : Term) : norm (skipEmptyO t) = norm t := by
  fun_induction skipEmptyO t with
  | case1 t ih => rw [ih]; simp [norm, normL]
  | case2 t h => rfl

theorem tsz_skipEmptyO (t : Term) : tsz (skipEmptyO t) ≤ tsz t := by
  fun_induction skipEmptyO t with
  | case1 t ih => simp only [tsz, tszL]; omega
  | case2 t h => exact Nat.le_refl _

def notEmptyIl : Term → Bool
  | .ilist [] _ => false
  | _ => true

theorem notEmptyIl_skipEmptyO (t : Term) : notEmptyIl (skipEmptyO t) = true := by
  fun_induction skipEmptyO t with
  | case1 t ih => exact ih
  | case2 t h =>
    cases t <;> first | rfl | (rename_i l t'; cases l <;> first | rfl | exact absurd rfl (h _))

theorem rank_eq_rankO (t : Term) : rank t = rankO t := by cases t <;> rfl

theorem bitParts_eq_bitPartsO (t : Term) : bitParts t = bitPartsO t := by cases t <;> rfl

/-- the type-rank functions of both arm models are the tables regenerated from `term_type_order` (term.rs) and
`borrowed_type_order` (borrowed.rs), constructor by constructor -/
theorem rank_tables (t : Term) :
    Gen.C11_OWNED_RANKS.lookup (variantName t) = some (rankO t) ∧
    Gen.C11_BORROWED_RANKS.lookup (variantName t) = some (rankB t) := by
  cases t <;> simp only [variantName, rankO, rankB] <;> decide

theorem normL_length : ∀ (l : List Term), (normL l).length = l.length
  | [] => rfl
  | _ :: r => by simp [normL, normL_length r]

theorem normKV_length : ∀ (l : List (Term × Term)), (normKV l).length = l.length
  | [] => rfl
  | (_, _) :: r => by simp [normKV, normKV_length r]

theorem normL_append : ∀ (a b : List Term), normL (a ++ b) = normL a ++ normL b
  | [], b => by simp [normL]
  | x :: a, b => by simp [normL, normL_append a b]

theorem normL_eq_nil : ∀ (l : List Term), normL l = [] ↔ l = [] := normL_nil_iff

theorem tszL_append : ∀ (a b : List Term), tszL (a ++ b) = tszL a + tszL b
  | [], b => by simp [tszL]
  | x :: a, b => by simp [tszL, tszL_append a b]; omega

/-- all cons cells of a term and its final tail (`none` = nil); a term that is not a list has no cell and is its own tail -/
def flat : Term → List Term × Option Term
  | .nil => ([], none)
  | .list l => (l, none)
  | .ilist l t => (l ++ (flat t).1, (flat t).2)
  | t => ([], some t)

/-- the cells a `ListCells` state still has to hand out, and the final tail -/
def flatSt (e : List Term) (t : Option Term) : List Term × Option Term :=
  match t with
  | none => (e, none)
  | some t => (e ++ (flat t).1, (flat t).2)

theorem flat_tail_nonlist (t : Term) : ∀ u, (flat t).2 = some u → rank u ≠ 8 := by
  fun_induction flat t with
  | case1 | case2 => intro u h; cases h
  | case3 l t ih => exact ih
  | case4 t h1 h2 h3 =>
    intro u h h8
    cases h
    rcases rank_eq_8 h8 with rfl | ⟨_, rfl⟩ | ⟨_, _, rfl⟩
    · exact h1 rfl
    · exact h2 _ rfl
    · exact h3 _ _ rfl

def otsz : Option Term → Nat
  | none => 0
  | some t => tsz t

theorem flat_size (t : Term) : tszL (flat t).1 + otsz (flat t).2 ≤ tsz t := by
  fun_induction flat t with
  | case1 => simp [tszL, otsz]
  | case2 l => simp [otsz, tsz]
  | case3 l t ih => simp only [tszL_append, tsz]; omega
  | case4 t h1 h2 h3 => simp [tszL, otsz]

theorem tailNextO_spec (t : Term) :
    match (flat t).1 with
    | x :: r => ∃ e' t', tailNextO t = (some x, e', t') ∧ flatSt e' t' = (r, (flat t).2)
    | [] => ∃ e', tailNextO t = (none, e', (flat t).2) := by
  fun_induction tailNextO t with
  | case1 x r => exact ⟨r, none, rfl, rfl⟩
  | case2 | case5 => exact ⟨[], rfl⟩
  | case3 x r t => exact ⟨r, some t, rfl, rfl⟩
  | case4 t ih => simpa only [flat, List.nil_append] using ih
  | case6 t h1 h2 h3 h4 h5 =>
    have hf : flat t = ([], some t) := by
      cases t with
      | list l => cases l with
        | nil => exact absurd rfl h2
        | cons x r => exact absurd rfl (h1 x r)
      | ilist l u => cases l with
        | nil => exact absurd rfl (h4 u)
        | cons x r => exact absurd rfl (h3 x r u)
      | nil => exact absurd rfl h5
      | _ => rfl
    rw [hf]
    exact ⟨[], rfl⟩

theorem nextO_spec (e : List Term) (t : Option Term) :
    match (flatSt e t).1 with
    | x :: r => ∃ e' t', nextO e t = (some x, e', t') ∧ flatSt e' t' = (r, (flatSt e t).2)
    | [] => ∃ e', nextO e t = (none, e', (flatSt e t).2) := by
  cases e with
  | cons y r => cases t <;> exact ⟨r, _, rfl, rfl⟩
  | nil =>
    cases t with
    | none => exact ⟨[], rfl⟩
    | some t => simpa only [flatSt, nextO, List.nil_append] using tailNextO_spec t

/-- the normal form with the given cells and final tail -/
def mkN : List Term → Option Term → Term
  | [], none => .nil
  | x :: l, none => .list (x :: l)
  | [], some t => t
  | x :: l, some t => .ilist (x :: l) t

theorem rank_norm_nonlist (t : Term) (h : rank t ≠ 8) : rank (norm t) = rank t := by
  cases t <;> first | rfl | exact absurd rfl h

theorem mkIlist_mkN (l F : List Term) (T : Option Term) (h : ∀ u, T = some u → rank u ≠ 8) :
    mkIlist l (mkN F T) = mkN (l ++ F) T := by
  cases l with
  | nil => rfl
  | cons x l =>
    cases F with
    | cons y F => cases T <;> rfl
    | nil =>
      cases T with
      | none => simp [mkN, mkIlist]
      | some u => simpa [mkN] using mkIlist_cons_nonlist x l (h u rfl)

theorem norm_eq_mkN (t : Term) : norm t = mkN (normL (flat t).1) ((flat t).2.map norm) := by
  fun_induction flat t with
  | case1 => rfl
  | case2 l => rw [norm_list]; cases normL l <;> rfl
  | case3 l t ih =>
    rw [norm_ilist, ih, normL_append]
    refine mkIlist_mkN _ _ _ (fun u hu => ?_)
    obtain ⟨v, hv, rfl⟩ := Option.map_eq_some_iff.mp hu
    rw [rank_norm_nonlist v (flat_tail_nonlist t v hv)]
    exact flat_tail_nonlist t v hv
  | case4 t h1 h2 h3 => simp [mkN, normL]

def tailBoth : Option Term → Option Term → Ordering
  | none, none => .eq
  | none, some t => compare listRank (rank t)
  | some t, none => compare (rank t) listRank
  | some x, some y => cmpN (norm x) (norm y)

/-- what `compare_list_terms` computes, on the cells -/
def cellsSpec (fa : List Term) (ta : Option Term) (fb : List Term) (tb : Option Term) : Ordering :=
  cmpZip (normL fa) (normL fb) (tailBoth ta tb) (aOutOf ta) (bOutOf tb)

theorem cells_mkN (l : List Term) (t : Option Term) (h : l = [] → t = none) :
    rank (mkN l t) = 8 ∧ cells (mkN l t) = (l, t) := by
  cases l <;> cases t <;> first | exact ⟨rfl, rfl⟩ | exact absurd (h rfl) (by simp)

/-- on normal forms built from cells, `cmpN` is the cell-wise comparison; `norm` keeps the rank of a tail that is not a list -/
theorem cmpN_mkN (fa : List Term) (ta : Option Term) (fb : List Term) (tb : Option Term)
    (ha : fa = [] → ta = none) (hb : fb = [] → tb = none)
    (na : ∀ u, ta = some u → rank u ≠ 8) (nb : ∀ u, tb = some u → rank u ≠ 8) :
    cmpN (mkN (normL fa) (ta.map norm)) (mkN (normL fb) (tb.map norm)) = cellsSpec fa ta fb tb := by
  obtain ⟨r1, c1⟩ := cells_mkN (normL fa) (ta.map norm) (fun h => by rw [ha ((normL_eq_nil fa).mp h)]; rfl)
  obtain ⟨r2, c2⟩ := cells_mkN (normL fb) (tb.map norm) (fun h => by rw [hb ((normL_eq_nil fb).mp h)]; rfl)
  rw [cmpN_cells _ _ r1 r2, c1, c2]
  unfold cellsSpec
  cases ta with
  | none =>
    cases tb with
    | none => rfl
    | some v => simp only [Option.map, cmpTail, tailBoth, aOutOf, bOutOf, rank_norm_nonlist v (nb v rfl)]
  | some u =>
    cases tb with
    | none => simp only [Option.map, cmpTail, tailBoth, aOutOf, bOutOf, rank_norm_nonlist u (na u rfl)]
    | some v =>
      simp only [Option.map, cmpTail, tailBoth, aOutOf, bOutOf, rank_norm_nonlist u (na u rfl),
        rank_norm_nonlist v (nb v rfl)]

theorem fastO_cmpN {a b : Term} {o : Ordering} (h : fastO a b = some o) : cmpN (norm a) (norm b) = o := by
  rcases fastO_some h with ⟨x, y, rfl, rfl, rfl⟩ | ⟨x, y, rfl, rfl, rfl⟩ | ⟨x, y, rfl, rfl, rfl⟩ |
    ⟨x, y, rfl, rfl, rfl⟩ | ⟨rfl, rfl, rfl⟩
  · exact cmpN_int_int x y
  · exact cmpN_atom x y
  · exact (cmpN_bits _ _ rfl rfl).trans Ordering.then_eq
  · exact (cmpN_bits _ _ rfl rfl).trans Ordering.then_eq
  · exact (cmpN.eq_def _ _).trans rfl

theorem rank_norm_notEmptyIl (a : Term) (h : notEmptyIl a = true) : rank (norm a) = rankO a := by
  cases a with
  | list l => simp only [norm, rankO]; cases normL l <;> simp
  | ilist l t =>
    cases l with
    | nil => simp [notEmptyIl] at h
    | cons x r => simp only [norm, normL, rankO]; split <;> simp_all
  | _ => simp [norm, rankO]

theorem flat_listlike (a : Term) (hl : isListLike a = true) (hn : notEmptyIl a = true) :
    ((flat a).1 = [] → (flat a).2 = none) ∧ tszL (flat a).1 + otsz (flat a).2 + 2 ≤ tsz a := by
  cases a with
  | nil => simp [flat, tszL, otsz, tsz]
  | list l => simp [flat, otsz, tsz]; omega
  | ilist l t =>
    cases l with
    | nil => simp [notEmptyIl] at hn
    | cons x r =>
      have := flat_size t
      simp only [flat, List.cons_append, tszL, tszL_append, tsz]
      exact ⟨fun h => by simp at h, by omega⟩
  | _ => simp [isListLike] at hl

theorem compare_nat_self (n : Nat) : compare n n = .eq := Nat.compare_eq_eq.mpr rfl

theorem armsO_refine (f : Nat) :
    (∀ a b, tsz a + tsz b + 1 ≤ f → cmpO f a b = cmpN (norm a) (norm b)) ∧
    (∀ ea ta eb tb, tszL (flatSt ea ta).1 + otsz (flatSt ea ta).2 + tszL (flatSt eb tb).1 + otsz (flatSt eb tb).2 + 2 ≤ f →
      cellsLoopO f ea ta eb tb = cellsSpec (flatSt ea ta).1 (flatSt ea ta).2 (flatSt eb tb).1 (flatSt eb tb).2) ∧
    (∀ x y, tszL x + tszL y + 1 ≤ f → zipLoopO f x y = cmpZip (normL x) (normL y) .eq .eq .eq) ∧
    (∀ x y, tszL x + tszL y + 1 ≤ f → termListsO f x y = cmpZip (normL x) (normL y) .eq .lt .gt) ∧
    (∀ x y, tszKV x + tszKV y + 1 ≤ f → keysLoopO f x y = cmpKeys (normKV x) (normKV y)) ∧
    (∀ x y, tszKV x + tszKV y + 1 ≤ f → valsLoopO f x y = cmpVals (normKV x) (normKV y)) := by
  induction f with
  | zero => refine ⟨?_, ?_, ?_, ?_, ?_, ?_⟩ <;> intros <;> omega
  | succ f ih =>
    obtain ⟨hc, hcells, hzip, hlists, hkeys, hvals⟩ := ih
    have hcase : ∀ a b, isListLike a = true → isListLike b = true → notEmptyIl a = true → notEmptyIl b = true →
        tsz a + tsz b ≤ f → cellsLoopO f [] (some a) [] (some b) = cmpN (norm a) (norm b) := by
      intro a b la lb na nb hs
      obtain ⟨a1, a2⟩ := flat_listlike a la na
      obtain ⟨b1, b2⟩ := flat_listlike b lb nb
      rw [hcells [] (some a) [] (some b) (by simp only [flatSt, List.nil_append]; omega)]
      simp only [flatSt, List.nil_append]
      rw [norm_eq_mkN a, norm_eq_mkN b]
      exact (cmpN_mkN _ _ _ _ a1 b1 (flat_tail_nonlist a) (flat_tail_nonlist b)).symm
    refine ⟨?_, ?_, ?_, ?_, ?_, ?_⟩
    · intro a0 b0 hsz
      rw [cmpO]
      have ha1 := norm_skipEmptyO a0
      have ha2 := tsz_skipEmptyO a0
      have ha3 := notEmptyIl_skipEmptyO a0
      have hb1 := norm_skipEmptyO b0
      have hb2 := tsz_skipEmptyO b0
      have hb3 := notEmptyIl_skipEmptyO b0
      rw [← ha1, ← hb1]
      generalize skipEmptyO a0 = a at *
      generalize skipEmptyO b0 = b at *
      have hsz' : tsz a + tsz b ≤ f := by omega
      clear ha1 hb1 ha2 hb2 hsz
      cases hf : fastO a b with
      | some o => simp only; exact (fastO_cmpN hf).symm
      | none =>
        simp only
        clear hf
        induction a, b using cmpN_ind with
        | ne a b hr =>
          rw [rank_eq_rankO, rank_eq_rankO] at hr
          have hra := rank_norm_notEmptyIl a ha3
          have hrb := rank_norm_notEmptyIl b hb3
          rw [cmpN_of_rank_ne _ _ (by rw [hra, hrb]; exact hr), hra, hrb]
          have : compare (rankO a) (rankO b) ≠ .eq := fun h => hr (Nat.compare_eq_eq.mp h)
          cases h : compare (rankO a) (rankO b) <;> first | rfl | exact absurd h this
        | num a b ha hb =>
          rcases rank_eq_0 ha with ⟨_, rfl⟩ | ⟨_, _, rfl⟩ | ⟨_, rfl⟩ <;> rcases rank_eq_0 hb with ⟨_, rfl⟩ | ⟨_, _, rfl⟩ | ⟨_, rfl⟩ <;>
            (symm; exact (cmpN.eq_def _ _).trans rfl)
        | atom => exact (cmpN_atom _ _).symm
        | ref => exact (cmpN_ref ..).symm
        | xfun => exact (cmpN_xfun ..).symm
        | xfun_ifun => exact (cmpN_xfun_ifun ..).symm
        | ifun_xfun => exact (cmpN_ifun_xfun ..).symm
        | port => exact (cmpN_port ..).symm
        | pid => exact (cmpN_pid _ _).symm
        | ifun _ _ _ _ _ _ _ _ fr _ _ _ _ _ _ _ _ fr2 =>
          simp only [tsz] at hsz'
          show _ = cmpN (.ifun _ _ _ _ _ _ _ _ (normL fr)) (.ifun _ _ _ _ _ _ _ _ (normL fr2))
          rw [cmpN_ifun, ← hlists fr fr2 (by omega)]; rfl
        | tuple x y =>
          simp only [tsz] at hsz'
          show _ = cmpN (.tuple (normL x)) (.tuple (normL y))
          rw [cmpN_tuple, normL_length, normL_length, ← hzip x y (by omega)]; rfl
        | map x y =>
          simp only [tsz] at hsz'
          show _ = cmpN (.map (normKV x)) (.map (normKV y))
          rw [cmpN_map, ← cmpKeys_zip, ← cmpVals_zip, normKV_length, normKV_length, ← hkeys x y (by omega),
            ← hvals x y (by omega)]; rfl
        | list a b ha hb =>
          rcases rank_eq_8 ha with rfl | ⟨_, rfl⟩ | ⟨_, _, rfl⟩ <;> rcases rank_eq_8 hb with rfl | ⟨_, rfl⟩ | ⟨_, _, rfl⟩ <;>
            first
            | exact hcase _ _ rfl rfl ha3 hb3 hsz'
            | (symm; exact (cmpN.eq_def _ _).trans rfl)
        | bits a b ha hb =>
          rcases rank_eq_9 ha with ⟨_, rfl⟩ | ⟨_, _, rfl⟩ | ⟨_, rfl⟩ <;> rcases rank_eq_9 hb with ⟨_, rfl⟩ | ⟨_, _, rfl⟩ | ⟨_, rfl⟩ <;>
            first
            | (symm; exact (cmpN.eq_def _ _).trans rfl)
            | (symm; exact ((cmpN.eq_def _ _).trans rfl).trans Ordering.then_eq)
    · intro ea ta eb tb hsz
      rw [cellsLoopO]
      have sa := nextO_spec ea ta
      have sb := nextO_spec eb tb
      generalize flatSt ea ta = A at *
      generalize flatSt eb tb = B at *
      obtain ⟨fa, tla⟩ := A
      obtain ⟨fb, tlb⟩ := B
      simp only at sa sb hsz ⊢
      cases fa with
      | nil =>
        obtain ⟨ea', ha'⟩ := sa
        cases fb with
        | nil =>
          obtain ⟨eb', hb'⟩ := sb
          rw [ha', hb']
          cases tla with
          | none => cases tlb <;> simp [cellsSpec, normL, cmpZip, tailBoth, rank_eq_rankO, listTypeOrderO, listRank]
          | some u =>
            cases tlb with
            | none => simp [cellsSpec, normL, cmpZip, tailBoth, rank_eq_rankO, listTypeOrderO, listRank]
            | some v =>
              simp only [cellsSpec, normL, cmpZip, tailBoth]
              exact hc u v (by simp only [otsz, tszL] at hsz; omega)
        | cons y rb =>
          obtain ⟨eb', tb', hb', _⟩ := sb
          rw [ha', hb']
          cases tla <;> simp [cellsSpec, normL, cmpZip, aOutOf, rank_eq_rankO, listTypeOrderO, listRank]
      | cons x ra =>
        obtain ⟨ea', ta', ha', ha''⟩ := sa
        cases fb with
        | nil =>
          obtain ⟨eb', hb'⟩ := sb
          rw [ha', hb']
          cases tlb <;> simp [cellsSpec, normL, cmpZip, bOutOf, rank_eq_rankO, listTypeOrderO, listRank]
        | cons y rb =>
          obtain ⟨eb', tb', hb', hb''⟩ := sb
          rw [ha', hb']
          simp only
          rw [hc x y (by simp only [tszL] at hsz; omega),
            hcells ea' ta' eb' tb' (by rw [ha'', hb'']; simp only [tszL] at hsz ⊢; omega)]
          rw [ha'', hb'']
          simp only [cellsSpec, normL, cmpZip, thenO]
          cases cmpN (norm x) (norm y) <;> rfl
    · intro x y hsz
      cases x with
      | nil => cases y <;> simp [zipLoopO, normL, cmpZip]
      | cons x xs =>
        cases y with
        | nil => simp [zipLoopO, normL, cmpZip]
        | cons y ys =>
          simp only [tszL] at hsz
          simp only [zipLoopO, normL, cmpZip, thenO]
          rw [hc x y (by omega), hzip xs ys (by omega)]
          cases cmpN (norm x) (norm y) <;> rfl
    · intro x y hsz
      cases x with
      | nil => cases y <;> simp [termListsO, normL, cmpZip, Nat.compare_eq_lt]
      | cons x xs =>
        cases y with
        | nil => simp [termListsO, normL, cmpZip, Nat.compare_eq_gt]
        | cons y ys =>
          simp only [tszL] at hsz
          simp only [termListsO, normL, cmpZip, thenO]
          rw [hc x y (by omega), hlists xs ys (by omega)]
          cases cmpN (norm x) (norm y) <;> rfl
    · intro x y hsz
      cases x with
      | nil => cases y <;> simp [keysLoopO, normKV, cmpKeys]
      | cons p xs =>
        obtain ⟨k, v⟩ := p
        cases y with
        | nil => simp [keysLoopO, normKV, cmpKeys]
        | cons q ys =>
          obtain ⟨k2, v2⟩ := q
          simp only [tszKV] at hsz
          simp only [keysLoopO, normKV, cmpKeys, thenO]
          rw [hc k k2 (by omega), hkeys xs ys (by omega)]
          cases cmpN (norm k) (norm k2) <;> rfl
    · intro x y hsz
      cases x with
      | nil => cases y <;> simp [valsLoopO, normKV, cmpVals]
      | cons p xs =>
        obtain ⟨k, v⟩ := p
        cases y with
        | nil => simp [valsLoopO, normKV, cmpVals]
        | cons q ys =>
          obtain ⟨k2, v2⟩ := q
          simp only [tszKV] at hsz
          simp only [valsLoopO, normKV, cmpVals, thenO]
          rw [hc v v2 (by omega), hvals xs ys (by omega)]
          cases cmpN (norm v) (norm v2) <;> rfl

/-- the arm-by-arm model of `OwnedTerm::cmp`, run with the fuel the driver gives it, is `Term.cmp` -/
theorem cmpOwned_eq_cmp (a b : Term) : cmpOwned a b = Term.cmp a b :=
  (armsO_refine (tsz a + tsz b + 1)).1 a b (Nat.le_refl _)

end Edp
