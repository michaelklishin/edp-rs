import EdpVerif.Lemmas.DecSuffix
import EdpVerif.Lemmas.RoundTrip
/-! C10: the bytes a node-local identifier keeps are the bytes it occupied in the input (decode side, every input), and the
encoder writes them out unchanged in every position of a term (encode side, every one-hole context). -/
namespace Edp

/-- a LOCAL_EXT span the decoder accepts as an identifier — whatever is inside: modern or legacy form, another LOCAL_EXT,
a compressed term — is written back by the encoder as exactly the bytes the decoder consumed -/
theorem dec_local_reemitted (x : Ext) (cfg : DecCfg) (cache : List Bytes) (fuel d : Nat) (bs r : Bytes) (t : Term)
    (h : dec x cfg fuel d (121 :: bs) = .ok (t, r)) (hid : isIdent t = true) :
    ∃ span, 121 :: bs = span ++ r ∧ enc cache t = .ok span ∧ locOf t = some (span.drop 1) := by
  obtain ⟨f, hash, r0, t0, rfl, h8, h0, rfl⟩ := dec_local_inv h
  have s1 : r <:+ r0 := (dec_suffix x cfg f).1 _ _ _ _ h0
  obtain ⟨c, rfl⟩ := s1.trans (rdU_suffix h8)
  have hc : c.length = 8 + (r0.length - r.length) := by
    have := rdU_len h8; rw [List.length_append] at this; have := s1.length_le; omega
  rw [List.take_left' hc] at hid ⊢
  have hl := locOf_withLoc hid
  exact ⟨121 :: c, rfl, enc_ident_loc hid hl, hl⟩

/-- every position of a term a sub-term can be in: tuple element, list element, element of an improper list, list tail,
map key, map value, free variable of a fun — nested to any depth -/
inductive TCtx where
  | hole
  | tuple (pre : List Term) (c : TCtx) (post : List Term)
  | list (pre : List Term) (c : TCtx) (post : List Term)
  | ilistElem (pre : List Term) (c : TCtx) (post : List Term) (tail : Term)
  | ilistTail (l : List Term) (c : TCtx)
  | mapKey (pre : List (Term × Term)) (c : TCtx) (v : Term) (post : List (Term × Term))
  | mapVal (pre : List (Term × Term)) (k : Term) (c : TCtx) (post : List (Term × Term))
  | funEnv (arity : Nat) (uniq : Bytes) (index numFree : Nat) (mod : Bytes) (oldIndex oldUniq : Nat) (pid : PidF)
      (pre : List Term) (c : TCtx) (post : List Term)

def TCtx.plug : TCtx → Term → Term
  | .hole, u => u
  | .tuple pre c post, u => .tuple (pre ++ c.plug u :: post)
  | .list pre c post, u => .list (pre ++ c.plug u :: post)
  | .ilistElem pre c post tl, u => .ilist (pre ++ c.plug u :: post) tl
  | .ilistTail l c, u => .ilist l (c.plug u)
  | .mapKey pre c v post, u => .map (pre ++ (c.plug u, v) :: post)
  | .mapVal pre k c post, u => .map (pre ++ (k, c.plug u) :: post)
  | .funEnv a un i nf m oi ou p pre c post, u => .ifun a un i nf m oi ou p (pre ++ c.plug u :: post)

def TCtx.depth : TCtx → Nat
  | .hole => 0
  | .tuple _ c _ | .list _ c _ | .ilistElem _ c _ _ | .ilistTail _ c | .mapKey _ c _ _ | .mapVal _ _ c _
  | .funEnv _ _ _ _ _ _ _ _ _ c _ => c.depth + 1

def Occurs (sub bs : Bytes) : Prop := ∃ pre post, bs = pre ++ sub ++ post

theorem Occurs.refl (a : Bytes) : Occurs a a := ⟨[], [], by simp⟩

theorem Occurs.wrap {sub a : Bytes} (h : Occurs sub a) (p q : Bytes) : Occurs sub (p ++ a ++ q) := by
  obtain ⟨x, y, rfl⟩ := h
  exact ⟨p ++ x, y ++ q, by simp⟩

theorem Occurs.append_left {sub a : Bytes} (h : Occurs sub a) (p : Bytes) : Occurs sub (p ++ a) := by
  simpa using h.wrap p []

theorem Occurs.trans {a b c : Bytes} (h1 : Occurs a b) (h2 : Occurs b c) : Occurs a c := by
  obtain ⟨p, q, rfl⟩ := h1
  obtain ⟨p', q', rfl⟩ := h2
  exact ⟨p' ++ p, q ++ q', by simp⟩

theorem encL_split (cache : List Bytes) (l1 : List Term) (t : Term) (l2 : List Term) (bs : Bytes)
    (h : encL cache (l1 ++ t :: l2) = .ok bs) : ∃ tb, enc cache t = .ok tb ∧ Occurs tb bs := by
  induction l1 generalizing bs with
  | nil => obtain ⟨tb, b2, ht, _, rfl⟩ := encL_cons_ok h; exact ⟨tb, ht, [], b2, rfl⟩
  | cons a l1 ih =>
    obtain ⟨ab, rb, _, hr, rfl⟩ := encL_cons_ok h
    obtain ⟨tb, ht, o⟩ := ih rb hr
    exact ⟨tb, ht, o.append_left ab⟩

theorem encKV_split (cache : List Bytes) (l1 : List (Term × Term)) (k v : Term) (l2 : List (Term × Term)) (bs : Bytes)
    (h : encKV cache (l1 ++ (k, v) :: l2) = .ok bs) :
    ∃ kb vb, enc cache k = .ok kb ∧ enc cache v = .ok vb ∧ Occurs kb bs ∧ Occurs vb bs := by
  induction l1 generalizing bs with
  | nil =>
    obtain ⟨kb, vb, b2, hk, hv, _, rfl⟩ := encKV_cons_ok h
    exact ⟨kb, vb, hk, hv, ⟨[], vb ++ b2, by simp⟩, ⟨kb, b2, rfl⟩⟩
  | cons a l1 ih =>
    obtain ⟨ab, vb', rb, _, _, hr, rfl⟩ := encKV_cons_ok h
    obtain ⟨kb, vb, hk, hv, ok, ov⟩ := ih rb hr
    exact ⟨kb, vb, hk, hv, ok.append_left _, ov.append_left _⟩

/-- the encoder is compositional: what it writes for a term contains, as one contiguous block, what it writes for the
sub-term in the hole — every context, any atom cache -/
theorem enc_plug (cache : List Bytes) (c : TCtx) (u : Term) (bs : Bytes) (h : enc cache (c.plug u) = .ok bs) :
    ∃ ub, enc cache u = .ok ub ∧ Occurs ub bs := by
  induction c generalizing bs with
  | hole => exact ⟨bs, h, Occurs.refl _⟩
  | tuple pre c post ih =>
    obtain ⟨_, lb, hl, rfl⟩ := enc_tuple_ok h
    obtain ⟨tb, ht, o⟩ := encL_split cache pre _ post lb hl
    obtain ⟨ub, hu, ho⟩ := ih tb ht
    exact ⟨ub, hu, (ho.trans o).append_left _⟩
  | list pre c post ih =>
    rcases enc_list_ok h with ⟨h0, _⟩ | ⟨_, _, lb, hl, rfl⟩
    · cases pre <;> cases h0
    obtain ⟨tb, ht, o⟩ := encL_split cache pre _ post lb hl
    obtain ⟨ub, hu, ho⟩ := ih tb ht
    exact ⟨ub, hu, (ho.trans o).wrap _ _⟩
  | ilistElem pre c post tl ih =>
    obtain ⟨_, lb, tlb, hl, _, rfl⟩ := enc_ilist_ok h
    obtain ⟨tb, ht, o⟩ := encL_split cache pre _ post lb hl
    obtain ⟨ub, hu, ho⟩ := ih tb ht
    exact ⟨ub, hu, (ho.trans o).wrap _ _⟩
  | ilistTail l c ih =>
    obtain ⟨_, lb, tlb, _, htl, rfl⟩ := enc_ilist_ok h
    obtain ⟨ub, hu, ho⟩ := ih tlb htl
    exact ⟨ub, hu, ho.append_left _⟩
  | mapKey pre c v post ih =>
    obtain ⟨_, lb, hl, rfl⟩ := enc_map_ok h
    obtain ⟨kb, _, hk, _, o, _⟩ := encKV_split cache pre _ v post lb hl
    obtain ⟨ub, hu, ho⟩ := ih kb hk
    exact ⟨ub, hu, (ho.trans o).append_left _⟩
  | mapVal pre k c post ih =>
    obtain ⟨_, lb, hl, rfl⟩ := enc_map_ok h
    obtain ⟨_, vb, _, hv, _, o⟩ := encKV_split cache pre k _ post lb hl
    obtain ⟨ub, hu, ho⟩ := ih vb hv
    exact ⟨ub, hu, (ho.trans o).append_left _⟩
  | funEnv a un i nf m oi ou p pre c post ih =>
    obtain ⟨mb, pb, lb, _, _, hl, rfl⟩ := enc_ifun_ok h
    obtain ⟨tb, ht, o⟩ := encL_split cache pre _ post lb hl
    obtain ⟨ub, hu, ho⟩ := ih tb ht
    exact ⟨ub, hu, ((ho.trans o).append_left _).append_left _⟩

theorem enc_fun_pid (cache : List Bytes) (a : Nat) (un : Bytes) (i nf : Nat) (m : Bytes) (oi ou : Nat) (p : PidF) (fr : List Term)
    (bs : Bytes) (h : enc cache (.ifun a un i nf m oi ou p fr) = .ok bs) : ∃ pb, encPid cache p = .ok pb ∧ Occurs pb bs := by
  obtain ⟨mb, pb, lb, _, hp, _, rfl⟩ := enc_ifun_ok h
  exact ⟨pb, hp, ((Occurs.refl pb).wrap _ lb).append_left _⟩

end Edp
