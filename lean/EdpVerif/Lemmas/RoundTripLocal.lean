import EdpVerif.Lemmas.RoundTrip
/-! The round trip for terms whose identifiers carry preserved LOCAL_EXT bytes at any depth, owned decoder (the zero-copy
decoder has no LOCAL_EXT arm): the instances `cfg.borrowed = false` of `dec_encG` (Lemmas/RoundTrip.lean). -/
namespace Edp

theorem dec_encX (x : Ext) (cfg : DecCfg) (cache : List Bytes) (hc : cfgFor cache cfg) (hlen : cache.length ≤ 256)
    (hb : cfg.borrowed = false) (t : Term) (bs r : Bytes) (fuel d : Nat)
    (hw : wfX cache t) (hd : depX t + d ≤ MAX_NESTING_DEPTH) (he : enc cache t = .ok bs) (hf : tszX t ≤ fuel) :
    dec x cfg fuel d (bs ++ r) = .ok (wire t, r) :=
  dec_encG x cfg cache hc hlen t bs r fuel d hw (.inl hb) hd he hf

theorem decN_encLX (x : Ext) (cfg : DecCfg) (cache : List Bytes) (hc : cfgFor cache cfg) (hlen : cache.length ≤ 256)
    (hb : cfg.borrowed = false) (l : List Term) (bs r : Bytes) (fuel d : Nat)
    (hw : wfXL cache l) (hd : depXL l + d ≤ MAX_NESTING_DEPTH) (he : encL cache l = .ok bs) (hf : tszXL l ≤ fuel) :
    decN x cfg fuel d l.length (bs ++ r) = .ok (wireL l, r) :=
  decN_encLG x cfg cache hc hlen l bs r fuel d hw (.inl hb) hd he hf

theorem decKV_encKVX (x : Ext) (cfg : DecCfg) (cache : List Bytes) (hc : cfgFor cache cfg) (hlen : cache.length ≤ 256)
    (hb : cfg.borrowed = false) (kvs : List (Term × Term)) (bs r : Bytes) (fuel d : Nat)
    (acc : List (Term × Term))
    (hw : wfXKV cache kvs) (hd : depXKV kvs + d ≤ MAX_NESTING_DEPTH) (he : encKV cache kvs = .ok bs) (hf : tszXKV kvs ≤ fuel) :
    decKV x cfg fuel d kvs.length (bs ++ r) acc = .ok (insertAll acc (wireKV kvs), r) :=
  decKV_encKVG x cfg cache hc hlen kvs bs r fuel d acc hw (.inl hb) hd he hf

theorem decode_encode_local (x : Ext) (t : Term) (bs : Bytes) (hw : wfX [] t) (hd : depX t ≤ MAX_NESTING_DEPTH)
    (he : encode t = .ok bs) : decode x bs = .ok (wire t) :=
  decodeWith_encode x {} t bs hw (.inl rfl) hd he

theorem wfX_of_wfT (cache : List Bytes) (t : Term) (h : wfT t = true) : wfX cache t := (plain_of_wfT cache t h).1

theorem wfXL_of_wfL (cache : List Bytes) : ∀ (l : List Term), wfL l = true → wfXL cache l :=
  fun l h => (plainL_of_wfL cache l h).1

theorem wfXKV_of_wfKV (cache : List Bytes) : ∀ (l : List (Term × Term)), wfKV l = true → wfXKV cache l :=
  fun l h => (plainKV_of_wfKV cache l h).1

end Edp
