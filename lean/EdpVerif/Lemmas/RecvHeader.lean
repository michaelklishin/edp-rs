import EdpVerif.Props.C14
/-!
Helper lemmas for C06 about the histories of a conforming sender with an atom cache (`Props.C14.ConformingSeq`): the
bookkeeping for "which later messages are safe after a frame that wrote cache slots behind the sender's back" (`Avoids`).
-/
namespace Edp.DistHeader
open Edp Edp.Spec.DistHeader

/-- a cache slot: (segment index, internal index) -/
abbrev Slot := Nat × Nat

/-- the slots written on the way from cache `c` to cache `c'` (`c.slots` is a suffix of `c'.slots`: the keys in front) -/
def wroteSlots (c c' : Cache) : List Slot := (c'.slots.take (c'.slots.length - c.slots.length)).map (·.1)

theorem slots_eq_of_suffix {c c' : Cache} (h : c.slots <:+ c'.slots) :
    c'.slots = c'.slots.take (c'.slots.length - c.slots.length) ++ c.slots := by
  obtain ⟨w, hw⟩ := h
  rw [← hw]
  simp

/-- a slot that was not written still holds what it held -/
theorem lookup_of_not_wrote {c c' : Cache} (h : c.slots <:+ c'.slots) (k : Slot) (hk : k ∉ wroteSlots c c') :
    c'.slots.lookup k = c.slots.lookup k := by
  rw [slots_eq_of_suffix h, List.lookup_append]
  have : (c'.slots.take (c'.slots.length - c.slots.length)).lookup k = none := by
    rw [List.lookup_eq_none_iff]
    intro p hp
    simp only [wroteSlots, List.mem_map, not_exists, not_and] at hk
    have := hk p hp
    simp only [bne_iff_ne, ne_eq]
    exact fun e => this e.symm
  simp [this]

/-- the doubtful slots after one reference: a new entry makes its slot good again -/
def taintStep (T : List Slot) (e : Entry) : List Slot :=
  if e.new then T.filter (fun k => k != (e.seg, e.idx)) else T

/-- the references of one header never READ a doubtful slot (a reference without text to a slot in `T`); writing one
(a new entry) is fine and removes the doubt -/
def AvoidsRefs : List Slot → List Entry → Prop
  | _, [] => True
  | T, e :: r => (e.new = false → (e.seg, e.idx) ∉ T) ∧ AvoidsRefs (taintStep T e) r

def taintAfter : List Slot → List Entry → List Slot
  | T, [] => T
  | T, e :: r => taintAfter (taintStep T e) r

/-- a history never reads a doubtful slot before writing it anew -/
def Avoids : List Slot → List Props.C14.Msg → Prop
  | _, [] => True
  | T, (_, es, _) :: r => AvoidsRefs T es ∧ Avoids (taintAfter T es) r

theorem taintStep_nil (e : Entry) : taintStep [] e = [] := by
  unfold taintStep; split <;> simp

theorem avoidsRefs_nil (es : List Entry) : AvoidsRefs [] es := by
  induction es with
  | nil => trivial
  | cons e r ih => exact ⟨by simp, by rw [taintStep_nil]; exact ih⟩

theorem taintAfter_nil (es : List Entry) : taintAfter [] es = [] := by
  induction es with
  | nil => rfl
  | cons e r ih => simp [taintAfter, taintStep_nil, ih]

theorem avoids_nil (msgs : List Props.C14.Msg) : Avoids [] msgs := by
  induction msgs with
  | nil => trivial
  | cons m r ih =>
    obtain ⟨long, es, body⟩ := m
    exact ⟨avoidsRefs_nil es, by rw [taintAfter_nil]; exact ih⟩

/-- two caches that agree outside `T`: a header that is conforming for the one and avoids `T` is conforming for the
other, and afterwards they agree outside what is left of `T` -/
theorem conforming_transfer (long : Bool) (es : List Entry) : ∀ (s s' : Slots) (T : List Slot),
    (∀ k, k ∉ T → s'.lookup k = s.lookup k) → Conforming long s es → AvoidsRefs T es →
    Conforming long s' es ∧ ∀ k, k ∉ taintAfter T es → (sendSlots s' es).lookup k = (sendSlots s es).lookup k := by
  induction es with
  | nil => intro s s' T hag _ _; exact ⟨trivial, by simpa [taintAfter, sendSlots] using hag⟩
  | cons e r ih =>
    intro s s' T hag hc hav
    obtain ⟨hseg, hidx, hlen, hold, hrest⟩ := hc
    obtain ⟨hav1, hav2⟩ := hav
    have hag' : ∀ k, k ∉ taintStep T e → (upd s' e).lookup k = (upd s e).lookup k := by
      intro k hk
      unfold taintStep at hk
      unfold upd
      cases hn : e.new
      · simp only [hn, Bool.false_eq_true, ↓reduceIte] at hk ⊢
        exact hag k hk
      · simp only [hn, ↓reduceIte] at hk ⊢
        by_cases hks : k = (e.seg, e.idx)
        · subst hks; simp [List.lookup]
        · have : k ∉ T := by
            intro hin
            apply hk
            simp [List.mem_filter, hin, hks]
          have hb : (k == (e.seg, e.idx)) = false := by simpa using hks
          simp [List.lookup, hb, hag k this]
    obtain ⟨h1, h2⟩ := ih (upd s e) (upd s' e) (taintStep T e) hag' hrest hav2
    refine ⟨⟨hseg, hidx, hlen, ?_, h1⟩, ?_⟩
    · intro hn
      rw [hag _ (hav1 hn)]
      exact hold hn
    · intro k hk
      simpa [sendSlots, taintAfter] using h2 k hk

theorem conformingSeq_transfer (msgs : List Props.C14.Msg) : ∀ (s s' : Slots) (T : List Slot),
    (∀ k, k ∉ T → s'.lookup k = s.lookup k) → Props.C14.ConformingSeq s msgs → Avoids T msgs →
    Props.C14.ConformingSeq s' msgs := by
  induction msgs with
  | nil => intro _ _ _ _ _ _; trivial
  | cons m r ih =>
    intro s s' T hag hc hav
    obtain ⟨long, es, body⟩ := m
    obtain ⟨hn, hconf, hv, hrest⟩ := hc
    obtain ⟨ha1, ha2⟩ := hav
    obtain ⟨h1, h2⟩ := conforming_transfer long es s s' T hag hconf ha1
    exact ⟨hn, h1, hv, ih _ _ _ h2 hrest ha2⟩

/-- the sender's slots after a history -/
def slotsAfter : Slots → List Props.C14.Msg → Slots
  | s, [] => s
  | s, (_, es, _) :: r => slotsAfter (sendSlots s es) r

theorem conformingSeq_append (m1 m2 : List Props.C14.Msg) : ∀ s : Slots,
    Props.C14.ConformingSeq s (m1 ++ m2) ↔ Props.C14.ConformingSeq s m1 ∧ Props.C14.ConformingSeq (slotsAfter s m1) m2 := by
  induction m1 with
  | nil => intro s; simp [Props.C14.ConformingSeq, slotsAfter]
  | cons m r ih =>
    intro s
    obtain ⟨long, es, body⟩ := m
    simp only [List.cons_append, Props.C14.ConformingSeq, slotsAfter, ih]
    constructor
    · rintro ⟨a, b, c, d, e⟩; exact ⟨⟨a, b, c, d⟩, e⟩
    · rintro ⟨⟨a, b, c, d⟩, e⟩; exact ⟨a, b, c, d, e⟩

theorem wroteSlots_self (c : Cache) : wroteSlots c c = [] := by simp [wroteSlots]

end Edp.DistHeader
