import EdpVerif.Impl.RegistryLocks
import EdpVerif.Lemmas.Procs
/-
C18 — the registry at lock granularity: the inductive invariant of the small-step model of Impl/RegistryLocks.lean for the
programs the source has (`srcProgs`), over every schedule of any number of tasks, and the refinement to the atomic operations.
-/
namespace Edp.Impl.RegistryLocks
open Edp.Impl.Procs

/-- the programs the events of registry.rs are read as (Props/C18.lean shows `progsOf Gen.… = some srcProgs` by evaluation) -/
def srcProgs : Progs :=
  ⟨[.acqNames, .checkLive, .claim], [.dropPid, .sweep], [.delName], [.lookup]⟩

/-- the seeded order: the liveness check in front of the names lock -/
def checkFirstProgs : Progs :=
  ⟨[.checkLive, .acqNames, .claim], [.dropPid, .sweep], [.delName], [.lookup]⟩

/-- what can be left of a function of `srcProgs`, or of the `[.insPid]` that `Call.task` gives an `insert` -/
def shapes : List (List Instr) :=
  [[], [.acqNames, .checkLive, .claim], [.checkLive, .claim], [.claim], [.dropPid, .sweep], [.sweep], [.delName], [.lookup], [.insPid]]

/-- the atomic operation an instruction stands for at its linearization point -/
def instrOp (n : Name) (p : Pid) : Instr → Option AOp
  | .checkLive => some (.register n p)
  | .dropPid => some (.drop p)
  | .sweep => some (.sweep p)
  | .delName => some (.unregister n)
  | .lookup => some (.whereis n)
  | .insPid => some (.insert p)
  | .acqNames => none
  | .claim => none

/-- the owner of a name / of a claim in progress is in `by_pid`, or its `remove` is between drop and sweep -/
def Owned (st : St) (p : Pid) : Prop := p ∈ st.reg.byPid ∨ Pend st.tasks p

structure LockInv (st : St) : Prop where
  shape : ∀ t, (st.tasks t).code ∈ shapes
  /-- exactly the task that is between the acquisition and the claim holds the names -/
  held : ∀ t, st.holder = some t ↔ ((st.tasks t).code = [.checkLive, .claim] ∨ (st.tasks t).code = [.claim])
  owned : ∀ n p, (n, p) ∈ st.reg.byName → Owned st p
  /-- a claim that found its process is for a process that is still there or whose `remove` has not swept yet: the sweep
  cannot run before the claim, it waits for the names -/
  claiming : ∀ t, (st.tasks t).code = [.claim] → (st.tasks t).live = true → Owned st (st.tasks t).pid
  uniq : (st.reg.byName.map (·.1)).Nodup

variable {st st' : St} {t : Tid} {k : Task} {i : Instr} {rest : List Instr} {op : AOp} {r : Reg} {ho : Option Tid}
  {l : List (Tid × AOp × Res)}

theorem run_inv {P : St → Prop} (hstep : ∀ {st st' t}, P st → step st t = some st' → P st') (h : P st) (sched : List Tid) :
    P (run st sched) := by
  induction sched generalizing st with
  | nil => exact h
  | cons t r ih =>
    simp only [run, List.foldl_cons]
    cases hs : step st t with
    | none => exact ih h
    | some st' => exact ih (hstep h hs)

/-- The enabled steps, by kind: the acquisition of the names, the check (where `register` is linearized), the claim, and
the one-statement instructions, which do to the registry what their atomic operation does and append it to `lin`. -/
theorem step_cases {P : St → Prop} (h : step st t = some st') (hk : st.tasks t = k)
    (acq : ∀ rest, k.code = .acqNames :: rest → st.holder = none →
      P { st with holder := some t, tasks := upd st.tasks t { k with code := rest } })
    (check : ∀ rest, k.code = .checkLive :: rest →
      P { st with tasks := upd st.tasks t { k with code := rest, live := decide (k.pid ∈ st.reg.byPid) },
                  lin := st.lin ++ [(t, .register k.name k.pid, (st.reg.register k.name k.pid).2)] })
    (claim : ∀ rest, k.code = .claim :: rest → st.holder = some t →
      P { st with reg := { st.reg with byName := (claimRes k.live k.name k.pid st.reg.byName).1 }, holder := none,
                  tasks := upd st.tasks t { k with code := rest, res := some (claimRes k.live k.name k.pid st.reg.byName).2 } })
    (atomic : ∀ i rest op res, k.code = i :: rest → i ≠ .checkLive → instrOp k.name k.pid i = some op →
      (st.holder = none ∨ i = .dropPid ∨ i = .insPid) → (res = some (op.apply st.reg).2 ∨ i = .dropPid ∧ res = k.res) →
      P { st with reg := (op.apply st.reg).1, tasks := upd st.tasks t { k with code := rest, res := res },
                  lin := st.lin ++ [(t, op, (op.apply st.reg).2)] }) : P st' := by
  subst hk
  unfold step at h
  cases hc : (st.tasks t).code with
  | nil => simp [hc] at h
  | cons i rest =>
    cases i <;> simp only [hc] at h
    case acqNames => split at h <;> cases h; exact acq rest hc ‹_›
    case checkLive => cases h; exact check rest hc
    case claim => split at h <;> cases h; exact claim rest hc ‹_›
    case dropPid => cases h; exact atomic .dropPid _ _ _ hc (by simp) rfl (.inr (.inl rfl)) (.inr ⟨rfl, rfl⟩)
    case insPid => cases h; exact atomic .insPid _ _ _ hc (by simp) rfl (.inr (.inr rfl)) (.inl rfl)
    all_goals split at h <;> cases h; exact atomic _ _ _ _ hc (by simp) rfl (.inl ‹_›) (.inl rfl)

theorem shapes_tail (h : i :: rest ∈ shapes) : rest ∈ shapes :=
  (by decide : ∀ c ∈ shapes, c.tail ∈ shapes) _ h

/-- a one-statement instruction is the last of its function, or the drop in front of the sweep -/
theorem shapes_atomic {n : Name} {p : Pid} (h : i :: rest ∈ shapes)
    (hop : instrOp n p i = some op) (hi : i ≠ .checkLive) : rest = if i = .dropPid then [.sweep] else [] := by
  cases i with
  | acqNames | claim => cases hop
  | checkLive => exact absurd rfl hi
  | _ => simpa [shapes] using h

/-- ownership survives a step of `t` that keeps `q` in `by_pid` or is the drop of `q`, unless `t` is the sweep of `q` -/
theorem owned_upd {q : Pid} (h : Owned st q) (hp : q ∈ st.reg.byPid → q ∈ r.byPid ∨ k.code = [.sweep] ∧ k.pid = q)
    (hc : (st.tasks t).code = [.sweep] → (st.tasks t).pid ≠ q) : Owned ⟨r, ho, upd st.tasks t k, l⟩ q := by
  rcases h with h | ⟨w, hw, hq⟩
  · rcases hp h with h | h
    · exact .inl h
    · exact .inr ⟨t, by simpa [upd] using h⟩
  · have : w ≠ t := fun e => hc (e ▸ hw) (e ▸ hq)
    exact .inr ⟨w, by simp [upd, this, hw, hq]⟩

theorem claimRes_mem {live : Bool} {n : Name} {p : Pid} {names : List (Name × Pid)} {e : Name × Pid}
    (h : e ∈ (claimRes live n p names).1) : e ∈ names ∨ (e = (n, p) ∧ live = true ∧ nameFind n names = none) := by
  unfold claimRes at h
  cases live with
  | false => simp at h; exact Or.inl h
  | true =>
    cases hf : nameFind n names with
    | some q => simp [hf] at h; exact Or.inl h
    | none =>
      simp [hf] at h
      rcases h with h | h
      · exact Or.inl h
      · exact Or.inr ⟨h, rfl, rfl⟩

theorem claimRes_nodup {live : Bool} {n : Name} {p : Pid} {names : List (Name × Pid)} (h : (names.map (·.1)).Nodup) :
    (((claimRes live n p names).1).map (·.1)).Nodup := by
  unfold claimRes
  cases live with
  | false => simpa using h
  | true =>
    cases hf : nameFind n names with
    | some q => simpa [hf] using h
    | none => simpa using nodup_keys_snoc p h hf

theorem unregister_names_sub (r : Reg) (n : Name) : ∀ e, e ∈ (r.unregister n).1.byName → e ∈ r.byName := by
  intro e h
  unfold Reg.unregister at h
  cases hf : nameFind n r.byName with
  | none => simpa [hf] using h
  | some q => simp [hf] at h; exact h.1

theorem unregister_byPid (r : Reg) (n : Name) : (r.unregister n).1.byPid = r.byPid := by
  unfold Reg.unregister
  cases hf : nameFind n r.byName <;> simp

theorem unregister_nodup (r : Reg) (n : Name) (h : (r.byName.map (·.1)).Nodup) : ((r.unregister n).1.byName.map (·.1)).Nodup := by
  unfold Reg.unregister
  cases hf : nameFind n r.byName with
  | none => simpa using h
  | some q => simp only []; exact nodup_keys_filter _ h

theorem register_eq_claimRes (r : Reg) (n : Name) (p : Pid) :
    r.register n p = ({ r with byName := (claimRes (decide (p ∈ r.byPid)) n p r.byName).1 },
                      (claimRes (decide (p ∈ r.byPid)) n p r.byName).2) := by
  unfold Reg.register claimRes
  by_cases hp : p ∈ r.byPid
  · cases hf : nameFind n r.byName <;> simp [hp]
  · simp [hp]

/-! what an atomic operation does to the two tables, as far as the invariant looks at them -/

theorem apply_byPid {q : Pid} (h : q ∈ r.byPid) : q ∈ (op.apply r).1.byPid ∨ op = .drop q := by
  cases op with
  | drop p =>
    by_cases e : p = q
    · exact .inr (e ▸ rfl)
    · exact .inl (by simp [AOp.apply, pidDel, h, Ne.symm e])
  | insert p => exact .inl (by simp only [AOp.apply, Reg.insert, pidIns]; split <;> simp [h])
  | register n p => exact .inl (by simpa [AOp.apply, register_eq_claimRes] using h)
  | unregister n => exact .inl (by simpa [AOp.apply, unregister_byPid] using h)
  | _ => exact .inl h

/-- only a `register` adds a name, and a sweep leaves no name to its process -/
theorem apply_byName {e : Name × Pid} (hop : ∀ n p, op ≠ .register n p) (h : e ∈ (op.apply r).1.byName) :
    e ∈ r.byName ∧ op ≠ .sweep e.2 := by
  cases op with
  | register n p => exact absurd rfl (hop n p)
  | sweep p => exact ⟨(mem_nameSweep.mp h).1, fun e' => (mem_nameSweep.mp h).2 (by cases e'; rfl)⟩
  | unregister n => exact ⟨unregister_names_sub _ _ _ h, nofun⟩
  | _ => exact ⟨h, nofun⟩

theorem apply_nodup (h : (r.byName.map (·.1)).Nodup) : ((op.apply r).1.byName.map (·.1)).Nodup := by
  cases op with
  | register n p => rw [AOp.apply, register_eq_claimRes]; exact claimRes_nodup h
  | sweep p => exact nodup_keys_filter _ h
  | unregister n => exact unregister_nodup _ _ h
  | _ => exact h

theorem shape_upd (hi : LockInv st) (hc : (st.tasks t).code = i :: rest) (hk : k.code = rest) (t' : Tid) :
    (upd st.tasks t k t').code ∈ shapes := by
  by_cases ht : t' = t
  · subst ht; simpa [upd, hk] using shapes_tail (hc ▸ hi.shape t')
  · simpa [upd, ht] using hi.shape t'

theorem LockInv.not_holder (hi : LockInv st) (hc : (st.tasks t).code = i :: rest) (hne : i ≠ .checkLive)
    (hop : instrOp (st.tasks t).name (st.tasks t).pid i = some op) : st.holder ≠ some t := fun e => by
  rcases (hi.held t).mp e with h | h <;> rw [hc] at h <;> cases h
  · exact hne rfl
  · cases hop

theorem lockInv_step (hi : LockInv st) (h : step st t = some st') : LockInv st' := by
  have hheld := hi.held
  have hs := hi.shape t
  refine step_cases h rfl ?_ ?_ ?_ ?_
  · intro rest hc hh
    have hr : rest = [.checkLive, .claim] := by simpa [hc, shapes] using hs
    have hnot : ∀ t', ¬ ((st.tasks t').code = [.checkLive, .claim] ∨ (st.tasks t').code = [.claim]) :=
      fun t' hx => by simpa [hh] using (hheld t').mpr hx
    refine ⟨shape_upd hi hc rfl, fun t' => ?_, fun n p hm => owned_upd (hi.owned n p hm) .inl (by simp [hc]), fun t' => ?_, hi.uniq⟩
    · by_cases ht : t' = t
      · simp [upd, ht, hr]
      · simpa [upd, ht, Ne.symm ht] using hnot t'
    · by_cases ht : t' = t
      · simp [upd, ht, hr]
      · intro h1; simp [upd, ht] at h1; exact absurd (.inr h1) (hnot t')
  · intro rest hc
    have hr : rest = [.claim] := by simpa [hc, shapes] using hs
    have hh : st.holder = some t := (hheld t).mpr (.inl (hr ▸ hc))
    refine ⟨shape_upd hi hc rfl, fun t' => ?_, fun n p hm => owned_upd (hi.owned n p hm) .inl (by simp [hc]), fun t' => ?_, hi.uniq⟩
    · by_cases ht : t' = t
      · simp [upd, ht, hr, hh]
      · simpa [upd, ht] using hheld t'
    · by_cases ht : t' = t
      · intro _ h2; simp [upd, ht] at h2 ⊢; exact .inl h2
      · intro h1; simp [upd, ht] at h1
        exact absurd (Option.some.inj (hh ▸ (hheld t').mpr (.inr h1))).symm ht
  · intro rest hc hh
    have hr : rest = [] := by simpa [hc, shapes] using hs
    have hnot : ∀ t', t' ≠ t → ¬ ((st.tasks t').code = [.checkLive, .claim] ∨ (st.tasks t').code = [.claim]) :=
      fun t' ht hx => ht (Option.some.inj (hh ▸ (hheld t').mpr hx)).symm
    refine ⟨shape_upd hi hc rfl, fun t' => ?_, fun n p hm => ?_, fun t' => ?_, claimRes_nodup hi.uniq⟩
    · by_cases ht : t' = t
      · simp [upd, ht, hr]
      · simpa [upd, ht] using hnot t' ht
    · rcases claimRes_mem hm with h1 | ⟨h1, h2, _⟩
      · exact owned_upd (hi.owned n p h1) .inl (by simp [hc])
      · cases h1; exact owned_upd (hi.claiming t (hr ▸ hc) h2) .inl (by simp [hc])
    · by_cases ht : t' = t
      · simp [upd, ht, hr]
      · intro h1; simp [upd, ht] at h1; exact absurd (.inr h1) (hnot t' ht)
  · intro i rest op res hc hne hop hg _
    have hr := shapes_atomic (hc ▸ hs) hop hne
    have hnh := hi.not_holder hc hne hop
    have hrn : ¬ (rest = [.checkLive, .claim] ∨ rest = [.claim]) := by rw [hr]; split <;> simp
    have hp : ∀ q, q ∈ st.reg.byPid → q ∈ (op.apply st.reg).1.byPid ∨ rest = [.sweep] ∧ (st.tasks t).pid = q := by
      intro q hq
      rcases apply_byPid (op := op) hq with h | h
      · exact .inl h
      · subst h; cases i <;> cases hop; exact .inr ⟨hr, rfl⟩
    have hsw : ∀ q, op ≠ .sweep q → (st.tasks t).code = [.sweep] → (st.tasks t).pid ≠ q := by
      intro q hq hcs e
      rw [hc] at hcs; cases hcs; cases hop; exact hq (e ▸ rfl)
    refine ⟨shape_upd hi hc rfl, fun t' => ?_, fun n p hm => ?_, fun t' => ?_, apply_nodup hi.uniq⟩
    · by_cases ht : t' = t
      · simp [upd, ht, hnh, hrn]
      · simpa [upd, ht] using hheld t'
    · have := apply_byName (fun n p e => by subst e; cases i <;> cases hop; exact hne rfl) hm
      exact owned_upd (hi.owned n p this.1) (hp p) (hsw p this.2)
    · by_cases ht : t' = t
      · intro h1; simp [upd, ht] at h1; exact absurd (.inr h1) hrn
      · intro h1 h2
        simp [upd, ht] at h1 h2 ⊢
        refine owned_upd (hi.claiming t' h1 h2) (hp _) (hsw _ ?_)
        have := (hheld t').mpr (.inr h1)
        rcases hg with hg | rfl | rfl
        · simp [hg] at this
        · cases hop; nofun
        · cases hop; nofun

theorem lockInv_run (hi : LockInv st) (sched : List Tid) : LockInv (run st sched) :=
  run_inv lockInv_step hi sched

/-- the registry a schedule starts from: every name's owner is a process of it, and the names are a map -/
def RegOK (r : Reg) : Prop := (∀ n p, (n, p) ∈ r.byName → p ∈ r.byPid) ∧ (r.byName.map (·.1)).Nodup

theorem lockInv_init {r0 : Reg} (h0 : RegOK r0) (calls : List Call) : LockInv (init srcProgs r0 calls) := by
  have hcode : ∀ t, ((init srcProgs r0 calls).tasks t).code ∈ shapes ∧
      ((init srcProgs r0 calls).tasks t).code ≠ [.checkLive, .claim] ∧ ((init srcProgs r0 calls).tasks t).code ≠ [.claim] := by
    intro t
    simp only [init]
    cases calls[t]? with
    | none => simp [shapes]
    | some c => cases c <;> simp [Call.task, srcProgs, shapes]
  refine ⟨fun t => (hcode t).1, ?_, ?_, ?_, h0.2⟩
  · intro t
    have := hcode t
    constructor
    · intro h; simp [init] at h
    · rintro (h | h)
      · exact absurd h this.2.1
      · exact absurd h this.2.2
  · intro n p hm
    exact Or.inl (h0.1 n p hm)
  · intro t h
    exact absurd h (hcode t).2.2

/-! ### refinement: the ghost order `lin` is a sequential history of the atomic operations with the same tables and answers -/

theorem replay_snoc (r : Reg) (ops : List AOp) (o : AOp) :
    replay r (ops ++ [o]) = ((o.apply (replay r ops).1).1, (replay r ops).2 ++ [(o.apply (replay r ops).1).2]) := by
  simp [replay, List.foldl_append]

/-- the names as the sequential history has them: a `register` that has read `by_pid` under the lock has, in the sequential
order, claimed already -/
def absN (holder : Option Tid) (tasks : Tid → Task) (names : List (Name × Pid)) : List (Name × Pid) :=
  match holder with
  | some t => if (tasks t).code = [.claim] then (claimRes (tasks t).live (tasks t).name (tasks t).pid names).1 else names
  | none => names

theorem absN_upd {holder : Option Tid} {tasks : Tid → Task} {t : Tid} {k : Task} {names : List (Name × Pid)}
    (h : holder ≠ some t) : absN holder (upd tasks t k) names = absN holder tasks names := by
  cases holder with
  | none => rfl
  | some w =>
    have : w ≠ t := fun e => h (by rw [e])
    simp [absN, upd, this]

structure LinInv (r0 : Reg) (st : St) : Prop where
  sim : replay r0 (st.lin.map (·.2.1)) =
    ({ byPid := st.reg.byPid, byName := absN st.holder st.tasks st.reg.byName }, st.lin.map (·.2.2))
  answered : ∀ t r, (st.tasks t).res = some r → ∃ op, (t, op, r) ∈ st.lin
  promised : ∀ t, st.holder = some t → (st.tasks t).code = [.claim] →
    (t, AOp.register (st.tasks t).name (st.tasks t).pid,
      (claimRes (st.tasks t).live (st.tasks t).name (st.tasks t).pid st.reg.byName).2) ∈ st.lin

theorem linInv_init (pr : Progs) (r0 : Reg) (calls : List Call) : LinInv r0 (init pr r0 calls) := by
  refine ⟨by simp [init, replay, absN], ?_, ?_⟩
  · intro t r h
    simp only [init] at h
    cases hc : calls[t]? with
    | none => simp [hc] at h
    | some c => cases c <;> simp [hc, Call.task] at h
  · intro t h; simp [init] at h

theorem answered_upd {ts : Tid → Task} {l' : List (Tid × AOp × Res)}
    (ha : ∀ t r, (ts t).res = some r → ∃ op, (t, op, r) ∈ l) (hl : l ⊆ l')
    (hk : ∀ r, k.res = some r → ∃ op, (t, op, r) ∈ l') : ∀ t' r, (upd ts t k t').res = some r → ∃ op, (t', op, r) ∈ l' := by
  intro t' r hr
  by_cases ht : t' = t
  · subst ht; exact hk r (by simpa [upd] using hr)
  · obtain ⟨op, ho⟩ := ha t' r (by simpa [upd, ht] using hr)
    exact ⟨op, hl ho⟩

theorem linInv_step {r0 : Reg} (hl : LockInv st) (hi : LinInv r0 st) (h : step st t = some st') :
    LinInv r0 st' := by
  have hs := hl.shape t
  have hsim := hi.sim
  refine step_cases h rfl ?_ ?_ ?_ ?_
  · intro rest hc hh
    have hr : rest = [.checkLive, .claim] := by simpa [hc, shapes] using hs
    refine ⟨?_, answered_upd hi.answered (fun _ h => h) (hi.answered t), ?_⟩
    · simpa [absN, upd, hh, hr] using hsim
    · intro t' h1 h2; cases h1; simp [upd, hr] at h2
  · -- the linearization point of `register`
    intro rest hc
    have hr : rest = [.claim] := by simpa [hc, shapes] using hs
    have hh : st.holder = some t := (hl.held t).mpr (.inl (hr ▸ hc))
    refine ⟨?_, answered_upd hi.answered (List.subset_append_left _ _)
      (fun r h => (hi.answered t r h).imp fun _ => List.mem_append_left _), ?_⟩
    · simp only [List.map_append, List.map_cons, List.map_nil]
      rw [replay_snoc, hsim]
      simp [absN, hh, hc, hr, upd, AOp.apply]
      rw [register_eq_claimRes]
    · intro t' h1 _
      cases hh.symm.trans h1
      simp [upd, register_eq_claimRes]
  · intro rest hc hh
    have hr : rest = [] := by simpa [hc, shapes] using hs
    refine ⟨?_, answered_upd hi.answered (fun _ h => h) ?_, nofun⟩
    · simpa [absN, hh, hc, hr] using hsim
    · rintro r ⟨⟩; exact ⟨_, hi.promised t hh (hr ▸ hc)⟩
  · intro i rest op res hc hne hop hg hres
    have hnh := hl.not_holder hc hne hop
    refine ⟨?_, answered_upd hi.answered (List.subset_append_left _ _) ?_, ?_⟩
    · simp only [List.map_append, List.map_cons, List.map_nil]
      rw [replay_snoc, hsim, absN_upd hnh]
      rcases hg with hg | rfl | rfl
      · simp [hg, absN]
      · cases hop; simp [AOp.apply]
      · cases hop; simp [AOp.apply, Reg.insert]
    · intro r hr
      rcases hres with rfl | ⟨_, rfl⟩
      · cases hr; exact ⟨op, List.mem_append_right _ (List.mem_singleton.mpr rfl)⟩
      · exact (hi.answered t r hr).imp fun _ => List.mem_append_left _
    · intro t' h1 h2
      have ht : t' ≠ t := fun e => hnh (e ▸ h1)
      simp [upd, ht] at h2 ⊢
      rcases hg with hg | rfl | rfl
      · simp [hg] at h1
      · cases hop; simpa [AOp.apply] using hi.promised t' h1 h2
      · cases hop; simpa [AOp.apply, Reg.insert] using hi.promised t' h1 h2

theorem linInv_run {r0 : Reg} {st : St} (hl : LockInv st) (hi : LinInv r0 st) (sched : List Tid) :
    LinInv r0 (run st sched) :=
  (run_inv (P := fun st => LockInv st ∧ LinInv r0 st) (fun h hs => ⟨lockInv_step h.1 hs, linInv_step h.1 h.2 hs⟩) ⟨hl, hi⟩ sched).2

/-! ### the ghost order keeps every call's operations in program order (for ANY programs) -/

/-- the atomic operations a task still has to linearize -/
def Task.opsLeft (k : Task) : List AOp := k.code.filterMap (instrOp k.name k.pid)

/-- the atomic operations task `t` has linearized, in the order of `lin` -/
def doneOps (st : St) (t : Tid) : List AOp := (st.lin.filter (fun e => e.1 = t)).map (·.2.1)

def ProgOrder (ops0 : Tid → List AOp) (st : St) : Prop := ∀ t, doneOps st t ++ (st.tasks t).opsLeft = ops0 t

theorem progOrder_silent {ops0 : Tid → List AOp} (hi : ProgOrder ops0 st)
    (hc : (st.tasks t).code = i :: rest) (hk : k.opsLeft = rest.filterMap (instrOp (st.tasks t).name (st.tasks t).pid))
    (hn : instrOp (st.tasks t).name (st.tasks t).pid i = none) :
    ProgOrder ops0 ⟨r, ho, upd st.tasks t k, st.lin⟩ := by
  intro t'
  by_cases ht : t' = t
  · subst ht; have := hi t'; rw [Task.opsLeft, hc] at this; simpa [doneOps, upd, hk, hn] using this
  · simpa [doneOps, upd, ht] using hi t'

theorem progOrder_op {ops0 : Tid → List AOp} (hi : ProgOrder ops0 st)
    (hc : (st.tasks t).code = i :: rest) (hk : k.opsLeft = rest.filterMap (instrOp (st.tasks t).name (st.tasks t).pid))
    (hn : instrOp (st.tasks t).name (st.tasks t).pid i = some op) {a : Res} :
    ProgOrder ops0 ⟨r, ho, upd st.tasks t k, st.lin ++ [(t, op, a)]⟩ := by
  intro t'
  by_cases ht : t' = t
  · subst ht; have := hi t'; rw [Task.opsLeft, hc] at this; simpa [doneOps, upd, hk, hn, List.filter_append] using this
  · simpa [doneOps, upd, ht, Ne.symm ht, List.filter_append] using hi t'

theorem progOrder_step {ops0 : Tid → List AOp} (hi : ProgOrder ops0 st) (h : step st t = some st') :
    ProgOrder ops0 st' := by
  refine step_cases h rfl ?_ ?_ ?_ ?_
  · exact fun rest hc _ => progOrder_silent hi hc rfl rfl
  · exact fun rest hc => progOrder_op hi hc rfl rfl
  · exact fun rest hc _ => progOrder_silent hi hc rfl rfl
  · exact fun i rest op res hc _ hop _ _ => progOrder_op hi hc rfl hop

theorem progOrder_run {ops0 : Tid → List AOp} {st : St} (hi : ProgOrder ops0 st) (sched : List Tid) :
    ProgOrder ops0 (run st sched) :=
  run_inv progOrder_step hi sched

/-- the atomic operations of a call, in program order: `remove` is its drop and its sweep -/
def Call.ops : Call → List AOp
  | .register n p => [.register n p]
  | .remove p => [.drop p, .sweep p]
  | .unregister n => [.unregister n]
  | .whereis n => [.whereis n]
  | .insert p => [.insert p]

/-- what task `t` of `calls` has to linearize -/
def callOps (calls : List Call) (t : Tid) : List AOp := match calls[t]? with | some c => c.ops | none => []

theorem progOrder_init (r0 : Reg) (calls : List Call) : ProgOrder (callOps calls) (init srcProgs r0 calls) := by
  intro t
  simp only [doneOps, init, callOps, List.filter_nil, List.map_nil, List.nil_append]
  cases calls[t]? with
  | none => rfl
  | some c => cases c <;> rfl

theorem quiescent_holder (hl : LockInv st) (hq : Quiescent st) : st.holder = none := by
  cases hh : st.holder with
  | none => rfl
  | some t =>
    have := (hl.held t).mp hh
    simp [hq t] at this

theorem length_two_tids (l : List (Tid × AOp × Res)) (h : ∀ e ∈ l, e.1 = 0 ∨ e.1 = 1) :
    l.length = (l.filter (fun e => e.1 = 0)).length + (l.filter (fun e => e.1 = 1)).length := by
  induction l with
  | nil => rfl
  | cons e l ih =>
    have ih := ih (fun x hx => h x (List.mem_cons_of_mem _ hx))
    rcases h e (List.mem_cons_self) with h0 | h1
    · simp [h0, ih]; omega
    · simp [h1, ih]; omega

/-- one task with one operation and one task with two: the three interleavings -/
theorem interleavings_1_2 (l : List (Tid × AOp × Res)) (a b c : AOp)
    (h2 : ∀ t, 2 ≤ t → (l.filter (fun e => e.1 = t)) = [])
    (h0 : (l.filter (fun e => e.1 = 0)).map (·.2.1) = [a])
    (h1 : (l.filter (fun e => e.1 = 1)).map (·.2.1) = [b, c]) :
    ∃ ra rb rc, l = [(0, a, ra), (1, b, rb), (1, c, rc)] ∨ l = [(1, b, rb), (0, a, ra), (1, c, rc)] ∨
      l = [(1, b, rb), (1, c, rc), (0, a, ra)] := by
  have htid : ∀ e ∈ l, e.1 = 0 ∨ e.1 = 1 := fun e he => by
    by_cases h : 2 ≤ e.1
    · have : e ∈ l.filter (fun x => x.1 = e.1) := by simp [he]
      simp [h2 e.1 h] at this
    · match e.1, h with
      | 0, _ => exact .inl rfl
      | 1, _ => exact .inr rfl
      | n + 2, h => exact absurd (Nat.le_add_left 2 n) h
  have hlen := length_two_tids l htid
  have l0 := congrArg List.length h0
  have l1 := congrArg List.length h1
  simp only [List.length_map, List.length_cons, List.length_nil] at l0 l1
  rw [l0, l1] at hlen
  obtain ⟨⟨t1, o1, r1⟩, ⟨t2, o2, r2⟩, ⟨t3, o3, r3⟩, rfl⟩ : ∃ e1 e2 e3, l = [e1, e2, e3] := by
    rcases l with _ | ⟨e1, _ | ⟨e2, _ | ⟨e3, _ | ⟨e4, r⟩⟩⟩⟩
    case cons.cons.cons.nil => exact ⟨_, _, _, rfl⟩
    all_goals simp at hlen
  have k1 := htid _ (.head _)
  have k2 := htid _ (.tail _ (.head _))
  have k3 := htid _ (.tail _ (.tail _ (.head _)))
  simp only at k1 k2 k3
  rcases k1 with rfl | rfl <;> rcases k2 with rfl | rfl <;> rcases k3 with rfl | rfl <;> simp at h0 h1
  · exact ⟨r1, r2, r3, .inl (by simp [h0, h1])⟩
  · exact ⟨r2, r1, r3, .inr (.inl (by simp [h0, h1]))⟩
  · exact ⟨r3, r1, r2, .inr (.inr (by simp [h0, h1]))⟩

def Returned (m : Nat) (st : St) : Prop := ∀ t, t < m → (st.tasks t).code = [] → (st.tasks t).res ≠ none

theorem returned_init (r0 : Reg) (calls : List Call) : Returned calls.length (init srcProgs r0 calls) := by
  intro t ht hc
  simp only [init] at hc
  have : calls[t]? = some calls[t] := List.getElem?_eq_getElem ht
  rw [this] at hc
  cases hcall : calls[t] <;> simp [hcall, Call.task, srcProgs] at hc

theorem returned_upd {m : Nat} (hi : Returned m st) (hk : k.code = [] → k.res ≠ none) :
    Returned m ⟨r, ho, upd st.tasks t k, l⟩ := by
  intro t' ht'
  by_cases ht : t' = t
  · subst ht; simpa [upd] using hk
  · simpa [upd, ht] using hi t' ht'

theorem returned_step {m : Nat} (hl : LockInv st) (hi : Returned m st) (h : step st t = some st') :
    Returned m st' := by
  have hs := hl.shape t
  refine step_cases h rfl ?_ ?_ ?_ ?_
  · intro rest hc _
    have hr : rest = [.checkLive, .claim] := by simpa [hc, shapes] using hs
    exact returned_upd hi (by simp [hr])
  · intro rest hc
    have hr : rest = [.claim] := by simpa [hc, shapes] using hs
    exact returned_upd hi (by simp [hr])
  · exact fun rest _ _ => returned_upd hi (by simp)
  · intro i rest op res hc hne hop _ hres
    refine returned_upd hi fun hr => ?_
    rcases hres with rfl | ⟨rfl, _⟩
    · simp
    · simp [shapes_atomic (hc ▸ hs) hop hne] at hr

theorem returned_run {m : Nat} {st : St} (hl : LockInv st) (hi : Returned m st) (sched : List Tid) :
    Returned m (run st sched) :=
  (run_inv (P := fun st => LockInv st ∧ Returned m st) (fun h hs => ⟨lockInv_step h.1 hs, returned_step h.1 h.2 hs⟩) ⟨hl, hi⟩ sched).2

end Edp.Impl.RegistryLocks
