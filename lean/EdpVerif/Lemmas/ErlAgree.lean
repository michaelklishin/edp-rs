import EdpVerif.Lemmas.NumKey
import EdpVerif.Spec.ErlOrder
import EdpVerif.Lemmas.Utf8
/-!
The leaves of the agreement with Erlang's term order (C12): numbers compare on both sides as their exact keys
(`agree_num`); byte order of valid UTF-8 is code point order (`utf8_order`); a float with a fractional part ties with no
integer (`cmpNum_int_frac`), which is what the guard on map keys asks.
-/
open Edp Edp.Term
namespace Edp

theorem pow_cast (n : Nat) : ((2 ^ n : Nat) : Int) = (2 : Int) ^ n := by
  simp [Int.natCast_pow]

theorem cmpScaled_eq (x ex y ey : Int) (hx : -1074 ≤ ex) (hy : -1074 ≤ ey) :
    Erl.cmpScaled x ex y ey =
      compare (x * ((2 ^ (ex + 1074).toNat : Nat) : Int)) (y * ((2 ^ (ey + 1074).toNat : Nat) : Int)) := by
  unfold Erl.cmpScaled
  simp only []
  generalize he : min ex ey = e
  have h : e ≤ ex ∧ e ≤ ey ∧ -1074 ≤ e := by omega
  have e1 : (ex + 1074).toNat = (ex - e).toNat + (e + 1074).toNat := by omega
  have e2 : (ey + 1074).toNat = (ey - e).toNat + (e + 1074).toNat := by omega
  rw [e1, e2, Nat.pow_add, Nat.pow_add, Int.natCast_mul, Int.natCast_mul, ← Int.mul_assoc, ← Int.mul_assoc,
    int_compare_mul _ _ _ (Nat.two_pow_pos _), pow_cast, pow_cast]

def finiteBits (b : Nat) : Bool := (f64 b).exp != 2047

/-- the exact value of a number in units of `2^-1074` -/
def erlNumKey : Value → Int
  | .int i => i * (scaleK : Int)
  | .float b => fkey (f64 b)
  | _ => 0

theorem dyadic_eq (b : Nat) (h : finiteBits b) : Erl.dyadic b = some ((f64 b).neg, (f64 b).mant, (f64 b).expo) := by
  simp only [finiteBits, bne_iff_ne, ne_eq] at h
  unfold Erl.dyadic F64.mant F64.expo
  simp only [f64] at h ⊢
  by_cases h0 : b / 2 ^ 52 % 2048 = 0 <;> simp [h, h0]

theorem numVal_int (i : Int) : Erl.numVal (.int i) = some (i, 0) := rfl
theorem numVal_float (b : Nat) (h : finiteBits b) :
    Erl.numVal (.float b) = some (if (f64 b).neg then -((f64 b).mant : Int) else (f64 b).mant, (f64 b).expo) := by
  simp [Erl.numVal, dyadic_eq b h]

theorem scaled_int (i : Int) : i * ((2 ^ ((0 : Int) + 1074).toNat : Nat) : Int) = i * (scaleK : Int) := by
  rw [show ((0 : Int) + 1074).toNat = 1074 by omega]; unfold scaleK; rfl

theorem scaled_float (b : Nat) (h : finiteBits b) :
    (if (f64 b).neg then -((f64 b).mant : Int) else (f64 b).mant) * ((2 ^ ((f64 b).expo + 1074).toNat : Nat) : Int) =
      fkey (f64 b) := by
  simp only [finiteBits, bne_iff_ne, ne_eq] at h
  unfold fkey smVal F64.mag
  rw [if_neg h]
  split <;> simp [Int.neg_mul]

/-- `numFin` on the side of the values: an integer or a finite float -/
def erlNumFin (u : Value) : Prop := (∃ i, u = .int i) ∨ (∃ b, u = .float b ∧ finiteBits b)

theorem numVal_key (u : Value) (hu : erlNumFin u) :
    ∃ m e, Erl.numVal u = some (m, e) ∧ -1074 ≤ e ∧ m * ((2 ^ (e + 1074).toNat : Nat) : Int) = erlNumKey u := by
  rcases hu with ⟨i, rfl⟩ | ⟨b, rfl, hb⟩
  · exact ⟨i, 0, rfl, by omega, scaled_int i⟩
  · exact ⟨_, _, numVal_float b hb, F64.expo_ge _, scaled_float b hb⟩

theorem cmpNum_key (u v : Value) (hu : erlNumFin u) (hv : erlNumFin v) :
    Erl.cmpNum u v = compare (erlNumKey u) (erlNumKey v) := by
  obtain ⟨m, e, h1, h2, h3⟩ := numVal_key u hu
  obtain ⟨m', e', h1', h2', h3'⟩ := numVal_key v hv
  unfold Erl.cmpNum
  rw [h1, h1']
  simp only []
  rw [cmpScaled_eq _ _ _ _ h2 h2', h3, h3']

/-- floats are finite (non-finite floats have no Erlang value) -/
def numFin : Term → Bool
  | .float b => finiteBits b
  | _ => true

theorem thenO_eq_right (o : Ordering) : Erl.thenO o .eq = o := by cases o <;> rfl

theorem fcls_finite (b : Nat) (h : finiteBits b) : fcls (f64 b) = 0 := by
  simp only [finiteBits, bne_iff_ne, ne_eq] at h
  have h1 : (f64 b).isNaN = false := by simp [F64.isNaN, h]
  have h2 : (f64 b).isInf = false := by simp [F64.isInf, h]
  simp [fcls, h1, h2]

theorem num_den (x : Term) (hn : rank x = 0) (hf : numFin x) :
    erlNumFin (den x) ∧ numKey x = (0, erlNumKey (den x)) := by
  rcases rank_eq_0 hn with ⟨_, rfl⟩ | ⟨_, _, rfl⟩ | ⟨_, rfl⟩
  · exact ⟨.inl ⟨_, rfl⟩, rfl⟩
  · exact ⟨.inl ⟨_, rfl⟩, rfl⟩
  · simp only [numFin] at hf
    exact ⟨.inr ⟨_, rfl, hf⟩, by simp [numKey, den, erlNumKey, fcls_finite _ hf]⟩

theorem cmpX_num (u v : Value) (hu : erlNumFin u) (hv : erlNumFin v) :
    Erl.cmpX false u v = compare (erlNumKey u) (erlNumKey v) := by
  have hk := cmpNum_key u v hu hv
  rcases hu with ⟨i, rfl⟩ | ⟨b, rfl, hb⟩ <;> rcases hv with ⟨j, rfl⟩ | ⟨c, rfl, hc⟩ <;>
    simp only [Erl.cmpX, Erl.rank, ne_eq, not_true_eq_false, if_false, Bool.false_eq_true, thenO_eq_right]
  · exact (int_compare_mul _ _ _ scaleK_pos).symm
  all_goals exact hk

theorem agree_num (x y : Term) (hx : rank x = 0) (hy : rank y = 0) (ox : numOk x) (oy : numOk y) (fx : numFin x) (fy : numFin y) :
    cmpN x y = Erl.cmpX false (den x) (den y) := by
  obtain ⟨dx, kx⟩ := num_den x hx fx
  obtain ⟨dy, ky⟩ := num_den y hy fy
  rw [cmpN_num x y hx hy ox oy, kx, ky, cmpX_num _ _ dx dy, cmpKey_zero]

theorem erl_thenO (a b : Ordering) : Erl.thenO a b = a.then b := by cases a <;> rfl

theorem natsCmp_eq_lexCmp : ∀ (a b : List Nat), Erl.natsCmp a b = lexCmp a b
  | [], [] => rfl
  | [], _ :: _ => rfl
  | _ :: _, [] => rfl
  | x :: xs, y :: ys => by simp only [Erl.natsCmp, lexCmp, thenO, erl_thenO, natsCmp_eq_lexCmp xs ys]

/-- the bytes of one UTF-8 encoded character and its code point, both written in the payload digits (base 64) -/
inductive U8Head : List Nat → Nat → Prop
  | one (b0 : Nat) : b0 < 128 → U8Head [b0] b0
  | two (x y : Nat) : 2 ≤ x → x < 32 → y < 64 → U8Head [x + 192, y + 128] (x * 64 + y)
  | three (x y z : Nat) : x < 16 → y < 64 → z < 64 → 2048 ≤ (x * 64 + y) * 64 + z →
      U8Head [x + 224, y + 128, z + 128] ((x * 64 + y) * 64 + z)
  | four (x y z w : Nat) : x < 8 → y < 64 → z < 64 → w < 64 → 65536 ≤ ((x * 64 + y) * 64 + z) * 64 + w →
      U8Head [x + 240, y + 128, z + 128, w + 128] (((x * 64 + y) * 64 + z) * 64 + w)

/-- a continuation byte `10xxxxxx` is its six payload bits plus 128 -/
theorem cont_digit {b : UInt8} (h : isCont b) : b.toNat % 64 < 64 ∧ b.toNat % 64 + 128 = b.toNat := by
  have := (isCont_iff b).mp h
  omega

/-- the decoder's view: lead byte ranges, continuation bytes, code point by masking -/
theorem U8Head.two' {b0 b1 : UInt8} (h : 194 ≤ b0.toNat ∧ b0.toNat ≤ 223) (c1 : isCont b1) :
    U8Head [b0.toNat, b1.toNat] (b0.toNat % 32 * 64 + b1.toNat % 64) := by
  obtain ⟨d1, e1⟩ := cont_digit c1
  have := U8Head.two (b0.toNat % 32) (b1.toNat % 64) (by omega) (by omega) d1
  rwa [e1, show b0.toNat % 32 + 192 = b0.toNat by omega] at this

theorem U8Head.three' {b0 b1 b2 : UInt8} (h : 224 ≤ b0.toNat ∧ b0.toNat ≤ 239) (c1 : isCont b1) (c2 : isCont b2)
    (lo : 2048 ≤ b0.toNat % 16 * 4096 + b1.toNat % 64 * 64 + b2.toNat % 64) :
    U8Head [b0.toNat, b1.toNat, b2.toNat] (b0.toNat % 16 * 4096 + b1.toNat % 64 * 64 + b2.toNat % 64) := by
  obtain ⟨d1, e1⟩ := cont_digit c1
  obtain ⟨d2, e2⟩ := cont_digit c2
  have e0 : b0.toNat % 16 < 16 ∧ b0.toNat % 16 + 224 = b0.toNat := by omega
  -- the digits as variables: what is left is linear
  generalize b0.toNat % 16 = x at *; generalize b1.toNat % 64 = y at *; generalize b2.toNat % 64 = z at *
  have := U8Head.three x y z e0.1 d1 d2 (by omega)
  rwa [e0.2, e1, e2, show (x * 64 + y) * 64 + z = x * 4096 + y * 64 + z by omega] at this

theorem U8Head.four' {b0 b1 b2 b3 : UInt8} (h : 240 ≤ b0.toNat ∧ b0.toNat ≤ 244) (c1 : isCont b1) (c2 : isCont b2)
    (c3 : isCont b3) (lo : 65536 ≤ b0.toNat % 8 * 262144 + b1.toNat % 64 * 4096 + b2.toNat % 64 * 64 + b3.toNat % 64) :
    U8Head [b0.toNat, b1.toNat, b2.toNat, b3.toNat]
      (b0.toNat % 8 * 262144 + b1.toNat % 64 * 4096 + b2.toNat % 64 * 64 + b3.toNat % 64) := by
  obtain ⟨d1, e1⟩ := cont_digit c1
  obtain ⟨d2, e2⟩ := cont_digit c2
  obtain ⟨d3, e3⟩ := cont_digit c3
  have e0 : b0.toNat % 8 < 8 ∧ b0.toNat % 8 + 240 = b0.toNat := by omega
  generalize b0.toNat % 8 = x at *; generalize b1.toNat % 64 = y at *; generalize b2.toNat % 64 = z at *
  generalize b3.toNat % 64 = w at *
  have := U8Head.four x y z w e0.1 d1 d2 d3 (by omega)
  rwa [e0.2, e1, e2, e3, show ((x * 64 + y) * 64 + z) * 64 + w = x * 262144 + y * 4096 + z * 64 + w by omega] at this

theorem utf8_inv (a : Bytes) (cs : List Nat) (h : utf8Decode a = some cs) :
    (a = [] ∧ cs = []) ∨ ∃ hd cp r' cs', a.map UInt8.toNat = hd ++ r'.map UInt8.toNat ∧ U8Head hd cp ∧
      utf8Decode r' = some cs' ∧ cs = cp :: cs' ∧ r'.length < a.length := by
  revert h
  fun_cases utf8Decode a <;> intro h <;> (try cases h; done)
  · exact .inl ⟨rfl, by simpa using h.symm⟩
  · rename_i b0 r _ h0
    obtain ⟨cs', h1, h2⟩ := Option.map_eq_some_iff.mp h
    exact .inr ⟨[b0.toNat], b0.toNat, r, cs', by simp, .one _ h0, h1, h2.symm, by simp⟩
  · rename_i b0 _ _ h0 b1 r' hc
    obtain ⟨cs', h1, h2⟩ := Option.map_eq_some_iff.mp h
    exact .inr ⟨[b0.toNat, b1.toNat], _, r', cs', by simp, .two' h0 hc, h1, h2.symm, by simp; omega⟩
  · rename_i b0 _ _ _ h0 b1 b2 r' _ hc
    simp only [Bool.and_eq_true, decide_eq_true_eq] at hc
    obtain ⟨cs', h1, h2⟩ := Option.map_eq_some_iff.mp h
    exact .inr ⟨[b0.toNat, b1.toNat, b2.toNat], _, r', cs', by simp,
      .three' h0 hc.1.1.1 hc.1.1.2 hc.1.2, h1, h2.symm, by simp; omega⟩
  · rename_i b0 _ _ _ _ h0 b1 b2 b3 r' _ hc
    simp only [Bool.and_eq_true, decide_eq_true_eq] at hc
    obtain ⟨cs', h1, h2⟩ := Option.map_eq_some_iff.mp h
    exact .inr ⟨[b0.toNat, b1.toNat, b2.toNat, b3.toNat], _, r', cs', by simp,
      .four' h0 hc.1.1.1.1 hc.1.1.1.2 hc.1.1.2 hc.1.2, h1, h2.symm, by simp; omega⟩

theorem lex64 (a c b d : Nat) (O : Ordering) (hb : b < 64) (hd : d < 64) :
    (compare a c).then ((compare b d).then O) = (compare (a * 64 + b) (c * 64 + d)).then O := by
  rw [← Ordering.then_assoc, compare_base 64 a b c d hb hd]

theorem lt_head (x y : Nat) (X O : Ordering) (cp cp' : Nat) (h1 : x < y) (h2 : cp < cp') :
    (compare x y).then X = (compare cp cp').then O := by
  rw [Nat.compare_eq_lt.mpr h1, Nat.compare_eq_lt.mpr h2]; rfl

theorem gt_head (x y : Nat) (X O : Ordering) (cp cp' : Nat) (h1 : y < x) (h2 : cp' < cp) :
    (compare x y).then X = (compare cp cp').then O := by
  rw [Nat.compare_eq_gt.mpr h1, Nat.compare_eq_gt.mpr h2]; rfl

/-- UTF-8 preserves code point order, one character at a time: a longer encoding has the larger lead byte and the larger
code point; encodings of one length compare as their digits -/
theorem head_cmp {h h' : List Nat} {cp cp' : Nat} (H : U8Head h cp) (H' : U8Head h' cp') (R R' : List Nat) :
    lexCmp (h ++ R) (h' ++ R') = (compare cp cp').then (lexCmp R R') := by
  cases H <;> cases H' <;> simp only [List.cons_append, List.nil_append, lexCmp, thenO, nat_compare_add]
  case two.two _ _ _ _ hy _ _ _ _ hy' => exact lex64 _ _ _ _ _ hy hy'
  case three.three _ _ _ _ hy hz _ _ _ _ _ hy' hz' _ => rw [lex64 _ _ _ _ _ hy hy', lex64 _ _ _ _ _ hz hz']
  case four.four _ _ _ _ _ hy hz hw _ _ _ _ _ _ hy' hz' hw' _ =>
    rw [lex64 _ _ _ _ _ hy hy', lex64 _ _ _ _ _ hz hz', lex64 _ _ _ _ _ hw hw']
  all_goals first
    | exact lt_head _ _ _ _ _ _ (by omega) (by omega)
    | exact gt_head _ _ _ _ _ _ (by omega) (by omega)

/-- UTF-8 preserves code point order: byte-wise order of valid UTF-8 = order of the code point sequences -/
theorem utf8_order (a b : Bytes) (ca cb : List Nat) (ha : utf8Decode a = some ca) (hb : utf8Decode b = some cb) :
    bytesCmp a b = lexCmp ca cb := by
  induction hn : a.length using Nat.strongRecOn generalizing a b ca cb with
  | _ n ih =>
    rcases utf8_inv a ca ha with ⟨rfl, rfl⟩ | ⟨hd, cp, r', cs', e1, H, d1, rfl, l1⟩ <;>
      rcases utf8_inv b cb hb with ⟨rfl, rfl⟩ | ⟨hd', cp', r'', cs'', e1', H', d1', rfl, l1'⟩
    · rfl
    · cases b with
      | nil => simp at l1'
      | cons => rfl
    · cases a with
      | nil => simp at l1
      | cons => rfl
    · have ih := ih r'.length (hn ▸ l1) r' r'' cs' cs'' d1 d1' rfl
      unfold bytesCmp at ih ⊢
      rw [e1, e1', head_cmp H H', ih]; rfl

theorem cps_agree (a b : Bytes) (ha : validUtf8 a) (hb : validUtf8 b) :
    Erl.natsCmp (cps a) (cps b) = bytesCmp a b := by
  unfold validUtf8 at ha hb
  obtain ⟨ca, ha⟩ := Option.isSome_iff_exists.mp ha
  obtain ⟨cb, hb⟩ := Option.isSome_iff_exists.mp hb
  rw [natsCmp_eq_lexCmp, utf8_order a b ca cb ha hb]
  simp [cps, ha, hb]

theorem norm_num (a : Term) (h : isNum a) : norm a = a := by
  cases a <;> simp [isNum] at h <;> simp [norm]

theorem sortMaps_num (a : Term) (h : isNum a) : Erl.sortMaps (den a) = den a := by
  cases a <;> simp [isNum] at h <;> simp [den, Erl.sortMaps]

theorem agrees_numbers (a b : Term) (ha : isNum a) (hb : isNum b) (oa : numOk a) (ob : numOk b)
    (fa : numFin a) (fb : numFin b) : Term.cmp a b = Erl.cmp (den a) (den b) := by
  unfold Term.cmp Erl.cmp
  rw [norm_num a ha, norm_num b hb, sortMaps_num a ha, sortMaps_num b hb]
  exact agree_num a b (rank_of_isNum ha) (rank_of_isNum hb) oa ob fa fb

/-- a finite float with a non-integer value: it ties with no integer -/
def fracF (b : Nat) : Bool :=
  finiteBits b && decide ((f64 b).expo < 0) && ((f64 b).mant % 2 ^ (-(f64 b).expo).toNat != 0)

theorem fracF_finite {b : Nat} (h : fracF b) : finiteBits b := by
  simp only [fracF, Bool.and_eq_true] at h; exact h.1.1

theorem natAbs_smVal (n : Bool) (v : Nat) : (smVal n v).natAbs = v := by
  unfold smVal; cases n <;> simp

theorem key_int_frac (x : Int) (b : Nat) (h : fracF b) : x * (scaleK : Int) ≠ fkey (f64 b) := by
  simp only [fracF, Bool.and_eq_true, decide_eq_true_eq, bne_iff_ne, ne_eq] at h
  obtain ⟨⟨hf, he⟩, hm⟩ := h
  have hfin : ¬ (f64 b).exp = 2047 := by simpa [finiteBits] using hf
  intro heq
  unfold fkey at heq
  rw [if_neg hfin] at heq
  have hge := F64.expo_ge (f64 b)
  obtain ⟨k, hk⟩ : ∃ k : Nat, (f64 b).expo = -(k : Int) := ⟨(-(f64 b).expo).toNat, by omega⟩
  have hk1 : k ≤ 1074 := by omega
  have e1 : (-(f64 b).expo).toNat = k := by omega
  have e2 : ((f64 b).expo + 1074).toNat = 1074 - k := by omega
  rw [e1] at hm
  have habs := congrArg Int.natAbs heq
  rw [natAbs_smVal, Int.natAbs_mul, Int.natAbs_natCast] at habs
  unfold F64.mag at habs
  rw [e2, scaleK_split k hk1, ← Nat.mul_assoc] at habs
  have hcancel := Nat.eq_of_mul_eq_mul_right (Nat.two_pow_pos (1074 - k)) habs
  apply hm
  rw [← hcancel, Nat.mul_mod_left]

theorem cmpNum_int_frac (x : Int) (b : Nat) (h : fracF b) :
    Erl.cmpNum (.int x) (.float b) ≠ .eq ∧ Erl.cmpNum (.float b) (.int x) ≠ .eq := by
  have hf := fracF_finite h
  constructor
  · rw [cmpNum_key _ _ (.inl ⟨x, rfl⟩) (.inr ⟨b, rfl, hf⟩)]
    intro he; exact key_int_frac x b h (Int.compare_eq_eq.mp he)
  · rw [cmpNum_key _ _ (.inr ⟨b, rfl, hf⟩) (.inl ⟨x, rfl⟩)]
    intro he; exact key_int_frac x b h (Int.compare_eq_eq.mp he).symm

theorem thenO_ne_eq (o a b : Ordering) (h : o ≠ .eq) : Erl.thenO o a = Erl.thenO o b := by
  cases o <;> simp_all [Erl.thenO]

end Edp
