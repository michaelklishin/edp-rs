import EdpVerif.Lemmas.OrderTrans
import EdpVerif.Lemmas.ErlAgreeBits
import EdpVerif.Lemmas.EqCmp
/-!
The recursive agreement theorem (C12): `Term.cmp a b = Erl.cmp (den a) (den b)` for well-formed terms.
-/
open Edp Edp.Term
namespace Edp

theorem vmkList_nil (t : Value) : Value.mkList [] t = t := by
  cases t <;> rfl

theorem vmkList_assoc (a b : List Value) (t : Value) :
    Value.mkList a (Value.mkList b t) = Value.mkList (a ++ b) t := by
  cases a with
  | nil => simp [vmkList_nil]
  | cons x a =>
    cases b with
    | nil => simp [vmkList_nil]
    | cons y b => cases t <;> simp [Value.mkList, List.append_assoc]

theorem denL_append : ∀ (a b : List Term), denL (a ++ b) = denL a ++ denL b
  | [], b => by simp [denL]
  | x :: a, b => by simp [denL, denL_append a b]

theorem den_mkList (l : List Term) : den (mkList l) = Value.mkList (denL l) .nil := by
  cases l <;> simp [mkList, den, denL, Value.mkList]

theorem den_mkIlist (l : List Term) (t : Term) : den (mkIlist l t) = Value.mkList (denL l) (den t) := by
  cases l with
  | nil => simp [mkIlist, denL, vmkList_nil]
  | cons x l =>
    cases t <;> simp only [mkIlist, den]
    case list l2 => rw [vmkList_assoc, denL_append]
    case ilist l2 t2 => rw [vmkList_assoc, denL_append]

mutual
theorem den_norm : ∀ (t : Term), den (norm t) = den t
  | .atom _ | .int _ | .float _ | .pid _ | .port _ _ _ _ | .ref _ _ _ _ | .bin _
  | .bits _ _ | .str _ | .xfun _ _ _ | .nil | .big _ _ => rfl
  | .tuple l => congrArg Value.tuple (denL_normL l)
  | .map kvs => congrArg Value.map (denKV_normKV kvs)
  | .ifun _ _ _ _ _ _ _ _ fr => congrArg (Value.ifun _ _ _ _ _ _ _ _) (denL_normL fr)
  | .list l => by rw [norm_list, den_mkList, denL_normL l]; simp [den]
  | .ilist l t => by rw [norm_ilist, den_mkIlist, denL_normL l, den_norm t]; simp [den]
theorem denL_normL : ∀ (l : List Term), denL (normL l) = denL l
  | [] => rfl
  | t :: ts => by simp [normL, denL, den_norm t, denL_normL ts]
theorem denKV_normKV : ∀ (l : List (Term × Term)), denKV (normKV l) = denKV l
  | [] => rfl
  | (k, v) :: r => by simp [normKV, denKV, den_norm k, den_norm v, denKV_normKV r]
end

mutual
/-- no float with an integer value anywhere in the value (such a float would tie with an integer) -/
def Value.noTie : Value → Bool
  | .float b => fracF b
  | .tuple l => Value.noTieL l
  | .cons l t => Value.noTieL l && Value.noTie t
  | .map kvs => Value.noTieKV kvs
  | .ifun _ _ _ _ _ _ _ p fr => Value.noTie p && Value.noTieL fr
  | _ => true
def Value.noTieL : List Value → Bool
  | [] => true
  | v :: r => Value.noTie v && Value.noTieL r
def Value.noTieKV : List (Value × Value) → Bool
  | [] => true
  | (k, v) :: r => Value.noTie k && Value.noTie v && Value.noTieKV r
end

/-- map keys denote values without integer-valued floats (inside map keys Erlang orders an integer before the float of
equal value, the library does not: recorded finding; a float with a fractional part ties with no integer) -/
def keysExact (kvs : List (Term × Term)) : Bool := kvs.all fun p => Value.noTie (den p.1)

mutual
/-- the guard of the agreement theorem: big integers minimal, floats finite, atom texts valid UTF-8 (a type invariant
of `Atom`), bit-strings as the decoder produces them, map keys float-free -/
def WFe : Term → Bool
  | .atom n => validUtf8 n
  | .int _ => true
  | .float b => finiteBits b
  | .pid p => validUtf8 p.node
  | .port n _ _ _ => validUtf8 n
  | .ref n _ _ _ => validUtf8 n
  | .bin _ => true
  | .bits b n => bitsOk b n
  | .str _ => true
  | .list l => WFeL l
  | .ilist l t => WFeL l && WFe t
  | .map kvs => WFeKV kvs && keysExact kvs
  | .tuple l => WFeL l
  | .big _ d => minDigits d
  | .xfun m f _ => validUtf8 m && validUtf8 f
  | .ifun _ _ _ _ m _ _ p fr => validUtf8 m && validUtf8 p.node && WFeL fr
  | .nil => true
def WFeL : List Term → Bool
  | [] => true
  | t :: ts => WFe t && WFeL ts
def WFeKV : List (Term × Term) → Bool
  | [] => true
  | (k, v) :: r => WFe k && WFe v && WFeKV r
end

theorem WFeL_append : ∀ (a b : List Term), WFeL (a ++ b) = (WFeL a && WFeL b)
  | [], b => by simp [WFeL]
  | x :: a, b => by simp [WFeL, WFeL_append a b, Bool.and_assoc]

theorem WFeL_mem : ∀ {l : List Term} {x : Term}, WFeL l → x ∈ l → WFe x
  | y :: l, x, h, hx => by
    simp only [WFeL, Bool.and_eq_true] at h
    rcases List.mem_cons.mp hx with rfl | hx
    · exact h.1
    · exact WFeL_mem h.2 hx

theorem WFeKV_mem : ∀ {l : List (Term × Term)} {x : Term × Term}, WFeKV l → x ∈ l → WFe x.1 ∧ WFe x.2
  | (k, v) :: l, x, h, hx => by
    simp only [WFeKV, Bool.and_eq_true] at h
    rcases List.mem_cons.mp hx with rfl | hx
    · exact ⟨h.1.1, h.1.2⟩
    · exact WFeKV_mem h.2 hx

theorem WFe_mkList (l : List Term) (h : WFeL l) : WFe (mkList l) := by
  cases l <;> simp [mkList, WFe] ; exact h

theorem WFe_mkIlist (l : List Term) (t : Term) (h : WFeL l) (h2 : WFe t) : WFe (mkIlist l t) := by
  cases l with
  | nil => simpa [mkIlist] using h2
  | cons x l =>
    cases t <;> simp only [mkIlist, WFe, Bool.and_eq_true, WFeL_append] <;> simp only [WFe, Bool.and_eq_true] at h2 <;>
      first
      | exact h
      | exact ⟨h, h2⟩
      | exact ⟨⟨h, h2.1⟩, h2.2⟩

theorem keysExact_normKV : ∀ (l : List (Term × Term)), keysExact (normKV l) = keysExact l
  | [] => by simp [normKV]
  | (k, v) :: r => by
    have := keysExact_normKV r
    simp only [keysExact, normKV, List.all_cons, den_norm] at this ⊢
    rw [this]

mutual
theorem WFe_norm : ∀ (t : Term), WFe t → WFe (norm t)
  | .atom _, h | .int _, h | .float _, h | .pid _, h | .port _ _ _ _, h | .ref _ _ _ _, h | .bin _, h
  | .bits _ _, h | .str _, h | .xfun _ _ _, h | .nil, h | .big _ _, h => h
  | .tuple l, h => WFeL_normL l h
  | .map kvs, h => by
    simp only [WFe, Bool.and_eq_true] at h
    simp [norm, WFe, WFeKV_normKV kvs h.1, keysExact_normKV, h.2]
  | .ifun _ _ _ _ _ _ _ _ fr, h => by
    simp only [WFe, Bool.and_eq_true] at h
    simp [norm, WFe, h.1.1, h.1.2, WFeL_normL fr h.2]
  | .list l, h => by rw [norm_list]; exact WFe_mkList _ (WFeL_normL l h)
  | .ilist l t, h => by
    simp only [WFe, Bool.and_eq_true] at h
    rw [norm_ilist]; exact WFe_mkIlist _ _ (WFeL_normL l h.1) (WFe_norm t h.2)
theorem WFeL_normL : ∀ (l : List Term), WFeL l → WFeL (normL l)
  | [], _ => rfl
  | t :: ts, h => by
    simp only [WFeL, Bool.and_eq_true] at h
    simp [normL, WFeL, WFe_norm t h.1, WFeL_normL ts h.2]
theorem WFeKV_normKV : ∀ (l : List (Term × Term)), WFeKV l → WFeKV (normKV l)
  | [], _ => rfl
  | (k, v) :: r, h => by
    simp only [WFeKV, Bool.and_eq_true] at h
    simp [normKV, WFeKV, WFe_norm k h.1.1, WFe_norm v h.1.2, WFeKV_normKV r h.2]
end

mutual
theorem WFo_of_WFe : ∀ (t : Term), WFe t → WFo t
  | .atom _, _ | .int _, _ | .float _, _ | .pid _, _ | .port _ _ _ _, _ | .ref _ _ _ _, _ | .bin _, _
  | .bits _ _, _ | .str _, _ | .xfun _ _ _, _ | .nil, _ => rfl
  | .big _ _, h => h
  | .tuple l, h | .list l, h => WFoL_of_WFeL l h
  | .map kvs, h => WFoKV_of_WFeKV kvs (Bool.and_eq_true_iff.mp h).1
  | .ifun _ _ _ _ _ _ _ _ fr, h => WFoL_of_WFeL fr (Bool.and_eq_true_iff.mp h).2
  | .ilist l t, h => by
    simp only [WFe, Bool.and_eq_true] at h
    simp [WFo, WFoL_of_WFeL l h.1, WFo_of_WFe t h.2]
theorem WFoL_of_WFeL : ∀ (l : List Term), WFeL l → WFoL l
  | [], _ => rfl
  | t :: ts, h => by
    simp only [WFeL, Bool.and_eq_true] at h
    simp [WFoL, WFo_of_WFe t h.1, WFoL_of_WFeL ts h.2]
theorem WFoKV_of_WFeKV : ∀ (l : List (Term × Term)), WFeKV l → WFoKV l
  | [], _ => rfl
  | (k, v) :: r, h => by
    simp only [WFeKV, Bool.and_eq_true] at h
    simp [WFoKV, WFo_of_WFe k h.1.1, WFo_of_WFe v h.1.2, WFoKV_of_WFeKV r h.2]
end

theorem vnoTieL_mem : ∀ {l : List Value} {x : Value}, Value.noTieL l → x ∈ l → Value.noTie x
  | y :: l, x, h, hx => by
    simp only [Value.noTieL, Bool.and_eq_true] at h
    rcases List.mem_cons.mp hx with rfl | hx
    · exact h.1
    · exact vnoTieL_mem h.2 hx

theorem exact_zip (e : Bool) : ∀ (xs ys : List Value) (b ao bo : Ordering),
    (∀ x ∈ xs, ∀ y ∈ ys, Erl.cmpX true x y = Erl.cmpX e x y) →
    Erl.cmpZip true xs ys b ao bo = Erl.cmpZip e xs ys b ao bo
  | [], [], _, _, _, _ => by simp [Erl.cmpZip]
  | [], _ :: _, _, _, _, _ => by simp [Erl.cmpZip]
  | _ :: _, [], _, _, _, _ => by simp [Erl.cmpZip]
  | x :: xs, y :: ys, b, ao, bo, ih => by
    simp only [Erl.cmpZip]
    rw [ih x (by simp) y (by simp), exact_zip e xs ys b ao bo (fun x hx y hy =>
      ih x (List.mem_cons_of_mem _ hx) y (List.mem_cons_of_mem _ hy))]

/-- `cmpKeys_zip`, `cmpVals_zip` on the side of the spec, where keys are always compared exactly (`true`) -/
theorem erl_cmpKeys_zip : ∀ (xs ys : List (Value × Value)),
    Erl.cmpKeys xs ys = Erl.cmpZip true (xs.map (·.1)) (ys.map (·.1)) .eq .eq .eq
  | [], [] | [], _ :: _ | _ :: _, [] => by simp [Erl.cmpKeys, Erl.cmpZip]
  | (k, _) :: r, (k2, _) :: r2 => by simp only [Erl.cmpKeys, List.map_cons, Erl.cmpZip, erl_cmpKeys_zip r r2]
theorem erl_cmpVals_zip (e : Bool) : ∀ (xs ys : List (Value × Value)),
    Erl.cmpVals e xs ys = Erl.cmpZip e (xs.map (·.2)) (ys.map (·.2)) .eq .eq .eq
  | [], [] | [], _ :: _ | _ :: _, [] => by simp [Erl.cmpVals, Erl.cmpZip]
  | (_, v) :: r, (_, v2) :: r2 => by simp only [Erl.cmpVals, List.map_cons, Erl.cmpZip, erl_cmpVals_zip e r r2]

theorem vnoTieKV_mem : ∀ {l : List (Value × Value)} {x : Value × Value}, Value.noTieKV l → x ∈ l →
    Value.noTie x.1 ∧ Value.noTie x.2
  | (k, v) :: l, x, h, hx => by
    simp only [Value.noTieKV, Bool.and_eq_true] at h
    rcases List.mem_cons.mp hx with rfl | hx
    · exact ⟨h.1.1, h.1.2⟩
    · exact vnoTieKV_mem h.2 hx

theorem exact_step (u : Value)
    (ih : ∀ u', sizeOf u' < sizeOf u → ∀ v', Value.noTie u' → Value.noTie v' → Erl.cmpX true u' v' = Erl.cmpX false u' v')
    (v : Value) (hu : Value.noTie u) (hv : Value.noTie v) : Erl.cmpX true u v = Erl.cmpX false u v := by
  -- `exact` is looked at for an integer against a float and handed down to the children; elsewhere both sides compute alike
  cases u <;> cases v <;> (try rfl) <;> simp only [Value.noTie, Bool.and_eq_true] at hu hv <;>
    simp only [Erl.cmpX, Erl.rank, ne_eq, not_true_eq_false, if_false]
  case int.float x b => exact thenO_ne_eq _ _ _ (cmpNum_int_frac x b hv).1
  case float.int b x => exact thenO_ne_eq _ _ _ (cmpNum_int_frac x b hu).2
  case tuple.tuple x y =>
    rw [exact_zip false x y _ _ _ (fun a ha b hb => ih a (by
      have := List.sizeOf_lt_of_mem ha; simp only [Value.tuple.sizeOf_spec]; omega) b (vnoTieL_mem hu ha) (vnoTieL_mem hv hb))]
  case cons.cons x t y t2 =>
    rw [ih t (by simp only [Value.cons.sizeOf_spec]; omega) t2 hu.2 hv.2,
      exact_zip false x y _ _ _ (fun a ha b hb => ih a (by
        have := List.sizeOf_lt_of_mem ha; simp only [Value.cons.sizeOf_spec]; omega) b (vnoTieL_mem hu.1 ha) (vnoTieL_mem hv.1 hb))]
  case map.map x y =>
    rw [erl_cmpVals_zip, erl_cmpVals_zip, exact_zip false _ _ _ _ _ (fun a ha b hb => by
      obtain ⟨⟨k, w⟩, hp, rfl⟩ := List.mem_map.mp ha
      obtain ⟨q, hq, rfl⟩ := List.mem_map.mp hb
      have := List.sizeOf_lt_of_mem hp
      exact ih w (by simp only [Value.map.sizeOf_spec, Prod.mk.sizeOf_spec] at this ⊢; omega) q.2
        (vnoTieKV_mem hu hp).2 (vnoTieKV_mem hv hq).2)]
  case ifun.ifun a1 u1 i1 n1 m1 oi1 ou1 p1 fr1 a2 u2 i2 n2 m2 oi2 ou2 p2 fr2 =>
    rw [ih p1 (by simp only [Value.ifun.sizeOf_spec]; omega) p2 hu.1 hv.1,
      exact_zip false fr1 fr2 _ _ _ (fun a ha b hb => ih a (by
        have := List.sizeOf_lt_of_mem ha; simp only [Value.ifun.sizeOf_spec]; omega) b (vnoTieL_mem hu.2 ha) (vnoTieL_mem hv.2 hb))]

/-- on values without integer-valued floats the map-key order (`exact = true`) is the general order -/
theorem exact_irrelevant (u v : Value) (hu : Value.noTie u) (hv : Value.noTie v) :
    Erl.cmpX true u v = Erl.cmpX false u v := exact_step u (fun u' _ v' => exact_irrelevant u' v') v hu hv
termination_by sizeOf u

theorem mkBits_shape (b : Bytes) (n : Nat) : ∃ b' n', Value.mkBits b n = .bitstr b' n' := by
  unfold Value.mkBits; split
  · exact ⟨_, _, rfl⟩
  · exact ⟨_, _, rfl⟩

theorem erank_nonlist (x : Term) (h : rank x ≠ 8) :
    Erl.rank (den x) = if rank x = 9 then 10 else rank x := by
  cases x <;> simp [rank] at h <;> simp only [den, rank] <;> (try rfl)
  all_goals (obtain ⟨b', n', e⟩ := mkBits_shape _ _; rw [e]; rfl)

theorem den_not_cons (x : Term) (h : rank x ≠ 8) (a : List Value) (b : Value) : den x ≠ .cons a b := by
  intro e
  have := erank_nonlist x h
  rw [e] at this
  simp only [Erl.rank] at this
  split at this <;> omega

theorem vmkList_cons (es : List Value) (t : Value) (hes : es ≠ []) (ht : ∀ a b, t ≠ .cons a b) :
    Value.mkList es t = .cons es t := by
  cases es with
  | nil => exact absurd rfl hes
  | cons x es => cases t <;> simp [Value.mkList] ; exact absurd rfl (ht _ _)

theorem denL_ne_nil {l : List Term} (h : l ≠ []) : denL l ≠ [] := by
  cases l with
  | nil => exact absurd rfl h
  | cons x l => simp [denL]

/-- tail of a normal list-like term as a value -/
def tailDen : Option Term → Value
  | none => .nil
  | some t => den t

theorem den_cells {a : Term} (ha : rank a = 8) (na : NF a) :
    ((cells a).1 = [] ∧ a = .nil) ∨ ((cells a).1 ≠ [] ∧ den a = .cons (denL (cells a).1) (tailDen (cells a).2)) := by
  rcases rank_eq_8 ha with rfl | ⟨x, rfl⟩ | ⟨x, t, rfl⟩
  · exact .inl ⟨rfl, rfl⟩
  · simp only [NF, Bool.and_eq_true, Bool.not_eq_true', List.isEmpty_eq_false_iff] at na
    refine .inr ⟨na.1, ?_⟩
    simp only [den, cells, tailDen]
    exact vmkList_cons _ _ (denL_ne_nil na.1) (by intro a b h; cases h)
  · obtain ⟨_, ok, _⟩ := cells_NF ha na
    simp only [NF, Bool.and_eq_true, Bool.not_eq_true', List.isEmpty_eq_false_iff] at na
    refine .inr ⟨na.1.1.1, ?_⟩
    simp only [den, cells, tailDen]
    exact vmkList_cons _ _ (denL_ne_nil na.1.1.1) (den_not_cons t ok)

theorem erank_spec (x : Term) (nx : NF x) :
    (rank x ≤ 7 → Erl.rank (den x) = rank x) ∧ (rank x = 8 → (Erl.rank (den x) = 8 ∨ Erl.rank (den x) = 9)) ∧
      (rank x = 9 → Erl.rank (den x) = 10) := by
  refine ⟨fun h => ?_, fun h => ?_, fun h => ?_⟩
  · rw [erank_nonlist x (by omega), if_neg (by omega)]
  · rcases den_cells h nx with ⟨_, rfl⟩ | ⟨_, e⟩
    · exact .inl rfl
    · exact .inr (by rw [e]; rfl)
  · rw [erank_nonlist x (by omega), if_pos h]

theorem cmpX_of_rank_ne (e : Bool) (u v : Value) (h : Erl.rank u ≠ Erl.rank v) :
    Erl.cmpX e u v = compare (Erl.rank u) (Erl.rank v) := (Erl.cmpX.eq_def e u v).trans (if_pos h)

/-- `den` is monotone on ranks -/
theorem erank_lt (x y : Term) (nx : NF x) (ny : NF y) (h : rank x < rank y) : Erl.rank (den x) < Erl.rank (den y) := by
  obtain ⟨x1, x2, _⟩ := erank_spec x nx
  obtain ⟨y1, y2, y3⟩ := erank_spec y ny
  have := rank_le_9 y
  rcases Nat.lt_or_ge (rank x) 8 with a | a
  · have := x1 (by omega)
    rcases Nat.lt_or_ge (rank y) 8 with b | b
    · have := y1 (by omega); omega
    · rcases Nat.lt_or_ge (rank y) 9 with c | c
      · have := y2 (by omega); omega
      · have := y3 (by omega); omega
  · have := x2 (by omega); have := y3 (by omega); omega

/-- different ranks: both sides compare the ranks -/
theorem agree_rank_ne (x y : Term) (nx : NF x) (ny : NF y) (h : rank x ≠ rank y) :
    cmpN x y = Erl.cmpX false (den x) (den y) := by
  rw [cmpN_of_rank_ne x y h]
  rcases Nat.lt_or_gt_of_ne h with hl | hl
  · have := erank_lt x y nx ny hl
    rw [cmpX_of_rank_ne _ _ _ (by omega), Nat.compare_eq_lt.mpr hl, Nat.compare_eq_lt.mpr this]
  · have := erank_lt y x ny nx hl
    rw [cmpX_of_rank_ne _ _ _ (by omega), Nat.compare_eq_gt.mpr hl, Nat.compare_eq_gt.mpr this]

theorem zip_agree (e : Bool) : ∀ (xs ys : List Term) (both ao bo : Ordering),
    (∀ x ∈ xs, ∀ y ∈ ys, cmpN x y = Erl.cmpX e (den x) (den y)) →
    cmpZip xs ys both ao bo = Erl.cmpZip e (denL xs) (denL ys) both ao bo
  | [], [], _, _, _, _ => by simp [cmpZip, denL, Erl.cmpZip]
  | [], _ :: _, _, _, _, _ => by simp [cmpZip, denL, Erl.cmpZip]
  | _ :: _, [], _, _, _, _ => by simp [cmpZip, denL, Erl.cmpZip]
  | x :: xs, y :: ys, both, ao, bo, ih => by
    simp only [cmpZip, denL, Erl.cmpZip, thenO, erl_thenO]
    rw [ih x (by simp) y (by simp), zip_agree e xs ys both ao bo (fun x hx y hy =>
      ih x (List.mem_cons_of_mem _ hx) y (List.mem_cons_of_mem _ hy))]

theorem denKV_fst : ∀ (l : List (Term × Term)), (denKV l).map (·.1) = denL (l.map (·.1))
  | [] => rfl
  | (_, _) :: l => by simp [denKV, denL, denKV_fst l]
theorem denKV_snd : ∀ (l : List (Term × Term)), (denKV l).map (·.2) = denL (l.map (·.2))
  | [] => rfl
  | (_, _) :: l => by simp [denKV, denL, denKV_snd l]

theorem denL_length : ∀ (l : List Term), (denL l).length = l.length
  | [] => rfl
  | _ :: l => by simp [denL, denL_length l]
theorem denKV_length : ∀ (l : List (Term × Term)), (denKV l).length = l.length
  | [] => rfl
  | (_, _) :: l => by simp [denKV, denKV_length l]

theorem pid_agree (e : Bool) (p q : PidF) (hp : validUtf8 p.node) (hq : validUtf8 q.node) :
    Erl.cmpX e (.pid (cps p.node) p.id p.serial p.creation) (.pid (cps q.node) q.id q.serial q.creation) = pidCmp p q := by
  simp only [Erl.cmpX, Erl.rank, ne_eq, not_true_eq_false, if_false, cps_agree _ _ hp hq, pidCmp, thenO, erl_thenO]

theorem keysExact_mem {l : List (Term × Term)} {p : Term × Term} (h : keysExact l) (hp : p ∈ l) :
    Value.noTie (den p.1) := by
  simp only [keysExact, List.all_eq_true] at h
  exact h p hp

theorem cells_WFe {a : Term} (ha : rank a = 8) (wa : WFe a) :
    WFeL (cells a).1 ∧ (∀ t, (cells a).2 = some t → WFe t) := by
  rcases rank_eq_8 ha with rfl | ⟨x, rfl⟩ | ⟨x, t, rfl⟩
  · simp [cells, WFeL]
  · exact ⟨wa, fun _ h => nomatch h⟩
  · simp only [WFe, Bool.and_eq_true] at wa
    refine ⟨wa.1, ?_⟩
    intro t' ht; simp only [cells, Option.some.injEq] at ht; subst ht; exact wa.2

/-- `Erl.rank` splits the model's list rank 8 into nil (8) and cons cell (9) and moves bit-strings to 10 (`erank_nonlist`);
so a tail that is not a list compares with either of the two, `k`, as its model rank compares with `listRank` -/
theorem erank_vs_list (t : Term) (h : rank t ≠ 8) (k : Nat) (hk : k = 8 ∨ k = 9) :
    Erl.rank (den t) ≠ k ∧ compare (Erl.rank (den t)) k = compare (rank t) listRank ∧
      compare k (Erl.rank (den t)) = compare listRank (rank t) := by
  have := rank_le_9 t
  have lt : ∀ a b : Nat, a < b → compare a b = .lt ∧ compare b a = .gt :=
    fun _ _ h => ⟨Nat.compare_eq_lt.mpr h, Nat.compare_eq_gt.mpr h⟩
  rw [erank_nonlist t h, listRank]
  by_cases h9 : rank t = 9
  · rw [if_pos h9, h9, (lt k 10 (by omega)).1, (lt k 10 (by omega)).2]
    exact ⟨by omega, by decide, by decide⟩
  · rw [if_neg h9, (lt (rank t) k (by omega)).1, (lt (rank t) k (by omega)).2, (lt (rank t) 8 (by omega)).1,
      (lt (rank t) 8 (by omega)).2]
    exact ⟨by omega, rfl, rfl⟩

theorem erank_tail (t : Option Term) (ok : tailOk t) :
    aOutOf t = compare (Erl.rank (tailDen t)) 9 ∧ bOutOf t = compare 9 (Erl.rank (tailDen t)) := by
  cases t with
  | none => exact ⟨rfl, rfl⟩
  | some t =>
    obtain ⟨_, h1, h2⟩ := erank_vs_list t ok 9 (.inr rfl)
    exact ⟨h1.symm, h2.symm⟩

theorem tail_agree (tx ty : Option Term) (ox : tailOk tx) (oy : tailOk ty)
    (h : ∀ t u, tx = some t → ty = some u → cmpN t u = Erl.cmpX false (den t) (den u)) :
    cmpTail tx ty = Erl.cmpX false (tailDen tx) (tailDen ty) := by
  match tx, ty, ox, oy, h with
  | none, none, _, _, _ => rfl
  | none, some u, _, oy, _ =>
    obtain ⟨h0, _, h2⟩ := erank_vs_list u oy 8 (.inl rfl)
    exact ((cmpX_of_rank_ne false .nil (den u) (Ne.symm h0)).trans h2).symm
  | some t, none, ox, _, _ =>
    obtain ⟨h0, h1, _⟩ := erank_vs_list t ox 8 (.inl rfl)
    exact ((cmpX_of_rank_ne false (den t) .nil h0).trans h1).symm
  | some t, some u, _, _, h => exact h t u rfl rfl

theorem bp_facts {a : Term} (ha : rank a = 9) (wa : WFe a) :
    den a = Value.mkBits (bp a).1 (bp a).2 ∧ bitsOk (bp a).1 (bp a).2 := by
  rcases rank_eq_9 ha with ⟨x, rfl⟩ | ⟨x, n, rfl⟩ | ⟨x, rfl⟩
  · exact ⟨rfl, bitsOk_bytes x⟩
  · exact ⟨rfl, wa⟩
  · exact ⟨rfl, bitsOk_bytes x⟩

/-- on normal well-formed terms `cmpN` is Erlang's order of the denotations, maps compared in stored order -/
theorem cmpN_agree (x y : Term) (nx : NF x) (ny : NF y) (wx : WFe x) (wy : WFe y) :
    cmpN x y = Erl.cmpX false (den x) (den y) := by
  induction x, y using cmpN_ind with
  | ne x y h => exact agree_rank_ne x y nx ny h
  | num x y hx hy =>
    have fin : ∀ t, WFe t → numFin t := by
      intro t h; cases t <;> first | rfl | exact h
    exact agree_num x y hx hy (numOk_of_NF nx) (numOk_of_NF ny) (fin x wx) (fin y wy)
  | atom a b => exact (cmpN_atom a b).trans (cps_agree a b wx wy).symm
  | ref n _ _ _ n2 =>
    simp only [cmpN_ref, den, Erl.cmpX, Erl.rank, ne_eq, not_true_eq_false, if_false, cps_agree n n2 wx wy, erl_thenO,
      natsCmp_eq_lexCmp]
  | xfun =>
    simp only [WFe, Bool.and_eq_true] at wx wy
    simp only [cmpN_xfun, den, Erl.cmpX, Erl.rank, ne_eq, not_true_eq_false, if_false, cps_agree _ _ wx.1 wy.1,
      cps_agree _ _ wx.2 wy.2, erl_thenO]
  | xfun_ifun => exact cmpN_xfun_ifun ..
  | ifun_xfun => exact cmpN_ifun_xfun ..
  | ifun _ _ _ _ _ _ _ p fr _ _ _ _ _ _ _ p2 fr2 ih =>
    simp only [WFe, Bool.and_eq_true] at wx wy
    have hz := zip_agree false fr fr2 .eq .lt .gt (fun a ha b hb =>
      ih a ha b hb (NFL_mem nx ha) (NFL_mem ny hb) (WFeL_mem wx.2 ha) (WFeL_mem wy.2 hb))
    simp only [cmpN_ifun, den, Erl.cmpX, Erl.rank, ne_eq, not_true_eq_false, if_false, cps_agree _ _ wx.1.1 wy.1.1,
      erl_thenO, natsCmp_eq_lexCmp, hz]
    have hp := pid_agree false p p2 wx.1.2 wy.1.2
    simp only [Erl.cmpX, Erl.rank, ne_eq, not_true_eq_false, if_false, erl_thenO, natsCmp_eq_lexCmp] at hp
    rw [hp]; rfl
  | port n _ _ _ n2 =>
    simp only [cmpN_port, den, Erl.cmpX, Erl.rank, ne_eq, not_true_eq_false, if_false, cps_agree n n2 wx wy, erl_thenO]
  | pid p q =>
    simp only [cmpN_pid, den, pid_agree false p q wx wy]
  | tuple a b ih =>
    have hz := zip_agree false a b .eq .eq .eq (fun u hu v hv =>
      ih u hu v hv (NFL_mem nx hu) (NFL_mem ny hv) (WFeL_mem wx hu) (WFeL_mem wy hv))
    simp only [cmpN_tuple, den, Erl.cmpX, Erl.rank, ne_eq, not_true_eq_false, if_false, erl_thenO, hz, denL_length]
  | map a b ihk ihv =>
    simp only [WFe, Bool.and_eq_true] at wx wy
    have hk := zip_agree true (a.map (·.1)) (b.map (·.1)) .eq .eq .eq (fun u hu v hv => by
      obtain ⟨p, hp, rfl⟩ := List.mem_map.mp hu
      obtain ⟨q, hq, rfl⟩ := List.mem_map.mp hv
      rw [exact_irrelevant _ _ (keysExact_mem wx.2 hp) (keysExact_mem wy.2 hq)]
      exact ihk p.1 hu q.1 hv (NFL_mem (NFL_fst nx) hu) (NFL_mem (NFL_fst ny) hv) (WFeKV_mem wx.1 hp).1 (WFeKV_mem wy.1 hq).1)
    have hv := zip_agree false (a.map (·.2)) (b.map (·.2)) .eq .eq .eq (fun u hu v hv => by
      obtain ⟨p, hp, rfl⟩ := List.mem_map.mp hu
      obtain ⟨q, hq, rfl⟩ := List.mem_map.mp hv
      exact ihv p.2 hu q.2 hv (NFL_mem (NFL_snd nx) hu) (NFL_mem (NFL_snd ny) hv) (WFeKV_mem wx.1 hp).2 (WFeKV_mem wy.1 hq).2)
    simp only [cmpN_map, den, Erl.cmpX, Erl.rank, ne_eq, not_true_eq_false, if_false, erl_thenO, erl_cmpKeys_zip,
      erl_cmpVals_zip, denKV_fst, denKV_snd, hk, hv, denKV_length]
  | list x y hx hy ihe iht =>
    obtain ⟨ea, oa, ta⟩ := cells_NF hx nx
    obtain ⟨eb, ob, tb⟩ := cells_NF hy ny
    obtain ⟨wa, wta⟩ := cells_WFe hx wx
    obtain ⟨wb, wtb⟩ := cells_WFe hy wy
    rw [cmpN_cells x y hx hy]
    rcases den_cells hx nx with ⟨cx, rfl⟩ | ⟨cx, dx⟩ <;> rcases den_cells hy ny with ⟨cy, rfl⟩ | ⟨cy, dy⟩
    · simp [cells, cmpZip, cmpTail, den, Erl.cmpX, Erl.rank]
    · -- nil against a cons cell: `cmpZip` answers `aOutOf none = .lt`, Erlang compares its ranks of nil and of a cell
      rw [dy]
      obtain ⟨b0, bs, hb⟩ := List.exists_cons_of_ne_nil cy
      rw [hb]
      simp [cells, cmpZip, aOutOf, den, Erl.cmpX, Erl.rank]
      show Ordering.lt = compare 8 9
      decide
    · rw [dx]
      obtain ⟨a0, as, ha⟩ := List.exists_cons_of_ne_nil cx
      rw [ha]
      simp [cells, cmpZip, bOutOf, den, Erl.cmpX, Erl.rank]
      show Ordering.gt = compare 9 8
      decide
    · rw [dx, dy]
      simp only [Erl.cmpX, Erl.rank, ne_eq, not_true_eq_false, if_false]
      rw [(erank_tail _ oa).1, (erank_tail _ ob).2, tail_agree _ _ oa ob (fun t u h1 h2 => iht t u h1 h2 (ta t h1) (tb u h2) (wta t h1) (wtb u h2))]
      exact zip_agree false _ _ _ _ _ (fun u hu v hv =>
        ihe u hu v hv (NFL_mem ea hu) (NFL_mem eb hv) (WFeL_mem wa hu) (WFeL_mem wb hv))
  | bits x y hx hy =>
    obtain ⟨dx, ox⟩ := bp_facts hx wx
    obtain ⟨dy, oy⟩ := bp_facts hy wy
    rw [cmpN_bits x y hx hy, dx, dy]
    exact bits_agree false _ _ _ _ ox oy

/-- the model order is Erlang's order of the denotations, compared entry by entry (maps in stored order) -/
theorem cmp_agree_stored (a b : Term) (wa : WFe a) (wb : WFe b) :
    Term.cmp a b = Erl.cmpX false (den a) (den b) := by
  have := cmpN_agree (norm a) (norm b) (NF_norm a (WFo_of_WFe a wa)) (NF_norm b (WFo_of_WFe b wb))
    (WFe_norm a wa) (WFe_norm b wb)
  rwa [den_norm, den_norm] at this

/-- consecutive keys strictly ascending under `Term.cmp` (the iteration order of a `BTreeMap`) -/
def adjSorted : List (Term × Term) → Bool
  | (k, _) :: (k2, v2) :: r => (Term.cmp k k2 == .lt) && adjSorted ((k2, v2) :: r)
  | _ => true

mutual
/-- every map in the term stores its entries in ascending key order -/
def mapsSorted : Term → Bool
  | .list l => mapsSortedL l
  | .ilist l t => mapsSortedL l && mapsSorted t
  | .map kvs => adjSorted kvs && mapsSortedKV kvs
  | .tuple l => mapsSortedL l
  | .ifun _ _ _ _ _ _ _ _ fr => mapsSortedL fr
  | _ => true
def mapsSortedL : List Term → Bool
  | [] => true
  | t :: ts => mapsSorted t && mapsSortedL ts
def mapsSortedKV : List (Term × Term) → Bool
  | [] => true
  | (k, v) :: r => mapsSorted k && mapsSorted v && mapsSortedKV r
end

/-- `adjSorted` on the side of the values: consecutive keys not descending in Erlang's exact order, which is when the
spec's `sortMaps` (a fold of `Erl.insertKV`) leaves the entries as they are -/
def erlAdjSorted : List (Value × Value) → Prop
  | e :: f :: r => Erl.cmpX true e.1 f.1 ≠ .gt ∧ erlAdjSorted (f :: r)
  | _ => True

theorem foldr_insertKV : ∀ (l : List (Value × Value)), erlAdjSorted l → l.foldr Erl.insertKV [] = l
  | [], _ => rfl
  | [e], _ => rfl
  | e :: f :: r, h => by
    simp only [erlAdjSorted] at h
    rw [List.foldr_cons, foldr_insertKV (f :: r) h.2]
    simp [Erl.insertKV, h.1]

theorem erlAdjSorted_den : ∀ (kvs : List (Term × Term)), adjSorted kvs → WFeKV kvs → keysExact kvs → erlAdjSorted (denKV kvs)
  | [], _, _, _ => by simp [denKV, erlAdjSorted]
  | [(k, v)], _, _, _ => by simp [denKV, erlAdjSorted]
  | (k, v) :: (k2, v2) :: r, hs, hw, he => by
    simp only [adjSorted, Bool.and_eq_true, beq_iff_eq] at hs
    simp only [WFeKV, Bool.and_eq_true] at hw
    simp only [keysExact, List.all_cons, Bool.and_eq_true] at he
    refine ⟨?_, erlAdjSorted_den ((k2, v2) :: r) hs.2 (by simp only [WFeKV, Bool.and_eq_true]; exact hw.2)
      (by simp only [keysExact, List.all_cons, Bool.and_eq_true]; exact he.2)⟩
    rw [exact_irrelevant _ _ he.1 he.2.1, ← cmp_agree_stored k k2 hw.1.1 hw.2.1.1, hs.1]
    simp

theorem sortMapsL_append : ∀ (a b : List Value), Erl.sortMapsL (a ++ b) = Erl.sortMapsL a ++ Erl.sortMapsL b
  | [], b => by simp [Erl.sortMapsL]
  | x :: a, b => by simp [Erl.sortMapsL, sortMapsL_append a b]

theorem sortMaps_vmkList (es : List Value) (t : Value) (h1 : Erl.sortMapsL es = es) (h2 : Erl.sortMaps t = t) :
    Erl.sortMaps (Value.mkList es t) = Value.mkList es t := by
  cases es with
  | nil => simpa [vmkList_nil] using h2
  | cons x es =>
    cases t
    case cons es2 t2 =>
      simp only [Value.mkList, Erl.sortMaps] at h2 ⊢
      simp only [Value.cons.injEq] at h2
      rw [sortMapsL_append, h1, h2.1, h2.2]
    -- a tail that is not a cons cell stays the tail
    all_goals exact (congr (congrArg Value.cons h1) h2 :)

theorem sortMaps_mkBits (b : Bytes) (n : Nat) : Erl.sortMaps (Value.mkBits b n) = Value.mkBits b n := by
  obtain ⟨b', n', e⟩ := mkBits_shape b n
  rw [e]; rfl

mutual
theorem sortMaps_den : ∀ (t : Term), WFe t → mapsSorted t → Erl.sortMaps (den t) = den t
  | .atom _, _, _ | .int _, _, _ | .float _, _, _ | .pid _, _, _ | .port _ _ _ _, _, _ | .ref _ _ _ _, _, _
  | .xfun _ _ _, _, _ | .nil, _, _ | .big _ _, _, _ => rfl
  | .bin b, _, _ | .str b, _, _ => sortMaps_mkBits b 8
  | .bits b n, _, _ => sortMaps_mkBits b n
  | .tuple l, hw, hs => congrArg Value.tuple (sortMapsL_den l hw hs)
  | .ifun _ _ _ _ _ _ _ _ fr, hw, hs =>
    congrArg (Value.ifun _ _ _ _ _ _ _ _) (sortMapsL_den fr (Bool.and_eq_true_iff.mp hw).2 hs)
  | .list l, hw, hs => sortMaps_vmkList _ _ (sortMapsL_den l hw hs) rfl
  | .ilist l t, hw, hs => by
    simp only [WFe, Bool.and_eq_true] at hw; simp only [mapsSorted, Bool.and_eq_true] at hs
    exact sortMaps_vmkList _ _ (sortMapsL_den l hw.1 hs.1) (sortMaps_den t hw.2 hs.2)
  | .map kvs, hw, hs => by
    simp only [WFe, Bool.and_eq_true] at hw; simp only [mapsSorted, Bool.and_eq_true] at hs
    simp only [den, Erl.sortMaps]
    rw [sortMapsKV_den kvs hw.1 hs.2, foldr_insertKV _ (erlAdjSorted_den kvs hs.1 hw.1 hw.2)]
theorem sortMapsL_den : ∀ (l : List Term), WFeL l → mapsSortedL l → Erl.sortMapsL (denL l) = denL l
  | [], _, _ => rfl
  | t :: ts, hw, hs => by
    simp only [WFeL, Bool.and_eq_true] at hw; simp only [mapsSortedL, Bool.and_eq_true] at hs
    simp [denL, Erl.sortMapsL, sortMaps_den t hw.1 hs.1, sortMapsL_den ts hw.2 hs.2]
theorem sortMapsKV_den : ∀ (l : List (Term × Term)), WFeKV l → mapsSortedKV l → Erl.sortMapsKV (denKV l) = denKV l
  | [], _, _ => rfl
  | (k, v) :: r, hw, hs => by
    simp only [WFeKV, Bool.and_eq_true] at hw; simp only [mapsSortedKV, Bool.and_eq_true] at hs
    simp [denKV, Erl.sortMapsKV, sortMaps_den k hw.1.1 hs.1.1, sortMaps_den v hw.1.2 hs.1.2, sortMapsKV_den r hw.2 hs.2]
end

namespace Term
/-- C12: the library's order is Erlang's term order on the denoted values -/
theorem cmp_agrees (a b : Term) (wa : WFe a) (wb : WFe b) (sa : mapsSorted a) (sb : mapsSorted b) :
    Term.cmp a b = Erl.cmp (den a) (den b) := by
  unfold Erl.cmp
  rw [sortMaps_den a wa sa, sortMaps_den b wb sb]
  exact cmp_agree_stored a b wa wb
end Term

end Edp
