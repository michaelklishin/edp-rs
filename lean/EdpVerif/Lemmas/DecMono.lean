import EdpVerif.Lemmas.DecArms
/-! The zero-copy decoder's model only ever adds rejections: whatever it returns, the owned decoder returns too. -/
namespace Edp

theorem guardTag_mono {cfg cfg' : DecCfg} (hb : cfg'.borrowed = true → cfg.borrowed = true) {d n : Nat} {k k' : DRes}
    {v : Term × Bytes} (hk : k = .ok v → k' = .ok v) (h : guardTag cfg d n k = .ok v) : guardTag cfg' d n k' = .ok v := by
  obtain ⟨hd, ho, h⟩ := guardTag_ok h
  unfold guardTag
  rw [if_neg (by omega), if_neg, hk h]
  intro hc
  rw [Bool.and_eq_true, List.contains_iff_mem] at hc
  exact ho (hb hc.1) hc.2

/-- The configuration matters in two places: the refusal of the owned-only tags and the atom cache.  A configuration that
refuses less, with the same cache, returns whatever the other returns.  In an arm the two configurations differ in the
recursive calls only: splitting on the outcome of a reader splits it on both sides, which leaves `id` to prove; the outcome
of a recursive call is carried over by the induction hypothesis. -/
theorem dec_mono (x : Ext) {cfg cfg' : DecCfg} (hc : cfg'.cache = cfg.cache)
    (hb : cfg'.borrowed = true → cfg.borrowed = true) : ∀ (fuel : Nat),
    (∀ d bs r, dec x cfg fuel d bs = .ok r → dec x cfg' fuel d bs = .ok r) ∧
    (∀ d n bs r, decN x cfg fuel d n bs = .ok r → decN x cfg' fuel d n bs = .ok r) ∧
    (∀ d n bs m r, decKV x cfg fuel d n bs m = .ok r → decKV x cfg' fuel d n bs m = .ok r) := by
  intro fuel
  induction fuel with
  | zero =>
    refine ⟨fun d bs r => ?_, fun d n bs r => ?_, fun d n bs m r => ?_⟩
    · rw [dec, dec]; exact id
    · cases n <;> rw [decN, decN] <;> exact id
    · cases n <;> rw [decKV, decKV] <;> exact id
  | succ f ih =>
    obtain ⟨ih1, ihN, ihKV⟩ := ih
    refine ⟨fun d bs r => ?_, fun d n bs r => ?_, fun d n bs m r => ?_⟩
    · cases bs with
      | nil => simp only [dec]; exact id
      | cons tag bs =>
        apply decTags_cases (motive := fun tag =>
          dec x cfg (f + 1) d (tag :: bs) = .ok r → dec x cfg' (f + 1) d (tag :: bs) = .ok r) tag
        case other => intro h; rw [dec_other x cfg f d bs h, dec_other x cfg' f d bs h]; exact id
        case h97 => rw [dec_97, dec_97]; exact guardTag_mono hb id
        case h98 => rw [dec_98, dec_98]; exact guardTag_mono hb id
        case h99 => rw [dec_99, dec_99]; exact guardTag_mono hb id
        case h70 => rw [dec_70, dec_70]; exact guardTag_mono hb id
        case h100 => rw [dec_100, dec_100]; exact guardTag_mono hb id
        case h118 => rw [dec_118, dec_118]; exact guardTag_mono hb id
        case h119 => rw [dec_119, dec_119]; exact guardTag_mono hb id
        case h115 => rw [dec_115, dec_115]; exact guardTag_mono hb id
        case h106 => rw [dec_106, dec_106]; exact guardTag_mono hb id
        case h107 => rw [dec_107, dec_107]; exact guardTag_mono hb id
        case h109 => rw [dec_109, dec_109]; exact guardTag_mono hb id
        case h77 => rw [dec_77, dec_77]; exact guardTag_mono hb id
        case h110 => rw [dec_110, dec_110]; exact guardTag_mono hb id
        case h111 => rw [dec_111, dec_111]; exact guardTag_mono hb id
        case h82 => rw [dec_82, dec_82, hc]; exact guardTag_mono hb id
        case h104 =>
          rw [dec_104, dec_104]; refine guardTag_mono hb ?_
          split; exact id
          split
          · rw [ihN _ _ _ _ ‹_›]; exact id
          · nofun
        case h105 =>
          rw [dec_105, dec_105]; refine guardTag_mono hb ?_
          split; exact id
          split; exact id
          split
          · rw [ihN _ _ _ _ ‹_›]; exact id
          · nofun
        case h108 =>
          rw [dec_108, dec_108]; refine guardTag_mono hb ?_
          split; exact id
          split; exact id
          split; nofun
          rw [ihN _ _ _ _ ‹_›]; dsimp only
          split
          · nofun
          · rw [ih1 _ _ _ ‹_›]; exact id
          · rw [ih1 _ _ _ ‹_›]
            split <;> rename_i heq <;> cases heq
            · exact absurd rfl ‹_›
            · exact id
        case h116 =>
          rw [dec_116, dec_116]; refine guardTag_mono hb ?_
          split; exact id
          split; exact id
          split
          · rw [ihKV _ _ _ _ _ ‹_›]; exact id
          · nofun
        case h88 =>
          rw [dec_88, dec_88]; refine guardTag_mono hb ?_
          split
          · rw [ih1 _ _ _ ‹_›]; exact id
          · nofun
          · nofun
        case h103 =>
          rw [dec_103, dec_103]; refine guardTag_mono hb ?_
          split
          · rw [ih1 _ _ _ ‹_›]; exact id
          · nofun
          · nofun
        case h120 =>
          rw [dec_120, dec_120]; refine guardTag_mono hb ?_
          split
          · rw [ih1 _ _ _ ‹_›]; exact id
          · nofun
          · nofun
        case h89 =>
          rw [dec_89, dec_89]; refine guardTag_mono hb ?_
          split
          · rw [ih1 _ _ _ ‹_›]; exact id
          · nofun
          · nofun
        case h102 =>
          rw [dec_102, dec_102]; refine guardTag_mono hb ?_
          split
          · rw [ih1 _ _ _ ‹_›]; exact id
          · nofun
          · nofun
        case h101 =>
          rw [dec_101, dec_101]; refine guardTag_mono hb ?_
          split
          · rw [ih1 _ _ _ ‹_›]; exact id
          · nofun
          · nofun
        case h90 =>
          rw [dec_90, dec_90]; refine guardTag_mono hb ?_
          split; exact id
          split
          · rw [ih1 _ _ _ ‹_›]; exact id
          · nofun
          · nofun
        case h114 =>
          rw [dec_114, dec_114]; refine guardTag_mono hb ?_
          split; exact id
          split
          · rw [ih1 _ _ _ ‹_›]; exact id
          · nofun
          · nofun
        case h113 =>
          rw [dec_113, dec_113]; refine guardTag_mono hb ?_
          split; rotate_left; nofun; nofun
          rw [ih1 _ _ _ ‹_›]; dsimp only
          split; rotate_left; nofun; nofun
          rw [ih1 _ _ _ ‹_›]; dsimp only
          split; rotate_left; nofun; nofun
          rw [ih1 _ _ _ ‹_›]; exact id
        case h112 =>
          rw [dec_112, dec_112]; refine guardTag_mono hb ?_
          split; exact id
          split; exact id
          split; exact id
          split; exact id
          split; exact id
          split; rotate_left; nofun; nofun
          rw [ih1 _ _ _ ‹_›]; dsimp only
          split; rotate_left; nofun; nofun
          rw [ih1 _ _ _ ‹_›]; dsimp only
          split; exact id
          split; rotate_left; nofun; nofun
          rw [ih1 _ _ _ ‹_›]; dsimp only
          split; exact id
          split; rotate_left; nofun; nofun
          rw [ih1 _ _ _ ‹_›]; dsimp only
          split
          · rw [ihN _ _ _ _ ‹_›]; exact id
          · nofun
        case h121 =>
          rw [dec_121, dec_121]; refine guardTag_mono hb ?_
          split; exact id
          split; nofun
          rw [ih1 _ _ _ ‹_›]; exact id
        case h80 =>
          rw [dec_80, dec_80]; refine guardTag_mono hb ?_
          split; exact id
          split; exact id
          split; exact id
          split; exact id
          split
          · rw [ih1 _ _ _ ‹_›]; exact id
          · nofun
    · cases n with
      | zero => rw [decN, decN]; exact id
      | succ n =>
        rw [decN, decN]
        split; nofun
        rw [ih1 _ _ _ ‹_›]; dsimp only
        split; nofun
        rw [ihN _ _ _ _ ‹_›]; exact id
    · cases n with
      | zero => rw [decKV, decKV]; exact id
      | succ n =>
        rw [decKV, decKV]
        split; nofun
        rw [ih1 _ _ _ ‹_›]; dsimp only
        split; nofun
        rw [ih1 _ _ _ ‹_›]; dsimp only
        exact ihKV _ _ _ _ _

theorem decodeWith_mono (x : Ext) {cfg cfg' : DecCfg} (hc : cfg'.cache = cfg.cache)
    (hb : cfg'.borrowed = true → cfg.borrowed = true) (bs : Bytes) (t : Term) :
    decodeWith x cfg bs = .ok t → decodeWith x cfg' bs = .ok t := by
  unfold decodeWith
  cases bs with
  | nil => exact id
  | cons v r =>
    dsimp only
    split; exact id
    split
    · nofun
    · rw [(dec_mono x hc hb _).1 _ _ _ ‹_›]; exact id
    · nofun

end Edp
