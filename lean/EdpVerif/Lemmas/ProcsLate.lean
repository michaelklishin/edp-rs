import EdpVerif.Lemmas.Procs
/-! Invariants about entries that reach a CLOSED link / monitor set (the repaired `ExitSet`): every refused entry is
answered by exactly one `noproc` notice (sent, or the receiver was not to be found), never by two, and until then exactly
one client task is inside the call that owes it. -/
namespace Edp.Impl.Procs

/-- the `closed` flag of the link (monitor) set is up exactly from the step of the terminating task that reads the set
(`close_links`, `close_monitors`): no entry gets into a set already read without `add` reporting it -/
def ClosedInv (st : St) : Prop := ∀ p,
  (st.procs p).closedL = (st.procs p).pc.startedL ∧ (st.procs p).closedM = (st.procs p).pc.linksDone

theorem closedInv_client {st st' : St} {t : Tid} (hi : ClosedInv st) (h : clientStep st t = some st') : ClosedInv st' := by
  intro q
  rcases clientStep_own h q with ⟨_, tr, e⟩ | ⟨_, _, _, _, _, e⟩ <;> rw [e]
  · exact ⟨rfl, rfl⟩
  · exact hi q

theorem closedInv_proc {st st' : St} {p : Pid} {k : Nat} (hi : ClosedInv st) (h : procStep st p k = some st') : ClosedInv st' := by
  intro q
  by_cases hq : q = p
  · subst hq
    constructor
    · rcases procStep_phaseL h with ⟨_, e⟩ | ⟨hs, hc, _⟩
      · rw [e]; rfl
      · rw [hs, hc]; exact (hi q).1
    · rcases procStep_phaseM h with ⟨_, e⟩ | ⟨hs, hc, _⟩
      · rw [e]; rfl
      · rw [hs, hc]; exact (hi q).2
  · obtain ⟨_, _, e⟩ := procStep_own h hq
    rw [e]; exact hi q

/-- a closed link set is the snapshot the terminating task took plus the entries `add_link` reported as late, each as
often as it is there; an open set has no late entries. So no entry is in the set that neither the task nor a late
notice accounts for. `MonSplit`: the same for the monitor set. -/
def LinkSplit (st : St) : Prop := ∀ p a,
  ((st.procs p).closedL = true → (st.procs p).links.count a = (st.procs p).snapL.count a + st.lateL.count (p, a)) ∧
  ((st.procs p).closedL = false → st.lateL.count (p, a) = 0)

def MonSplit (st : St) : Prop := ∀ p (x : Pid × Ref),
  ((st.procs p).closedM = true → (st.procs p).monitors.count x = (st.procs p).snapM.count x + st.lateM.count (p, x)) ∧
  ((st.procs p).closedM = false → st.lateM.count (p, x) = 0)

theorem count_setIns_mem {α : Type} [DecidableEq α] {x : α} {l : List α} (h : x ∈ l) : setIns x l = l := by
  simp [setIns, h]

namespace SetEdit
variable {α β : Type} [DecidableEq α] [BEq α] [LawfulBEq α] [BEq β] [LawfulBEq β] {closed : Bool} {l l' N : List α} {e : α → β} {late late' : List β}

/-- an edit keeps "a closed set is its snapshot `N` plus its late entries; an open set has no late entries" -/
theorem split (h : SetEdit closed l l' e late late') (he : ∀ x y, e x = e y → x = y) (y : α)
    (hi : (closed = true → l.count y = N.count y + late.count (e y)) ∧ (closed = false → late.count (e y) = 0)) :
    (closed = true → l'.count y = N.count y + late'.count (e y)) ∧ (closed = false → late'.count (e y) = 0) := by
  rcases h with ⟨x, hc, hx, rfl, rfl⟩ | ⟨rfl, (⟨x, hx, rfl⟩ | ⟨hc, f, rfl⟩)⟩
  · refine ⟨fun _ => ?_, fun h0 => (by rw [hc] at h0; cases h0)⟩
    have := hi.1 hc
    by_cases hxy : x = y
    · subst hxy; simp only [List.count_append, List.count_cons_self, List.count_nil]; omega
    · have : e x ≠ e y := fun h => hxy (he _ _ h)
      simp only [List.count_append, List.count_cons, List.count_nil, beq_iff_eq, hxy, this, if_false]; omega
  · refine ⟨fun hc => ?_, hi.2⟩
    have : x ∈ l := Classical.not_not.mp fun hn => hx ⟨hc, hn⟩
    rw [count_setIns_mem this]; exact hi.1 hc
  · exact ⟨fun h1 => (by rw [hc] at h1; cases h1), hi.2⟩

omit [BEq α] [LawfulBEq α] in
theorem late_other (h : SetEdit closed l l' e late late') {z : β} (hz : ∀ x, e x ≠ z) : late'.count z = late.count z := by
  rcases h with ⟨x, _, _, _, rfl⟩ | ⟨rfl, _⟩
  · simp [List.count_append, hz x]
  · rfl

end SetEdit

theorem linkSplit_client {st st' : St} {t : Tid} (hb : Blank st) (hi : LinkSplit st) (h : clientStep st t = some st') :
    LinkSplit st' := by
  intro q a
  rcases clientStep_procs h with ⟨(⟨e, _⟩ | ⟨tr, e, _⟩ | ⟨p, e, _⟩), _, _, _, el, _⟩ |
    ⟨p, r, e, _, _, _, _, _, _, (⟨l, rfl, _, hl⟩ | ⟨l, rfl, el, _⟩)⟩ | ⟨p, s, m, e, _, _, _, _, el, _⟩ <;> rw [e]
  · rw [el]; exact hi q a
  · rw [el, upd_apply]; split
    · subst q
      have := (hi st.nextPid a).2 (by rw [hb _ (Nat.le_refl _)])
      exact ⟨nofun, fun _ => this⟩
    · exact hi q a
  · rw [el, upd_apply]; split
    · subst q; exact hi p a
    · exact hi q a
  · rw [upd_apply]; split
    · subst q; exact hl.split (fun _ _ h => (Prod.mk.inj h).2) a (hi p a)
    · next hq => rw [hl.late_other fun x h => hq (Prod.mk.inj h).1.symm]; exact hi q a
  · rw [el, upd_apply]; split
    · subst q; exact hi p a
    · exact hi q a
  · rw [el, upd_push]; exact hi q a

theorem monSplit_client {st st' : St} {t : Tid} (hb : Blank st) (hi : MonSplit st) (h : clientStep st t = some st') :
    MonSplit st' := by
  intro q a
  rcases clientStep_procs h with ⟨(⟨e, _⟩ | ⟨tr, e, _⟩ | ⟨p, e, _⟩), _, _, _, _, el⟩ |
    ⟨p, r, e, _, _, _, _, _, _, (⟨l, rfl, el, _⟩ | ⟨l, rfl, _, hl⟩)⟩ | ⟨p, s, m, e, _, _, _, _, _, el, _⟩ <;> rw [e]
  · rw [el]; exact hi q a
  · rw [el, upd_apply]; split
    · subst q
      have := (hi st.nextPid a).2 (by rw [hb _ (Nat.le_refl _)])
      exact ⟨nofun, fun _ => this⟩
    · exact hi q a
  · rw [el, upd_apply]; split
    · subst q; exact hi p a
    · exact hi q a
  · rw [el, upd_apply]; split
    · subst q; exact hi p a
    · exact hi q a
  · rw [upd_apply]; split
    · subst q; exact hl.split (fun _ _ h => (Prod.mk.inj h).2) a (hi p a)
    · next hq => rw [hl.late_other fun x h => hq (Prod.mk.inj h).1.symm]; exact hi q a
  · rw [el, upd_push]; exact hi q a

theorem linkSplit_proc {st st' : St} {p : Pid} {k : Nat} (hc : ClosedInv st) (hi : LinkSplit st) (h : procStep st p k = some st') :
    LinkSplit st' := by
  intro q a
  rw [(procStep_late h).1]
  by_cases hq : q = p
  · subst hq
    rcases procStep_phaseL h with ⟨hpc, e⟩ | ⟨_, e1, e2, _, e3, _⟩
    · -- the set is closed with no late entry yet
      have := (hi q a).2 (by rw [(hc q).1, hpc]; rfl)
      rw [e]; exact ⟨fun _ => by rw [this]; rfl, nofun⟩
    · rw [e1, e2, e3]; exact hi q a
  · obtain ⟨_, _, e⟩ := procStep_own h hq
    rw [e]; exact hi q a

theorem monSplit_proc {st st' : St} {p : Pid} {k : Nat} (hc : ClosedInv st) (hi : MonSplit st) (h : procStep st p k = some st') :
    MonSplit st' := by
  intro q a
  rw [(procStep_late h).2.1]
  by_cases hq : q = p
  · subst hq
    rcases procStep_phaseM h with ⟨hpc, e⟩ | ⟨_, e1, e2, _, e3, _⟩
    · have := (hi q a).2 (by rw [(hc q).2, hpc]; rfl)
      rw [e]; exact ⟨fun _ => by rw [this]; rfl, nofun⟩
    · rw [e1, e2, e3]; exact hi q a
  · obtain ⟨_, _, e⟩ := procStep_own h hq
    rw [e]; exact hi q a

/-- A late entry (refused by `add_link` / `add_monitor` as new to a closed set) is in one of three states: not there,
owed its `noproc` notice by exactly one client task, answered. `pend c` is the entry a client task at `c` owes (it is
between the refusal and the end of `signal_noproc_exit`), `late` lists the refused entries and `done` the answered ones:
an entry is refused once more than answered while a task owes it, as often otherwise, and no two tasks owe the same. -/
structure LateG {α : Type} [BEq α] [LawfulBEq α] (pend : CPc → Option α) (late done : List α) (cpc : Tid → CPc) : Prop where
  owed : ∀ x, (∃ t, pend (cpc t) = some x) → late.count x = done.count x + 1
  settled : ∀ x, (∀ t, pend (cpc t) ≠ some x) → late.count x = done.count x
  uniq : ∀ t t' x, pend (cpc t) = some x → pend (cpc t') = some x → t = t'

/-- How one step of task `t` moves a late entry through these states, seen in what `t` owes (`pend`), the refused entries
(`late`) and the answered ones (`done`): a refusal makes `t` owe a new entry `x` (about which `fresh x` is known); a settlement
takes it off `t` and books it once; or nothing changes. -/
def LateStep {α : Type} [BEq α] (pend pend' : Option α) (late late' done done' : List α) (fresh : α → Prop) : Prop :=
  (pend = none ∧ ∃ x, pend' = some x ∧ late' = late ++ [x] ∧ done' = done ∧ fresh x) ∨
  (∃ x, pend = some x ∧ pend' = none ∧ late' = late ∧ ∀ y, done'.count y = (done ++ [x]).count y) ∨
  (pend' = pend ∧ late' = late ∧ done' = done)

section lateG
variable {α : Type} [BEq α] [LawfulBEq α] {pend : CPc → Option α} {late done late' done' : List α}
  {cpc cpc' : Tid → CPc} {t : Tid}

omit [LawfulBEq α] in
theorem LateStep.mono {p p' : Option α} {P Q : α → Prop} (h : LateStep p p' late late' done done' P) (hPQ : ∀ x, P x → Q x) :
    LateStep p p' late late' done done' Q :=
  h.imp_left fun ⟨h0, x, h1, h2, h3, hx⟩ => ⟨h0, x, h1, h2, h3, hPQ x hx⟩

theorem LateG.congr (hi : LateG pend late done cpc) (h : ∀ t, pend (cpc' t) = pend (cpc t)) : LateG pend late done cpc' :=
  ⟨fun x ⟨t, ht⟩ => hi.owed x ⟨t, h t ▸ ht⟩, fun x hx => hi.settled x fun t ht => hx t (by rw [h t]; exact ht),
    fun t t' x ht ht' => hi.uniq t t' x (h t ▸ ht) (h t' ▸ ht')⟩

theorem LateG.setC (hi : LateG pend late done cpc) {c : CPc} (h : pend c = pend (cpc t)) : LateG pend late done (upd cpc t c) :=
  hi.congr fun t' => by
    rw [upd_apply]; split
    · subst t'; exact h
    · rfl

theorem lateG_step [DecidableEq α] (hi : LateG pend late done cpc) (hne : ∀ t', t' ≠ t → cpc' t' = cpc t')
    (hcase : LateStep (pend (cpc t)) (pend (cpc' t)) late late' done done' (late.count · = 0)) :
    LateG pend late' done' cpc' := by
  obtain ⟨ho, hs, hu⟩ := hi
  -- a task other than `t` owes after the step what it owed before
  have hoth : ∀ {t' y}, t' ≠ t → pend (cpc' t') = some y → pend (cpc t') = some y := fun h e => hne _ h ▸ e
  have hold : ∀ {y}, (∀ t', pend (cpc' t') ≠ some y) → pend (cpc t) ≠ some y → ∀ t', pend (cpc t') ≠ some y :=
    fun hall hy t' ht' => by
      by_cases e : t' = t
      · exact hy (e ▸ ht')
      · exact hall t' (by rw [hne t' e]; exact ht')
  rcases hcase with ⟨hp0, x, hp1, hl, hd, hx0⟩ | ⟨x, hp0, hp1, hl, hd⟩ | ⟨hp, hl, hd⟩
  · -- a refusal: nobody owed `x` and none was answered; now `t` owes it
    have hnone : ∀ t', pend (cpc t') ≠ some x := fun t' ht' => by have := ho x ⟨t', ht'⟩; omega
    have hdx : done.count x = 0 := by have := hs x hnone; omega
    subst hl hd
    refine ⟨fun y ⟨t', ht'⟩ => ?_, fun y hall => ?_, fun t1 t2 y h1 h2 => ?_⟩
    · rw [count_snoc]
      by_cases e : t' = t
      · subst e; rw [hp1] at ht'; cases ht'; simp only [if_true]; omega
      · have hy : y ≠ x := fun e' => hnone t' (e' ▸ hoth e ht')
        have := ho y ⟨t', hoth e ht'⟩
        simp only [hy, if_false]; omega
    · have hy : y ≠ x := fun e => hall t (e ▸ hp1)
      have := hs y (hold hall (by rw [hp0]; nofun))
      rw [count_snoc]; simp only [hy, if_false]; omega
    · by_cases e1 : t1 = t <;> by_cases e2 : t2 = t
      · rw [e1, e2]
      · subst e1; rw [hp1] at h1; cases h1; exact absurd (hoth e2 h2) (hnone t2)
      · subst e2; rw [hp1] at h2; cases h2; exact absurd (hoth e1 h1) (hnone t1)
      · exact hu t1 t2 y (hoth e1 h1) (hoth e2 h2)
  · -- the owed notice is settled (sent, or the receiver could not be found): only `t` owed `x`
    subst hl
    have hd : ∀ y, done'.count y = done.count y + if y = x then 1 else 0 := fun y => by rw [hd y, count_snoc]
    have hnt : ∀ {t' y}, pend (cpc' t') = some y → t' ≠ t := fun h e => by subst e; rw [hp1] at h; cases h
    refine ⟨fun y ⟨t', ht'⟩ => ?_, fun y hall => ?_, fun t1 t2 y h1 h2 => hu t1 t2 y (hoth (hnt h1) h1) (hoth (hnt h2) h2)⟩
    · have ht := hoth (hnt ht') ht'
      have hy : y ≠ x := fun e => hnt ht' (hu t' t x (e ▸ ht) hp0)
      have := ho y ⟨t', ht⟩
      rw [hd y]; simp only [hy, if_false]; omega
    · rw [hd y]
      by_cases hy : y = x
      · subst hy; have := ho y ⟨t, hp0⟩; simp only [if_true]; exact this
      · have := hs y (hold hall (by rw [hp0]; exact fun e => hy (Option.some.inj e).symm))
        simp only [hy, if_false]; omega
  · subst hl hd
    refine LateG.congr ⟨ho, hs, hu⟩ fun t' => ?_
    by_cases e : t' = t
    · subst e; exact hp
    · rw [hne t' e]
end lateG

/-- the late link entries that are answered: the receiver's mailbox took the `noproc` notice, was closed, or
`registry.get` did not find the receiver (`doneM`: monitor entries) -/
def doneL (st : St) : List (Pid × Pid) := st.sentNL ++ st.skipNL ++ st.noRegL
def doneM (st : St) : List (Pid × (Pid × Ref)) := st.sentNM ++ st.skipNM ++ st.noRegM

/-- `LateG` for the link entries (`LateM`: monitor entries): no late entry goes without an answer once the `link` call
that met the refusal has returned, and none gets two -/
def LateL (st : St) : Prop := LateG CPc.pendL st.lateL (doneL st) st.cpc
def LateM (st : St) : Prop := LateG CPc.pendM st.lateM (doneM st) st.cpc

theorem clientStep_lateL {st st' : St} {t : Tid} (h : clientStep st t = some st') :
    LateStep (st.cpc t).pendL (st'.cpc t).pendL st.lateL st'.lateL (doneL st) (doneL st')
      (fun x => (st.procs x.1).closedL = true ∧ x.2 ∉ (st.procs x.1).links) := by
  step_cases h
  all_goals simp only [St.setC, St.ret, St.modP, St.deliver, upd_same, doneL, CPc.pendL, *]
  all_goals first
    | exact .inr (.inr ⟨rfl, rfl, rfl⟩)
    | exact .inl ⟨rfl, _, rfl, rfl, rfl, ‹_ ∧ _›⟩
    | (refine .inr (.inl ⟨_, rfl, rfl, rfl, fun y => ?_⟩)
       simp only [List.count_append]; omega)

theorem clientStep_lateM {st st' : St} {t : Tid} (h : clientStep st t = some st') :
    LateStep (st.cpc t).pendM (st'.cpc t).pendM st.lateM st'.lateM (doneM st) (doneM st')
      (fun x => (st.procs x.1).closedM = true ∧ x.2 ∉ (st.procs x.1).monitors) := by
  step_cases h
  all_goals simp only [St.setC, St.ret, St.modP, St.deliver, upd_same, doneM, CPc.pendM, *]
  all_goals first
    | exact .inr (.inr ⟨rfl, rfl, rfl⟩)
    | exact .inl ⟨rfl, _, rfl, rfl, rfl, ‹_ ∧ _›⟩
    | (refine .inr (.inl ⟨_, rfl, rfl, rfl, fun y => ?_⟩)
       simp only [List.count_append]; omega)

theorem lateL_step : ∀ st e st', LinkSplit st → LateL st → stepEv st e = some st' → LateL st' := by
  intro st e st' hs hi h
  cases e with
  | start t op =>
    obtain ⟨hidle, rfl⟩ := stepEv_start h
    exact hi.setC (by rw [hidle]; cases op <;> rfl)
  | cont t =>
    refine lateG_step hi (fun t' ht => clientStep_cpc_ne h ht) ((clientStep_lateL h).mono fun x ⟨hcl, hnm⟩ => ?_)
    -- the refused entry is new to a closed set, which holds every late entry
    have := (hs x.1 x.2).1 hcl
    rw [List.count_eq_zero.mpr hnm] at this
    exact (by omega : st.lateL.count (x.1, x.2) = 0)
  | proc p k =>
    obtain ⟨hl, _, e1, e2, e3, _⟩ := procStep_late h
    unfold LateL doneL
    rw [hl, e1, e2, e3, (procStep_globals h).1]; exact hi

theorem lateM_step : ∀ st e st', MonSplit st → LateM st → stepEv st e = some st' → LateM st' := by
  intro st e st' hs hi h
  cases e with
  | start t op =>
    obtain ⟨hidle, rfl⟩ := stepEv_start h
    exact hi.setC (by rw [hidle]; cases op <;> rfl)
  | cont t =>
    refine lateG_step hi (fun t' ht => clientStep_cpc_ne h ht) ((clientStep_lateM h).mono fun x ⟨hcl, hnm⟩ => ?_)
    have := (hs x.1 x.2).1 hcl
    rw [List.count_eq_zero.mpr hnm] at this
    exact (by omega : st.lateM.count (x.1, x.2) = 0)
  | proc p k =>
    obtain ⟨_, hl, _, _, _, e1, e2, e3⟩ := procStep_late h
    unfold LateM doneM
    rw [hl, e1, e2, e3, (procStep_globals h).1]; exact hi

/-- a mailbox's history has the `noproc` notice for a late entry exactly as often as a client task booked its delivery
(`booked`, Lemmas/Procs.lean; `ExitCount` and `MonCount` there are the same for the terminating task's notices) -/
def ExitNCount (st : St) : Prop := ∀ p a, st.timesAccepted a (.exitNoproc p) = st.sentNL.count (p, a)
def MonNCount (st : St) : Prop := ∀ p a r, st.timesAccepted a (.monNoproc p r) = st.sentNM.count (p, (a, r))

/-- a receiver whose mailbox was closed when the `noproc` notice was due has left the registry -/
def SkipN (st : St) : Prop :=
  (∀ x, x ∈ st.skipNL → (st.procs x.2).pc.gone = true) ∧ (∀ x, x ∈ st.skipNM → (st.procs x.2.1).pc.gone = true)

theorem clientStep_skipN {st st' : St} {t : Tid} (h : clientStep st t = some st') :
    (∀ x, x ∈ st'.skipNL → x ∈ st.skipNL ∨ (st.procs x.2).closed = true) ∧
    (∀ x, x ∈ st'.skipNM → x ∈ st.skipNM ∨ (st.procs x.2.1).closed = true) := by
  step_cases h
  all_goals constructor
  all_goals intro x hx
  all_goals simp only [St.setC, St.ret, St.modP, St.deliver] at hx
  all_goals first
    | (left; exact hx)
    | (rcases List.mem_append.mp hx with hx | hx
       · left; exact hx
       · right; simp only [List.mem_singleton] at hx; subst hx; assumption)

theorem skipN_step : ∀ st e st', RegInv st → SkipN st → stepEv st e = some st' → SkipN st' := by
  intro st e st' hr hi h
  have hg : ∀ q, (st.procs q).pc.gone = true → (st'.procs q).pc.gone = true := fun q hq =>
    (gone_iff_rank _).mpr (Nat.le_trans ((gone_iff_rank _).mp hq) (rank_step hr h q))
  have hcl : ∀ q, (st.procs q).closed = true → (st'.procs q).pc.gone = true := fun q hq =>
    hg q (by rw [hr.closedDead q hq]; rfl)
  cases e with
  | start t op => obtain ⟨_, rfl⟩ := stepEv_start h; exact hi
  | cont t =>
    obtain ⟨h1, h2⟩ := clientStep_skipN h
    refine ⟨fun x hx => ?_, fun x hx => ?_⟩
    · rcases h1 x hx with h | h
      · exact hg _ (hi.1 x h)
      · exact hcl _ h
    · rcases h2 x hx with h | h
      · exact hg _ (hi.2 x h)
      · exact hcl _ h
  | proc p k =>
    obtain ⟨_, _, _, e1, _, _, e2, _⟩ := procStep_late h
    refine ⟨fun x hx => ?_, fun x hx => ?_⟩
    · rw [e1] at hx; exact hg _ (hi.1 x hx)
    · rw [e2] at hx; exact hg _ (hi.2 x hx)

/-- `AllInv` and the invariants about late entries; holds after every schedule (`allInv2_run`). What the parts rule out:
`closed`: an entry slipping unreported into a set already read; `lsplit`, `msplit`: an entry of a closed set that is
neither in the snapshot nor reported late; `lateL`, `lateM`: a reported entry left without answer, or answered twice;
`exitN`, `monN`: a `noproc` notice in a mailbox that no `link` / `monitor` call sent; `skipN`: a `noproc` notice dropped
for a receiver that is still registered. -/
structure AllInv2 (st : St) : Prop where
  base : AllInv st
  closed : ClosedInv st
  lsplit : LinkSplit st
  msplit : MonSplit st
  lateL : LateL st
  lateM : LateM st
  exitN : ExitNCount st
  monN : MonNCount st
  skipN : SkipN st

theorem lateG_init {α : Type} [BEq α] [LawfulBEq α] (pend : CPc → Option α) (h : pend .idle = none) :
    LateG pend [] [] (fun _ => CPc.idle) := by
  refine ⟨?_, fun _ _ => rfl, ?_⟩
  · rintro x ⟨t, ht⟩
    rw [h] at ht; cases ht
  · intro t t' x ht _
    rw [h] at ht; cases ht

theorem allInv2_init (cap : Nat) : AllInv2 (St.init cap) := by
  refine ⟨allInv_init cap, ?_, ?_, ?_, lateG_init _ rfl, lateG_init _ rfl, ?_, ?_, ?_⟩
  · intro p; simp [St.init, PPc.startedL, PPc.linksDone]
  · intro p a; simp [St.init]
  · intro p a; simp [St.init]
  · intro p a; simp [St.init, St.timesAccepted]
  · intro p a r; simp [St.init, St.timesAccepted]
  · constructor <;> simp [St.init]

theorem allInv2_step : ∀ st e st', AllInv2 st → stepEv st e = some st' → AllInv2 st' := by
  intro st e st' hi h
  have hbase := allInv_step st e st' hi.base h
  have hl := lateL_step st e st' hi.lsplit hi.lateL h
  have hm := lateM_step st e st' hi.msplit hi.lateM h
  have hsk := skipN_step st e st' hi.base.reg hi.skipN h
  cases e with
  | start t op =>
    obtain ⟨_, rfl⟩ := stepEv_start h
    exact ⟨hbase, hi.closed, hi.lsplit, hi.msplit, hl, hm, hi.exitN, hi.monN, hsk⟩
  | cont t =>
    exact ⟨hbase, closedInv_client hi.closed h, linkSplit_client hi.base.blank hi.lsplit h,
      monSplit_client hi.base.blank hi.msplit h, hl, hm,
      fun p a => booked_client hi.base.blank h a nofun (hi.exitN p a),
      fun p a r => booked_client hi.base.blank h a nofun (hi.monN p a r), hsk⟩
  | proc p k =>
    exact ⟨hbase, closedInv_proc hi.closed h, linkSplit_proc hi.closed hi.lsplit h, monSplit_proc hi.closed hi.msplit h,
      hl, hm, fun p a => booked_proc h a _ (hi.exitN p a), fun p a r => booked_proc h a _ (hi.monN p a r), hsk⟩

theorem allInv2_run (cap : Nat) (evs : List Ev) : AllInv2 (run (St.init cap) evs) :=
  run_induct evs _ (allInv2_init cap) allInv2_step

section account
variable {α β : Type} [BEq α] [BEq β] [LawfulBEq β] {started closed : Bool} {T S K N L : List α}
  {late sentN skipN noReg : List β} {pend : CPc → Option β} {cpc : Tid → CPc} {a : α} {z : β} {tA tN : Nat}

/-- A notice of the terminating task is accepted at most once, and only by an entry of the snapshot: `tA` is the number of
notices accepted, booked in `S`; `T`, `S`, `K` partition the snapshot `N` once it is taken. -/
theorem notice_at_most_once [LawfulBEq α] (hc : tA = S.count a)
    (hcons : (started = true → T.count a + S.count a + K.count a = N.count a) ∧ (started = false → S = [] ∧ K = []))
    (hN : N.Nodup) : tA ≤ 1 ∧ (1 ≤ tA → a ∈ N ∧ started = true) := by
  have hn := List.nodup_iff_count.mp hN a
  cases hs : started with
  | false =>
    have : tA = 0 := by rw [hc, (hcons.2 hs).1]; rfl
    exact ⟨by omega, fun h => by omega⟩
  | true =>
    have := hcons.1 hs
    exact ⟨by omega, fun h => ⟨List.count_pos_iff.mp (by omega), rfl⟩⟩

/-- The whole account of an entry `a` of the set `L` (`z` is its key in the books on late entries): notices of both kinds
(`tA` by the terminating task, `tN` for a late entry) never exceed the entry's multiplicity; once the task is through with
the snapshot, the multiplicity is made up of the notices, the skipped and unregistered receivers, and the late entry a
client task still owes. -/
theorem notice_account (hc : tA = S.count a) (hn : tN = sentN.count z) (hcl : closed = started)
    (hsplit : (closed = true → L.count a = N.count a + late.count z) ∧ (closed = false → late.count z = 0))
    (hcons : (started = true → T.count a + S.count a + K.count a = N.count a) ∧ (started = false → S = [] ∧ K = []))
    (hl : LateG pend late (sentN ++ skipN ++ noReg) cpc) :
    tA + tN ≤ L.count a ∧
    (started = true → T.count a = 0 →
      ((∃ t, pend (cpc t) = some z) → L.count a = tA + tN + K.count a + skipN.count z + noReg.count z + 1) ∧
      ((∀ t, pend (cpc t) ≠ some z) → L.count a = tA + tN + K.count a + skipN.count z + noReg.count z)) := by
  have hd : (sentN ++ skipN ++ noReg).count z = sentN.count z + skipN.count z + noReg.count z := by
    simp only [List.count_append]
  have hlate : (∃ t, pend (cpc t) = some z) ∨ ∀ t, pend (cpc t) ≠ some z :=
    (Classical.em _).imp_right fun h t ht => h ⟨t, ht⟩
  subst hcl
  cases hs : closed with
  | false =>
    have h0 := hsplit.2 hs
    have : tA = 0 := by rw [hc, (hcons.2 hs).1]; rfl
    refine ⟨?_, nofun⟩
    rcases hlate with hp | hp
    · have := hl.owed _ hp; omega
    · have := hl.settled _ hp; omega
  | true =>
    have h0 := hsplit.1 hs
    have h1 := hcons.1 hs
    refine ⟨?_, fun _ hT => ⟨fun hp => ?_, fun hp => ?_⟩⟩
    · rcases hlate with hp | hp
      · have := hl.owed _ hp; omega
      · have := hl.settled _ hp; omega
    · have := hl.owed _ hp; omega
    · have := hl.settled _ hp; omega

/-- An entry of the set, once the task is through with the snapshot, got exactly one notice, or none, and then for one of four
reasons: the task skipped it, the client's `noproc` notice found the mailbox shut or the receiver unregistered, or the one
client task that owes the notice is still inside its call. -/
theorem notice_exactly_one [LawfulBEq α] (hc : tA = S.count a) (hn : tN = sentN.count z) (hcl : closed = started)
    (hsplit : (closed = true → L.count a = N.count a + late.count z) ∧ (closed = false → late.count z = 0))
    (hcons : (started = true → T.count a + S.count a + K.count a = N.count a) ∧ (started = false → S = [] ∧ K = []))
    (hl : LateG pend late (sentN ++ skipN ++ noReg) cpc) (hL : L.Nodup) (hm : a ∈ L) (hs : started = true)
    (hT : T.count a = 0) :
    tA + tN = 1 ∨ (tA + tN = 0 ∧ (a ∈ K ∨ z ∈ skipN ∨ z ∈ noReg ∨
      ∃ t, pend (cpc t) = some z ∧ ∀ t', pend (cpc t') = some z → t' = t)) := by
  obtain ⟨howed, hsettled⟩ := (notice_account hc hn hcl hsplit hcons hl).2 hs hT
  have h1 : L.count a = 1 := Nat.le_antisymm (List.nodup_iff_count.mp hL a) (List.count_pos_iff.mpr hm)
  by_cases hp : ∃ t, pend (cpc t) = some z
  · have := howed hp
    obtain ⟨t, ht⟩ := hp
    exact .inr ⟨by omega, .inr (.inr (.inr ⟨t, ht, fun t' h' => hl.uniq t' t _ h' ht⟩))⟩
  have := hsettled fun t ht => hp ⟨t, ht⟩
  by_cases e1 : a ∈ K
  · exact .inr ⟨by have := List.count_pos_iff.mpr e1; omega, .inl e1⟩
  by_cases e2 : z ∈ skipN
  · exact .inr ⟨by have := List.count_pos_iff.mpr e2; omega, .inr (.inl e2)⟩
  by_cases e3 : z ∈ noReg
  · exact .inr ⟨by have := List.count_pos_iff.mpr e3; omega, .inr (.inr (.inl e3))⟩
  rw [List.count_eq_zero.mpr e1, List.count_eq_zero.mpr e2, List.count_eq_zero.mpr e3] at this
  exact .inl (by omega)

end account
end Edp.Impl.Procs
