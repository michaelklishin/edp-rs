import EdpVerif.Generated.MiscC06
import EdpVerif.Lemmas.Recv
/-!
C06: the model of `Connection::receive_message` against the table of its exits regenerated from the source
(`Gen.RECV_EXITS`, tools/gen_misc.py `gen_c06`): for every frame, state and clock reading, the place where the model's
iteration ends (`exitSite`) is a row of the table, and the state the model leaves is the state before the frame with
exactly the state-changing statements the source has on the path to that exit run on it, in the table's order (`runMuts`).
So what a failed frame of each error class leaves behind in the connection is read off the source, not transcribed.
-/
namespace Edp.Recv
open Edp

variable (x : Ext) (tbl : Control.Table)

/-- where the pass-through branch ends -/
def ptSite (x : Ext) (tbl : Control.Table) (rest : Bytes) : String :=
  match decodeTrailing x rest with
  | .error _ => "pass_through:decode_with_trailing"
  | .ok (ct, []) =>
    match Control.parse tbl ct with
    | .ok _ => "pass_through>tail:Ok"
    | .error _ => "pass_through>tail:from_term"
  | .ok (ct, remaining) =>
    match decodeTrailing x remaining with
    | .error _ => "pass_through:decode_with_trailing#2"
    | .ok (_, []) =>
      match Control.parse tbl ct with
      | .ok _ => "pass_through>tail:Ok"
      | .error _ => "pass_through>tail:from_term"
    | .ok (_, _ :: _) => "pass_through:ErrDecode"

/-- where the `131, 68` branch ends -/
def hdrSite (x : Ext) (tbl : Control.Table) (c : Cache) (data : Bytes) : String :=
  match (DistHeader.decodeWithAtomCache x c data).2 with
  | .error _ => "dist_header:decode_with_atom_cache"
  | .ok (ct, _) =>
    match Control.parse tbl ct with
    | .ok _ => "dist_header>tail:Ok"
    | .error _ => "dist_header>tail:from_term"

/-- the row of `Gen.RECV_EXITS` at which one iteration of the loop on the deframed body `data` ends -/
def exitSite (x : Ext) (tbl : Control.Table) (now : Nat) (s : St) (data : Bytes) : String :=
  match data with
  | [] => "head:continue"
  | [a] => if a = 112 then ptSite x tbl [] else "unmarked:ErrProtocol"
  | a :: b :: rest =>
    if a = 131 ∧ b = 69 then
      match decodeFragmentHeader data with
      | .error _ => "frag_header:decode_fragment_header"
      | .ok ((seq, fid, n), remaining) =>
        if fid = 0 then "frag_header:ErrProtocol" else
        match ((expire now s).asm.startFragment now seq fid none (131 :: 68 :: UInt8.ofNat n :: remaining)).2 with
        | some _ => "frag_header:decode_complete_fragment"
        | none => "frag_header:continue"
    else if a = 131 ∧ b = 70 then
      match decodeFragmentCont data with
      | .error _ => "frag_cont:decode_fragment_cont"
      | .ok ((seq, fid), remaining) =>
        if fid = 0 then "frag_cont:ErrProtocol" else
        match ((expire now s).asm.addFragment now seq fid remaining).2 with
        | some _ => "frag_cont:decode_complete_fragment"
        | none => "frag_cont:continue"
    else if a = 112 then ptSite x tbl (b :: rest)
    else if a = 131 ∧ b = 68 then hdrSite x tbl s.cache data
    else "unmarked:ErrProtocol"

/-- one state-changing statement of the source, by the name the translator gives it, on the connection state and the
bytes a completed fragment sequence handed back (if any): the frame off the transport (not part of `St`),
`cleanup_expired`, `start_fragment` / `add_fragment` with the decoded fragment header, the atom cache handed out as `&mut`
to `decode_with_atom_cache` / `decode_complete_fragment` -/
def runMut (x : Ext) (tbl : Control.Table) (now : Nat) (frame : Bytes) (st : St × Option Bytes) (m : String) : St × Option Bytes :=
  if m = "fragment_assembler.cleanup_expired" then (expire now st.1, st.2)
  else if m = "fragment_assembler.start_fragment" ∨ m = "fragment_assembler.add_fragment" then
    match fragOp now frame with
    | some op => ({ cache := st.1.cache, asm := (st.1.asm.step op).1 }, (st.1.asm.step op).2)
    | none => st
  else if m = "atom_cache" then
    ({ cache := (decodeCompleteFragment x tbl st.1.cache (st.2.getD frame)).1, asm := st.1.asm }, st.2)
  else st

def runMuts (x : Ext) (tbl : Control.Table) (now : Nat) (frame : Bytes) (s : St) (ms : List String) : St :=
  (ms.foldl (runMut x tbl now frame) (s, none)).1

/-- the row of a table of exits -/
def exitRow (t : List (String × String × List String)) (site : String) : Option (String × List String) := t.lookup site

/-- the kind of what an iteration returns, in the translator's words -/
def kindOf : Option Res → String → Prop
  | none, k => k = "continue"
  | some .err, k => k = "err" ∨ k = "result"
  | some (.ok _ _), k => k = "ok" ∨ k = "result"
  | some .panic, _ => False

theorem finish_kind {tbl : Control.Table} (htbl : Control.TableOK tbl) (ct : Term) (p : Option Term) :
    (∀ m, Control.parse tbl ct = .ok m → finish tbl ct p = .ok m p) ∧
    (∀ e, Control.parse tbl ct = .error e → finish tbl ct p = .err) := by
  have hnp := Control.no_panic htbl ct
  constructor
  · intro m h; simp [finish, h]
  · intro e h
    cases e with
    | err => simp [finish, h]
    | panic => exact absurd h hnp

/-- the statements before an exit, by path -/
def preHead : List String := ["transport.read_frame", "fragment_assembler.cleanup_expired"]

theorem runMuts_head (now : Nat) (data : Bytes) (s : St) :
    runMuts x tbl now data s preHead = expire now s := by
  simp [runMuts, runMut, preHead]

theorem runMuts_hdr (now : Nat) (r : Bytes) (s : St) :
    runMuts x tbl now (131 :: 68 :: r) s (preHead ++ ["atom_cache"]) = (recvHeader x tbl (expire now s) (131 :: 68 :: r)).1 := by
  simp [runMuts, runMut, preHead, expire, recvHeader, decodeCompleteFragment]

/-- the statements the table has before the exit `site` -/
def preOf (site : String) : Option (List String) := (exitRow Gen.RECV_EXITS site).map Prod.snd

theorem ptSite_row (rest : Bytes) : preOf (ptSite x tbl rest) = some preHead := by
  unfold ptSite
  repeat' split
  all_goals decide

theorem hdrSite_row (c : Cache) (data : Bytes) :
    preOf (hdrSite x tbl c data) = some (preHead ++ ["atom_cache"]) := by
  unfold hdrSite
  repeat' split
  all_goals decide

/-- the name the translator gives the assembler call an event is -/
def opStmt : Frag.Op → String
  | .start .. => "fragment_assembler.start_fragment"
  | _ => "fragment_assembler.add_fragment"

/-- the statements on the way to the exit of a frame that asks nothing of the assembler: only a `131, 68` frame hands the
atom cache to a decoder -/
def plainPre : Bytes → List String
  | 131 :: 68 :: _ => preHead ++ ["atom_cache"]
  | _ => preHead

/-- the state-changing statements on the way to the exit a frame takes: the read and the clean-up; for a fragment frame
that reaches the assembler its operation, and the atom cache if that completes the sequence -/
def preFor (now : Nat) (s : St) (data : Bytes) : List String :=
  match fragOp now data with
  | some op =>
    preHead ++ opStmt op :: (match ((expire now s).asm.step op).2 with
      | some _ => ["atom_cache"]
      | none => [])
  | none => plainPre data

/-- running them on the state before the frame gives the state after it -/
theorem runMuts_preFor (now : Nat) (s : St) (data : Bytes) :
    (recv x tbl now s data).1 = runMuts x tbl now data s (preFor now s data) := by
  rw [recv, dispatch_eq, preFor]
  cases hop : fragOp now data with
  | some op =>
    have hm : opStmt op = "fragment_assembler.start_fragment" ∨ opStmt op = "fragment_assembler.add_fragment" := by
      cases op <;> simp [opStmt]
    have hstep : ((s.asm.cleanupExpired now).1.step op) = (expire now s).asm.step op := rfl
    dsimp only
    cases hr : ((expire now s).asm.step op).2 with
    | none =>
      rw [deliver_none x tbl _ _ hr]
      rcases hm with h | h <;> simp [runMuts, runMut, preHead, expire, hop, h]
    | some c =>
      rw [deliver_some x tbl _ _ _ hr]
      rcases hm with h | h <;> simp [runMuts, runMut, preHead, expire, hop, h, hstep, hr]
  | none =>
    dsimp only
    unfold plain plainPre
    split
    · exact (runMuts_head ..).symm
    · exact (runMuts_head ..).symm
    · exact (runMuts_hdr ..).symm
    · split
      · rename_i h; exact (h _ rfl).elim
      · exact (runMuts_head ..).symm

/-- and they are what the table has for that exit -/
theorem exitSite_row (now : Nat) (s : St) (data : Bytes) :
    preOf (exitSite x tbl now s data) = some (preFor now s data) := by
  match data with
  | [] => rfl
  | [a] =>
    simp only [exitSite, preFor, fragOp, plainPre]
    split
    · exact ptSite_row x tbl []
    · decide
  | a :: b :: rest =>
    by_cases h69 : a = 131 ∧ b = 69
    · obtain ⟨rfl, rfl⟩ := h69
      simp only [exitSite, preFor, fragOp, and_self, ↓reduceIte, Frag.Assembler.step]
      rcases decodeFragmentHeader (131 :: 69 :: rest) with er | ⟨⟨seq, fid, n⟩, remaining⟩
      · rfl
      · by_cases h0 : fid = 0
        · simp only [h0, ↓reduceIte]; rfl
        · simp only [h0, ↓reduceIte]
          rcases ((expire now s).asm.startFragment now seq fid none (131 :: 68 :: UInt8.ofNat n :: remaining)).2 with _ | c <;> rfl
    · by_cases h70 : a = 131 ∧ b = 70
      · obtain ⟨rfl, rfl⟩ := h70
        have h : ¬ (70 : UInt8) = 69 := by decide
        simp only [exitSite, preFor, fragOp, h, and_false, and_self, ↓reduceIte, Frag.Assembler.step]
        rcases decodeFragmentCont (131 :: 70 :: rest) with er | ⟨⟨seq, fid⟩, remaining⟩
        · rfl
        · by_cases h0 : fid = 0
          · simp only [h0, ↓reduceIte]; rfl
          · simp only [h0, ↓reduceIte]
            rcases ((expire now s).asm.addFragment now seq fid remaining).2 with _ | c <;> rfl
      · simp only [exitSite, preFor, fragOp, h69, h70, ↓reduceIte]
        by_cases h112 : a = 112
        · subst h112; exact ptSite_row x tbl (b :: rest)
        · by_cases h68 : a = 131 ∧ b = 68
          · obtain ⟨rfl, rfl⟩ := h68; exact hdrSite_row x tbl s.cache _
          · simp only [h112, h68, ↓reduceIte]
            unfold plainPre
            split
            · simp_all
            · rfl

end Edp.Recv
