import EdpVerif.Impl.Serde
/-! C15: `f32 → f64 → f32` is the identity on every non-NaN bit pattern; a NaN comes back as a NaN of the same sign (only
the payload, which `==` cannot see, may change). -/
namespace Edp.Serde

/-- sign, exponent and mantissa of a packed `f64`; the word is a variable `b` so that `omega` meets it once -/
theorem f64_fields (s e m : Nat) (hs : s < 2) (he : e < 2048) (hm : m < 2 ^ 52) (b : Nat)
    (hb : b = s * 2 ^ 63 + e * 2 ^ 52 + m) : b / 2 ^ 63 % 2 = s ∧ b / 2 ^ 52 % 2048 = e ∧ b % 2 ^ 52 = m := by
  omega

theorem rneShift_exact (q k : Nat) (hk : 0 < k) : rneShift (q * 2 ^ k) k = q := by
  have hpos : 0 < 2 ^ k := Nat.pow_pos (by omega)
  have : 0 < 2 ^ k / 2 := by
    have : 2 ^ 1 ≤ 2 ^ k := Nat.pow_le_pow_right (by omega) hk
    omega
  simp only [rneShift, Nat.mul_div_cancel q hpos, Nat.mul_mod_left]
  rw [if_neg (by omega)]

theorem f64to32_normal (s e m : Nat) (hs : s < 2) (he1 : 1 ≤ e) (he2 : e ≤ 254) (hm : m < 2 ^ 23) :
    f64to32 (s * 2 ^ 63 + (e + 896) * 2 ^ 52 + m * 2 ^ 29) = s * 2 ^ 31 + e * 2 ^ 23 + m := by
  obtain ⟨h1, h2, h3⟩ := f64_fields s (e + 896) (m * 2 ^ 29) hs (by omega) (by omega) _ rfl
  have r : rneShift (2 ^ 52 + m * 2 ^ 29) 29 = 2 ^ 23 + m := by
    rw [show 2 ^ 52 + m * 2 ^ 29 = (2 ^ 23 + m) * 2 ^ 29 by omega]; exact rneShift_exact _ _ (by omega)
  unfold f64to32
  simp only [h1, h2, h3, r]
  rw [if_neg (by omega), if_neg (by omega), if_pos (by omega), if_neg (by omega)]
  omega

theorem topBit_spec : ∀ (n m : Nat), 0 < m → m < 2 ^ n → 2 ^ topBit n m ≤ m ∧ m < 2 ^ (topBit n m + 1) ∧ topBit n m < n
  | 0, m, h0, h => by simp at h; omega
  | n + 1, m, h0, h => by
    unfold topBit
    split
    · exact ⟨by assumption, h, by omega⟩
    · rename_i hlt
      have := topBit_spec n m h0 (by omega)
      exact ⟨this.1, this.2.1, by omega⟩

/-- a subnormal `f32` (mantissa `m`, top bit `k`) widened to a normal `f64` and narrowed again -/
theorem f64to32_sub (s m : Nat) (hs : s < 2) (h0 : 0 < m) (hm : m < 2 ^ 23) :
    f64to32 (s * 2 ^ 63 + (topBit 23 m + 874) * 2 ^ 52 + (m * 2 ^ (52 - topBit 23 m) - 2 ^ 52)) = s * 2 ^ 31 + m := by
  obtain ⟨t1, t2, t3⟩ := topBit_spec 23 m h0 hm
  generalize topBit 23 m = k at *
  have e1 : 2 ^ k * 2 ^ (52 - k) = 2 ^ 52 := by rw [← Nat.pow_add]; congr 1; omega
  have e2 : 2 ^ (k + 1) * 2 ^ (52 - k) = 2 ^ 53 := by rw [← Nat.pow_add]; congr 1; omega
  have hpos : 0 < 2 ^ (52 - k) := Nat.pow_pos (by omega)
  have lo : 2 ^ 52 ≤ m * 2 ^ (52 - k) := by rw [← e1]; exact Nat.mul_le_mul_right _ t1
  have hi : m * 2 ^ (52 - k) < 2 ^ 53 := by rw [← e2]; exact (Nat.mul_lt_mul_right hpos).mpr t2
  have r := rneShift_exact m (52 - k) (by omega)
  generalize m * 2 ^ (52 - k) = mc at *
  obtain ⟨h1, h2, h3⟩ := f64_fields s (k + 874) (mc - 2 ^ 52) hs (by omega) (by omega) _ rfl
  unfold f64to32
  simp only [h1, h2, h3]
  rw [if_neg (by omega), if_neg (by omega), if_neg (by omega), show 2 ^ 52 + (mc - 2 ^ 52) = mc by omega,
    show 926 - (k + 874) = 52 - k by omega, r]

theorem f64to32_inf (s : Nat) (hs : s < 2) : f64to32 (s * 2 ^ 63 + 2047 * 2 ^ 52) = s * 2 ^ 31 + 255 * 2 ^ 23 := by
  obtain ⟨h1, h2, h3⟩ := f64_fields s 2047 0 hs (by omega) (by omega) _ rfl
  unfold f64to32
  simp only [Nat.add_zero] at h1 h2 h3
  simp only [h1, h2, h3, if_true]

theorem f64to32_zero (s : Nat) (hs : s < 2) : f64to32 (s * 2 ^ 63) = s * 2 ^ 31 := by
  obtain ⟨h1, h2, h3⟩ := f64_fields s 0 0 hs (by omega) (by omega) _ rfl
  unfold f64to32
  simp only [Nat.zero_mul, Nat.add_zero] at h1 h2 h3
  simp only [h1, h2, h3]
  rfl

/-- widening an `f32` and narrowing it again gives back every bit pattern that is not a NaN -/
theorem f32_roundtrip (b : Nat) (h : b < 2 ^ 32) (hn : f32IsNaN b = false) : f64to32 (f32to64 b) = b := by
  have hs : b / 2 ^ 31 % 2 < 2 := Nat.mod_lt _ (by omega)
  have hm : b % 2 ^ 23 < 2 ^ 23 := Nat.mod_lt _ (Nat.pow_pos (by omega))
  have he : b / 2 ^ 23 % 256 < 256 := Nat.mod_lt _ (by omega)
  have hb : b / 2 ^ 31 % 2 * 2 ^ 31 + b / 2 ^ 23 % 256 * 2 ^ 23 + b % 2 ^ 23 = b := by omega
  simp only [f32IsNaN, Bool.and_eq_false_iff, beq_eq_false_iff_ne, bne_eq_false_iff_eq, ne_eq] at hn
  unfold f32to64
  generalize b / 2 ^ 31 % 2 = s at *
  generalize b / 2 ^ 23 % 256 = e at *
  generalize b % 2 ^ 23 = m at *
  simp only []
  split
  · rename_i he
    have hm0 : m = 0 := by omega
    subst he hm0
    rw [if_pos rfl, f64to32_inf s hs]; exact hb
  split
  · rename_i he
    subst he
    split
    · rename_i hm0
      subst hm0
      rw [f64to32_zero s hs]; simpa using hb
    · rw [f64to32_sub s m hs (by omega) hm]; simpa using hb
  · rw [f64to32_normal s e m hs (by omega) (by omega) hm]; exact hb

end Edp.Serde

namespace Edp.SerdeNaN
open Edp Edp.Serde

theorem f64to32_nan (s p : Nat) (hs : s < 2) (hp : p < 2 ^ 51) :
    f64to32 (s * 2 ^ 63 + 2047 * 2 ^ 52 + 2 ^ 51 + p) =
      s * 2 ^ 31 + 255 * 2 ^ 23 + 2 ^ 22 + ((2 ^ 51 + p) / 2 ^ 29) % 2 ^ 22 := by
  obtain ⟨h1, h2, h3⟩ := f64_fields s 2047 (2 ^ 51 + p) hs (by omega) (by omega)
    (s * 2 ^ 63 + 2047 * 2 ^ 52 + 2 ^ 51 + p) (by omega)
  unfold f64to32
  simp only [h1, h2, h3]
  rw [if_neg (show ¬ 2 ^ 51 + p = 0 by omega), if_pos trivial]

theorem f32_nan_stays_nan (b : Nat) (h : b < 2 ^ 32) (hn : f32IsNaN b = true) :
    f32IsNaN (f64to32 (f32to64 b)) = true ∧ f64to32 (f32to64 b) / 2 ^ 31 = b / 2 ^ 31 := by
  simp only [f32IsNaN, Bool.and_eq_true, beq_iff_eq, bne_iff_ne, ne_eq] at hn
  obtain ⟨he, hm⟩ := hn
  have hs2 : b / 2 ^ 31 < 2 := by omega
  have hs : b / 2 ^ 31 % 2 = b / 2 ^ 31 := Nat.mod_eq_of_lt hs2
  have hp' : (b % 2 ^ 23 * 2 ^ 29) % 2 ^ 51 < 2 ^ 51 := Nat.mod_lt _ (by decide)
  have e : f32to64 b = b / 2 ^ 31 * 2 ^ 63 + 2047 * 2 ^ 52 + 2 ^ 51 + (b % 2 ^ 23 * 2 ^ 29) % 2 ^ 51 := by
    unfold f32to64
    simp only [he, if_true, hm, if_false, hs]
  rw [e, f64to32_nan _ _ hs2 hp']
  generalize (b % 2 ^ 23 * 2 ^ 29) % 2 ^ 51 = p at hp'
  generalize b / 2 ^ 31 = s at hs2
  have hq : (2 ^ 51 + p) / 2 ^ 29 % 2 ^ 22 < 2 ^ 22 := Nat.mod_lt _ (by decide)
  generalize (2 ^ 51 + p) / 2 ^ 29 % 2 ^ 22 = q at hq
  simp only [f32IsNaN, Nat.reducePow, Bool.and_eq_true, beq_iff_eq, bne_iff_ne, ne_eq] at *
  refine ⟨⟨by omega, by omega⟩, by omega⟩

end Edp.SerdeNaN
