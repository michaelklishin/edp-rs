import EdpVerif.Lemmas.ElixirTerms
import EdpVerif.Lemmas.WireOrder
/-!
C20: `wireNorm` (Impl/Elixir.lean) is the `wire` of C01's round-trip theorem (Lemmas/RoundTrip.lean) on every
well-formed term, so that the wire round trips of the wrappers are statements about `decode (encode t)` of the codec
model; struct maps built from well-formed values are well-formed and one level deeper than their values; and the wire
image of a term whose big integers have minimal digits has minimal digits again (`WFo_wireNorm`), which discharges the
extra hypothesis of `C20_mapset_wire`.
-/
namespace Edp.Ex
open Edp Edp.Term

theorem wireKV_eq_map : ∀ (l : List (Term × Term)), wireKV l = l.map fun p => (wire p.1, wire p.2)
  | [] => rfl
  | (k, v) :: r => by simp [wireKV, wireKV_eq_map r]

mutual
/-- what the model of the wrappers calls the wire image of a term is what C01 proves `decode (encode t)` to be -/
theorem wireNorm_eq_wire (t : Term) (hw : wfT t = true) : wireNorm t = wire t := by
  match t with
  | .atom _ | .float _ | .bin _ | .str _ | .bits _ _ | .big _ _ | .nil | .pid _ | .port _ _ _ _ | .ref _ _ _ _
  | .xfun _ _ _ => simp [wire, wireNorm]
  | .int i => simp only [wfT, decide_eq_true_eq] at hw; simp only [wireNorm]; exact (wire_int_eq i hw).symm
  | .tuple l | .ifun _ _ _ _ _ _ _ _ l =>
    simp only [wfT, Bool.and_eq_true] at hw
    simp [wire, wireNorm, wireNormL_eq_wireL l hw.2]
  | .list l =>
    simp only [wfT, Bool.and_eq_true] at hw
    have ih := wireNormL_eq_wireL l hw.2
    cases l with
    | nil => simp [wire, wireNorm]
    | cons a l' => simp [wire, wireNorm, ih]
  | .ilist l tl =>
    simp only [wfT, Bool.and_eq_true] at hw
    have ih := wireNormL_eq_wireL l hw.1.2
    have iht := wireNorm_eq_wire tl hw.2
    simp only [wire, wireNorm, ih, iht]
    cases wire tl <;> rfl
  | .map kvs =>
    simp only [wfT, Bool.and_eq_true] at hw
    have e : kvs.map (fun p => (wireNorm p.1, wireNorm p.2)) = kvs.map fun p => (wire p.1, wire p.2) :=
      List.map_congr_left fun p hp => by rw [(wireNormKV_pointwise kvs hw.2 p hp).1, (wireNormKV_pointwise kvs hw.2 p hp).2]
    simp only [wire, wireNorm, wireKV_eq_map, wireNormKV_eq_insertAll, e]
termination_by sizeOf t
decreasing_by all_goals (simp_wf; try omega)
theorem wireNormL_eq_wireL (l : List Term) (hw : wfL l = true) : wireNormL l = wireL l := by
  match l with
  | [] => simp [wireL, wireNormL]
  | t :: ts =>
    simp only [wfL, Bool.and_eq_true] at hw
    simp [wireL, wireNormL, wireNorm_eq_wire t hw.1, wireNormL_eq_wireL ts hw.2]
termination_by sizeOf l
decreasing_by all_goals (simp_wf; try omega)
theorem wireNormKV_pointwise (kvs : List (Term × Term)) (hw : wfKV kvs = true) :
    ∀ p ∈ kvs, wireNorm p.1 = wire p.1 ∧ wireNorm p.2 = wire p.2 := by
  match kvs with
  | [] => intro p hp; cases hp
  | (k, v) :: ts =>
    simp only [wfKV, Bool.and_eq_true] at hw
    intro p hp
    rcases List.mem_cons.mp hp with rfl | hp
    · exact ⟨wireNorm_eq_wire k hw.1.1, wireNorm_eq_wire v hw.1.2⟩
    · exact wireNormKV_pointwise ts hw.2 p hp
termination_by sizeOf kvs
decreasing_by all_goals (simp_wf; try omega)
end

theorem wfKV_of_all : ∀ (m : List (Term × Term)), (∀ p ∈ m, wfT p.1 = true ∧ wfT p.2 = true) → wfKV m = true
  | [], _ => rfl
  | (k, v) :: r, h => by
    have h0 := h (k, v) (by simp)
    simp only [wfKV, Bool.and_eq_true]
    exact ⟨⟨h0.1, h0.2⟩, wfKV_of_all r (fun p hp => h p (List.mem_cons_of_mem _ hp))⟩

theorem depKV_le_of_all (n : Nat) : ∀ (m : List (Term × Term)), (∀ p ∈ m, dep p.1 ≤ n ∧ dep p.2 ≤ n) → depKV m ≤ n
  | [], _ => by simp [depKV]
  | (k, v) :: r, h => by
    have h0 := h (k, v) (by simp)
    have := depKV_le_of_all n r (fun p hp => h p (List.mem_cons_of_mem _ hp))
    simp only [depKV] at h0 ⊢
    omega

theorem wf_struct (l : List (Bytes × Term)) (n : Nat)
    (hl : ∀ kv ∈ l, validUtf8 kv.1 = true ∧ wfT kv.2 = true ∧ dep kv.2 ≤ n) (hn : l.length ≤ MAX_MAP_SIZE) :
    wfT (.map (mkMap l)) = true ∧ dep (.map (mkMap l)) ≤ n + 1 := by
  have h := foldl_mapInsert_all (fun k => wfT k = true ∧ dep k ≤ n) (fun v => wfT v = true ∧ dep v ≤ n)
    (fun kv : Bytes × Term => Term.atom kv.1) (·.2) l [] (fun e he => by simpa [wfT, dep] using hl e he) (by simp)
  simp only [wfT, dep, Bool.and_eq_true, decide_eq_true_eq]
  refine ⟨⟨Nat.le_trans (by simpa [mkMap] using h.2) hn, wfKV_of_all _ fun p hp => ⟨(h.1 p hp).1.1, (h.1 p hp).2.1⟩⟩, ?_⟩
  have := depKV_le_of_all n _ fun p hp => ⟨(h.1 p hp).1.2, (h.1 p hp).2.2⟩
  unfold mkMap
  omega

theorem WFoKV_iff : ∀ (m : List (Term × Term)), WFoKV m = true ↔ ∀ p ∈ m, WFo p.1 = true ∧ WFo p.2 = true
  | [] => by simp [WFoKV]
  | (k, v) :: r => by
    simp only [WFoKV, Bool.and_eq_true, List.mem_cons, forall_eq_or_imp, WFoKV_iff r, and_assoc]

theorem WFo_wireInt (i : Int) : WFo (wireInt i) = true := by
  unfold wireInt; split
  · rfl
  · simp only [WFo]; exact minDigits_natDigits _

mutual
theorem WFo_wireNorm : ∀ (t : Term), WFo t = true → WFo (wireNorm t) = true
  | .atom _, _ | .float _, _ | .pid _, _ | .port _ _ _ _, _ | .ref _ _ _ _, _ | .bin _, _ | .bits _ _, _ | .xfun _ _ _, _
  | .nil, _ | .str _, _ => by simp [wireNorm, WFo]
  | .big _ _, h => by simpa [wireNorm] using h
  | .int i, _ => by simp only [wireNorm]; exact WFo_wireInt i
  | .tuple l, h | .ifun _ _ _ _ _ _ _ _ l, h => by simp only [WFo] at h; simp only [wireNorm, WFo]; exact WFoL_wireNormL l h
  | .list l, h => by
    simp only [WFo] at h
    cases l with
    | nil => simp [wireNorm, WFo]
    | cons a l' => simp only [wireNorm, WFo]; exact WFoL_wireNormL _ h
  | .ilist l t, h => by
    simp only [WFo, Bool.and_eq_true] at h
    have h1 := WFoL_wireNormL l h.1
    have h2 := WFo_wireNorm t h.2
    simp only [wireNorm]
    split
    · simp only [WFo]; exact h1
    · simp only [WFo, Bool.and_eq_true]; exact ⟨h1, h2⟩
  | .map m, h => by
    simp only [WFo] at h
    simp only [wireNorm, WFo]
    exact WFoKV_wireNormKV m [] h rfl
theorem WFoL_wireNormL : ∀ (l : List Term), WFoL l = true → WFoL (wireNormL l) = true
  | [], _ => rfl
  | t :: ts, h => by
    simp only [WFoL, Bool.and_eq_true] at h
    simp only [wireNormL, WFoL, Bool.and_eq_true]
    exact ⟨WFo_wireNorm t h.1, WFoL_wireNormL ts h.2⟩
theorem WFoKV_wireNormKV : ∀ (m acc : List (Term × Term)), WFoKV m = true → WFoKV acc = true →
    WFoKV (wireNormKV m acc) = true
  | [], acc, _, ha => by simpa [wireNormKV] using ha
  | (k, v) :: r, acc, h, ha => by
    simp only [WFoKV, Bool.and_eq_true] at h
    simp only [wireNormKV]
    exact WFoKV_wireNormKV r _ h.2 ((WFoKV_iff _).mpr (mapInsert_forall (P := (WFo · = true)) (Q := (WFo · = true)) acc _ _
      (WFo_wireNorm k h.1.1) (WFo_wireNorm v h.1.2) ((WFoKV_iff acc).mp ha)))
end

end Edp.Ex
