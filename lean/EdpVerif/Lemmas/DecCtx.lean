import EdpVerif.Impl.DecodeCtx
import EdpVerif.Lemmas.DecSuffix
/-!
Behind `C13_ctx_erase`, `C13_offset_within` and `C13_no_underflow` (Props/C13.lean): the parser family WITH its error context
(`decC`, Impl/DecodeCtx.lean) does exactly what the context-free generic model in its zero-copy configuration does
(`dec x cBorrowed`, Impl/Decode.lean) — same term, same rest, same error — and on the way never underflows
`original_len - input.len()`, never hands a sub-parser more bytes than it got, and keeps every offset it leaves behind or
reports between the start of the term being parsed and the end of the input.  `ctx_inv` is the induction; the top-level
statements are in Props/C13.lean.
-/
namespace Edp

/-- what a parser with context (`c`) and its context-free twin (`d`) have to do with each other on an input of `bl`
bytes that starts at or behind offset `lo` of an original input of `orig` bytes: same result and rest; the rest is not
longer than the input; every offset left behind or reported lies between `lo` and `orig`; no underflow -/
def RelT {α : Type} (orig bl lo : Nat) : BRes α → Except DErr (α × Bytes) → Prop
  | .ok v r off, d => d = .ok (v, r) ∧ r.length ≤ bl ∧ lo ≤ off ∧ off ≤ orig
  | .fail e o _, d => d = .error e ∧ lo ≤ o ∧ o ≤ orig
  | .panic, _ => False

/-- the induction hypothesis at one fuel level.  A term computes its offset `orig - bs.length` itself; a sequence or a map
(`InvN`, `InvKV`) is entered with the offset `off` the context holds then (the enclosing term's, or what the field before
left behind), hence the lower bound `lo` of all offsets as a parameter -/
def InvT (x : Ext) (orig fuel : Nat) : Prop :=
  ∀ depth path bs, bs.length ≤ orig →
    RelT orig bs.length (orig - bs.length) (decC x orig fuel depth path bs) (dec x cBorrowed fuel depth bs)
def InvN (x : Ext) (orig fuel : Nat) : Prop :=
  ∀ depth path k i n bs off lo, bs.length ≤ orig → off ≤ orig → lo ≤ off → lo ≤ orig - bs.length →
    RelT orig bs.length lo (decCN x orig fuel depth path k i n bs off) (decN x cBorrowed fuel depth n bs)
def InvKV (x : Ext) (orig fuel : Nat) : Prop :=
  ∀ depth path n bs m off lo, bs.length ≤ orig → off ≤ orig → lo ≤ off → lo ≤ orig - bs.length →
    RelT orig bs.length lo (decCKV x orig fuel depth path n bs m off) (decKV x cBorrowed fuel depth n bs m)

/-- in front of every arm of `decC`: the offset subtraction, then the nesting limit, reported at this term's offset -/
def guardC {α : Type} (orig d : Nat) (path : List Seg) (r : Bytes) (k : Nat → BRes α) : BRes α :=
  if r.length + 1 > orig then .panic else
  if d > MAX_NESTING_DEPTH then .fail .err (orig - (r.length + 1)) path else k (orig - (r.length + 1))

namespace RelT
variable {α : Type} {orig bl lo : Nat}

theorem ok {v : α} {r : Bytes} {off : Nat} {d : Except DErr (α × Bytes)} (hd : d = .ok (v, r)) (hl : r.length ≤ bl)
    (h1 : lo ≤ off) (h2 : off ≤ orig) : RelT orig bl lo (.ok v r off) d := ⟨hd, hl, h1, h2⟩

theorem fail {e : DErr} {o : Nat} {p : List Seg} {d : Except DErr (α × Bytes)} (hd : d = .error e)
    (h1 : lo ≤ o) (h2 : o ≤ orig) : RelT orig bl lo (.fail e o p) d := ⟨hd, h1, h2⟩

@[elab_as_elim]
theorem byCases {motive : BRes α → Except DErr (α × Bytes) → Prop} {c : BRes α} {d : Except DErr (α × Bytes)}
    (h : RelT orig bl lo c d)
    (ok : ∀ v r off, r.length ≤ bl → lo ≤ off → off ≤ orig → motive (.ok v r off) (.ok (v, r)))
    (fail : ∀ e o p, lo ≤ o → o ≤ orig → motive (.fail e o p) (.error e)) : motive c d := by
  cases c with
  | ok v r off => obtain ⟨rfl, h⟩ := h; exact ok v r off h.1 h.2.1 h.2.2
  | fail e o p => obtain ⟨rfl, h⟩ := h; exact fail e o p h.1 h.2
  | panic => exact False.elim h

theorem arm {d n : Nat} {path : List Seg} {r : Bytes} {kc : BRes Term} {kd : DRes}
    (hl : r.length + 1 ≤ orig) (hn : ownedOnlyTags.contains n = false)
    (h : d ≤ MAX_NESTING_DEPTH → RelT orig (r.length + 1) (orig - (r.length + 1)) kc kd) :
    RelT orig (r.length + 1) (orig - (r.length + 1)) (guardC orig d path r fun _ => kc) (guardTag cBorrowed d n kd) := by
  unfold guardTag guardC
  rw [if_neg (by omega)]
  split
  · exact .fail rfl (Nat.le_refl _) (Nat.sub_le _ _)
  · simp only [hn, Bool.and_false, Bool.false_eq_true, ↓reduceIte]; exact h (by omega)
end RelT

/-! `ctx_inv` walks down the two arms of a tag side by side.  Three facts are kept on the way, under fixed
names: `hb`, the rest reached is no longer than `r`, what followed the tag byte; `hlo` and `ho`, the offset the context
model holds lies between this term's offset and `orig`.  The abbreviations below are the four kinds of step; they read
`hl ih ihN d path orig r` of `ctx_inv`, and every `c_sub`/`c_subN` binds `t`/`l`, `r2`, `off2` afresh. -/

/-- Open both arms: the context model's by evaluating its dispatch on the tag `n`, none of the context-free ones. -/
syntax "c_arm " num : tactic
set_option hygiene false in
macro_rules
  | `(tactic| c_arm $n) => `(tactic| (
    rw [decC.eq_2]
    simp only [List.length_cons, UInt8.reduceToNat, (by decide : ctxLeafTags.contains $n = false), Bool.false_eq_true,
      ↓reduceIte]
    refine RelT.arm hl rfl fun hd => ?_
    have hb := Nat.le_refl r.length
    have hlo := Nat.le_refl (orig - (r.length + 1))
    have ho := Nat.sub_le orig (r.length + 1)))

/-- `c_rd len e v r'`: a reader `e` that both models run on the same rest (`len`: its rest is no longer): its refusal is
reported at the offset held; otherwise its value and rest go on under the names `v`, `r'`. -/
syntax "c_rd " term:max term:max ident ident : tactic
set_option hygiene false in
macro_rules
  | `(tactic| c_rd $len $e $v $r') => `(tactic| (
    rcases he : $e with e | ⟨$v:ident, $r':ident⟩
    · exact RelT.fail rfl hlo ho
    have hb := Nat.le_trans ($len he) hb
    dsimp only))

set_option hygiene false in
/-- A limit both models check. -/
macro "c_if" : tactic => `(tactic| (split; exact RelT.fail rfl hlo ho))

/-- A sub-term, parsed one level down with path `p` from the rest `b`: by the induction hypothesis the two models fail
together, within bounds, or return the same term `t` and rest `r2`, the context model now holding `off2`. -/
syntax "c_sub " term:max term:max : tactic
set_option hygiene false in
macro_rules
  | `(tactic| c_sub $p $b) => `(tactic| (
    have hlo' := Nat.sub_le_sub_left (Nat.le_succ_of_le hb) orig
    refine (ih (d + 1) $p $b (Nat.le_trans hb (Nat.le_of_succ_le hl))).byCases (fun t r2 off2 hl2 hlo2 ho => ?_)
      fun e o q hlo2 ho => .fail rfl (Nat.le_trans hlo' hlo2) ho
    have hlo := Nat.le_trans hlo' hlo2
    have hb := Nat.le_trans hl2 hb))

set_option hygiene false in
/-- Of the term `t` just parsed one kind goes on; both models refuse every other, at the offset left behind. -/
macro "c_kind" : tactic => `(tactic| (cases t <;> try exact RelT.fail rfl hlo ho
                                      dsimp only))

/-- The same for a counted sequence of `n` terms of kind `k`, started at the offset `o` held. -/
syntax "c_subN " term:max term:max term:max term:max : tactic
set_option hygiene false in
macro_rules
  | `(tactic| c_subN $k $n $b $o) => `(tactic| (
    refine (ihN (d + 1) path $k 0 $n $b $o (orig - (r.length + 1)) (Nat.le_trans hb (Nat.le_of_succ_le hl)) ho hlo
      (Nat.sub_le_sub_left (Nat.le_succ_of_le hb) orig)).byCases
      (fun l r2 off2 hl2 hlo ho => ?_) fun e o q hlo ho => .fail rfl hlo ho
    have hb := Nat.le_trans hl2 hb
    dsimp only))

theorem guardTag_zero {n : Nat} {k : DRes} (hn : ownedOnlyTags.contains n = false) : guardTag cBorrowed 0 n k = k := by
  unfold guardTag
  rw [if_neg (by decide), hn]; rfl

theorem guardTag_owned {d n : Nat} {k : DRes} (hn : ownedOnlyTags.contains n = true) :
    guardTag cBorrowed d n k = .error .err := by
  unfold guardTag
  split
  · rfl
  · rw [hn]; rfl

section
variable (x : Ext) (orig f d : Nat) (path : List Seg) (r : Bytes)

theorem decC_leaf {tag : UInt8} (h : ctxLeafTags.contains tag.toNat = true) :
    decC x orig (f + 1) d path (tag :: r) = guardC orig d path r fun off =>
      match dec x cBorrowed 1 0 (tag :: r) with
      | .ok (t, r') => .ok t r' off
      | .error e => .fail e off path := by
  rw [decC.eq_2]; simp only [h, ↓reduceIte]; rfl

/-- the bytes that are no tag at all -/
theorem decC_other {tag : UInt8} (h : tag ∉ decTags) :
    decC x orig (f + 1) d path (tag :: r) = guardC orig d path r fun off => .fail .err off path := by
  rw [decC.eq_2]; unfold guardC
  simp only [List.length_cons]
  split
  · rfl
  split
  · rfl
  have absurd_tag : ∀ {n : Nat}, tag.toNat = n → UInt8.ofNat n ∈ decTags → False := fun hn hm =>
    h (UInt8.ofNat_toNat (x := tag) ▸ hn ▸ hm)
  split
  · rename_i hleaf
    simp only [ctxLeafTags, List.contains_eq_mem, List.mem_cons, List.mem_nil_iff, or_false, decide_eq_true_eq] at hleaf
    rcases hleaf with h | h | h | h | h | h | h | h | h | h | h | h | h <;> exact (absurd_tag h (by decide)).elim
  split
  all_goals first
    | rfl
    | exact (absurd_tag ‹tag.toNat = _› (by decide)).elim

end

section
variable {x : Ext} {orig f d : Nat} {path : List Seg} {r : Bytes} (hl : r.length + 1 ≤ orig)
include hl

/-- the thirteen context-free parsers neither recurse nor look at the depth: `h` is the equation of such a tag -/
theorem ctx_leaf {tag : UInt8} {n : Nat} {k : DRes} (hleaf : ctxLeafTags.contains tag.toNat = true)
    (hn : ownedOnlyTags.contains n = false) (h : ∀ f d, dec x cBorrowed (f + 1) d (tag :: r) = guardTag cBorrowed d n k) :
    RelT orig (r.length + 1) (orig - (r.length + 1)) (decC x orig (f + 1) d path (tag :: r))
      (dec x cBorrowed (f + 1) d (tag :: r)) := by
  have h0 : dec x cBorrowed 1 0 (tag :: r) = k := (h 0 0).trans (guardTag_zero hn)
  rw [decC_leaf x orig f d path r hleaf, h f d, h0]
  unfold guardC
  refine .arm hl hn fun _ => ?_
  cases hk : k with
  | error e => exact .fail rfl (Nat.le_refl _) (Nat.sub_le _ _)
  | ok p => exact .ok rfl (dec_rest_le x cBorrowed 1 0 (tag :: r) p.1 p.2 (h0.trans hk)) (Nat.le_refl _) (Nat.sub_le _ _)

/-- a byte for which the zero-copy decoder has no parser: both models refuse, at this term's offset -/
theorem ctx_refused {tag : UInt8} (hC : decC x orig (f + 1) d path (tag :: r) = guardC orig d path r fun off => .fail .err off path)
    (hD : dec x cBorrowed (f + 1) d (tag :: r) = .error .err) :
    RelT orig (r.length + 1) (orig - (r.length + 1)) (decC x orig (f + 1) d path (tag :: r))
      (dec x cBorrowed (f + 1) d (tag :: r)) := by
  rw [hC, hD]; unfold guardC
  rw [if_neg (by omega)]
  split <;> exact .fail rfl (Nat.le_refl _) (Nat.sub_le _ _)

end

/-- the context model against the context-free model of the zero-copy decoder, all fuels, depths, paths and inputs -/
theorem ctx_inv (x : Ext) (orig : Nat) : ∀ fuel, InvT x orig fuel ∧ InvN x orig fuel ∧ InvKV x orig fuel := by
  intro fuel
  induction fuel with
  | zero =>
    refine ⟨fun d path bs hl => ?_, fun d path k i n bs off lo hl ho hlo hlo2 => ?_,
      fun d path n bs m off lo hl ho hlo hlo2 => ?_⟩
    · rw [decC, dec, if_neg (by omega)]; exact .fail rfl (Nat.le_refl _) (Nat.sub_le _ _)
    · cases n <;> rw [decCN, decN]
      · exact .ok rfl (Nat.le_refl _) hlo ho
      · exact .fail rfl hlo ho
    · cases n <;> rw [decCKV, decKV]
      · exact .ok rfl (Nat.le_refl _) hlo ho
      · exact .fail rfl hlo ho
  | succ f ihh =>
    obtain ⟨ih, ihN, ihKV⟩ := ihh
    refine ⟨fun d path bs hl => ?_, fun d path k i n bs off lo hl ho hlo hlo2 => ?_,
      fun d path n bs m off lo hl ho hlo hlo2 => ?_⟩
    · cases bs with
      | nil =>
        have hd : dec x cBorrowed (f + 1) d [] = .error .err := by simp only [dec]
        rw [decC.eq_2, hd, if_neg (show ¬ ([] : Bytes).length > orig from Nat.not_lt_zero _)]
        split <;> exact .fail rfl (Nat.le_refl _) (Nat.sub_le _ _)
      | cons tag r =>
        have hl : r.length + 1 ≤ orig := hl
        apply decTags_cases (motive := fun tag => RelT orig (r.length + 1) (orig - (r.length + 1))
          (decC x orig (f + 1) d path (tag :: r)) (dec x cBorrowed (f + 1) d (tag :: r))) tag
        case other => exact fun h => ctx_refused hl (decC_other x orig f d path r h) (dec_other x cBorrowed f d r h)
        case h97 => exact ctx_leaf hl rfl rfl fun f d => dec_97 x cBorrowed f d r
        case h98 => exact ctx_leaf hl rfl rfl fun f d => dec_98 x cBorrowed f d r
        case h99 => exact ctx_leaf hl rfl rfl fun f d => dec_99 x cBorrowed f d r
        case h70 => exact ctx_leaf hl rfl rfl fun f d => dec_70 x cBorrowed f d r
        case h100 => exact ctx_leaf hl rfl rfl fun f d => dec_100 x cBorrowed f d r
        case h118 => exact ctx_leaf hl rfl rfl fun f d => dec_118 x cBorrowed f d r
        case h119 => exact ctx_leaf hl rfl rfl fun f d => dec_119 x cBorrowed f d r
        case h106 => exact ctx_leaf hl rfl rfl fun f d => dec_106 x cBorrowed f d r
        case h107 => exact ctx_leaf hl rfl rfl fun f d => dec_107 x cBorrowed f d r
        case h109 => exact ctx_leaf hl rfl rfl fun f d => dec_109 x cBorrowed f d r
        case h77 => exact ctx_leaf hl rfl rfl fun f d => dec_77 x cBorrowed f d r
        case h110 => exact ctx_leaf hl rfl rfl fun f d => dec_110 x cBorrowed f d r
        case h111 => exact ctx_leaf hl rfl rfl fun f d => dec_111 x cBorrowed f d r
        case h104 =>
          rw [dec_104]; c_arm 104
          c_rd rdU_rest_le (rdU 1 r) n r1
          c_subN SeqKind.tuple n r1 (orig - (r.length + 1))
          exact .ok rfl (Nat.le_succ_of_le hb) hlo ho
        case h105 =>
          rw [dec_105]; c_arm 105
          c_rd rdU_rest_le (rdU 4 r) n r1
          c_if
          c_subN SeqKind.tuple n r1 (orig - (r.length + 1))
          exact .ok rfl (Nat.le_succ_of_le hb) hlo ho
        case h108 =>
          rw [dec_108]; c_arm 108
          c_rd rdU_rest_le (rdU 4 r) n r1
          c_if
          c_subN SeqKind.list n r1 (orig - (r.length + 1))
          c_sub (path ++ [Seg.tail]) r2
          cases t <;> exact .ok rfl (Nat.le_succ_of_le hb) hlo ho
        case h116 =>
          rw [dec_116]; c_arm 116
          c_rd rdU_rest_le (rdU 4 r) n r1
          c_if
          -- `c_subN` with `ihKV` for `ihN`
          refine (ihKV (d + 1) path n r1 [] (orig - (r.length + 1)) (orig - (r.length + 1)) (Nat.le_trans hb (Nat.le_of_succ_le hl)) ho hlo
            (Nat.sub_le_sub_left (Nat.le_succ_of_le hb) orig)).byCases (fun m r2 off2 hl2 hlo ho => ?_) fun e o q hlo ho => .fail rfl hlo ho
          exact .ok rfl (Nat.le_succ_of_le (Nat.le_trans hl2 hb)) hlo ho
        case h88 =>
          rw [dec_88]; c_arm 88
          c_sub path r
          c_kind
          c_rd rdU_rest_le (rdU 4 r2) num r3
          c_rd rdU_rest_le (rdU 4 r3) serial r4
          c_rd rdU_rest_le (rdU 4 r4) creation r5
          exact .ok rfl (Nat.le_succ_of_le hb) hlo ho
        case h90 =>
          rw [dec_90]; c_arm 90
          c_rd rdU_rest_le (rdU 2 r) len r1
          c_sub path r1
          c_kind
          c_rd rdU_rest_le (rdU 4 r2) creation r3
          c_rd rdWords_rest_le (rdWords len r3) ids r4
          exact .ok rfl (Nat.le_succ_of_le hb) hlo ho
        case h120 =>
          rw [dec_120]; c_arm 120
          c_sub path r
          c_kind
          c_rd rdU_rest_le (rdU 8 r2) num r3
          c_rd rdU_rest_le (rdU 4 r3) creation r4
          exact .ok rfl (Nat.le_succ_of_le hb) hlo ho
        case h89 =>
          rw [dec_89]; c_arm 89
          c_sub path r
          c_kind
          c_rd rdU_rest_le (rdU 4 r2) num r3
          c_rd rdU_rest_le (rdU 4 r3) creation r4
          exact .ok rfl (Nat.le_succ_of_le hb) hlo ho
        case h113 =>
          rw [dec_113]; c_arm 113
          c_sub path r
          c_kind
          c_sub path r2
          c_kind
          c_sub path r2
          c_kind
          split
          · exact .ok rfl (Nat.le_succ_of_le hb) hlo ho
          · exact .fail rfl hlo ho
        case h112 =>
          rw [dec_112]; c_arm 112
          c_rd rdU_rest_le (rdU 4 r) size r0
          c_rd rdU_rest_le (rdU 1 r0) arity r1
          c_rd takeE_rest_le (takeE 16 r1) uniq r2
          c_rd rdU_rest_le (rdU 4 r2) index r3
          c_rd rdU_rest_le (rdU 4 r3) numFree r4
          c_sub path r4
          c_kind
          c_sub path r2
          c_kind
          split; exact .fail rfl hlo ho
          c_sub path r2
          c_kind
          split; exact .fail rfl hlo ho
          c_sub path r2
          c_kind
          c_subN SeqKind.freeVar numFree r2 off2
          exact .ok rfl (Nat.le_succ_of_le hb) hlo ho
        case h115 =>
          exact ctx_refused hl (by rw [decC.eq_2]; rfl) (by rw [dec_115]; exact guardTag_owned rfl)
        case h103 =>
          exact ctx_refused hl (by rw [decC.eq_2]; rfl) (by rw [dec_103]; exact guardTag_owned rfl)
        case h102 =>
          exact ctx_refused hl (by rw [decC.eq_2]; rfl) (by rw [dec_102]; exact guardTag_owned rfl)
        case h114 =>
          exact ctx_refused hl (by rw [decC.eq_2]; rfl) (by rw [dec_114]; exact guardTag_owned rfl)
        case h101 =>
          exact ctx_refused hl (by rw [decC.eq_2]; rfl) (by rw [dec_101]; exact guardTag_owned rfl)
        case h121 =>
          exact ctx_refused hl (by rw [decC.eq_2]; rfl) (by rw [dec_121]; exact guardTag_owned rfl)
        case h80 =>
          exact ctx_refused hl (by rw [decC.eq_2]; rfl) (by rw [dec_80]; exact guardTag_owned rfl)
        case h82 =>
          exact ctx_refused hl (by rw [decC.eq_2]; rfl) (by rw [dec_82]; exact guardTag_owned rfl)
    · cases n with
      | zero => rw [decCN, decN]; exact .ok rfl (Nat.le_refl _) hlo ho
      | succ n =>
        rw [decCN, decN]
        refine (ih d _ bs hl).byCases (fun t r2 off2 hl2 hlo' ho2 => ?_) fun e o q hlo' ho' => .fail rfl (Nat.le_trans hlo2 hlo') ho'
        dsimp only
        refine (ihN d path k (i + 1) n r2 off2 lo (Nat.le_trans hl2 hl) ho2 (Nat.le_trans hlo2 hlo')
          (Nat.le_trans hlo2 (Nat.sub_le_sub_left hl2 orig))).byCases
          (fun l r3 off3 hl3 hlo3 ho3 => ?_) fun e o q hlo' ho' => .fail rfl hlo' ho'
        exact .ok rfl (Nat.le_trans hl3 hl2) hlo3 ho3
    · cases n with
      | zero => rw [decCKV, decKV]; exact .ok rfl (Nat.le_refl _) hlo ho
      | succ n =>
        rw [decCKV, decKV]
        refine (ih d _ bs hl).byCases (fun kt r2 off2 hl2 hlo' ho2 => ?_) fun e o q hlo' ho' => .fail rfl (Nat.le_trans hlo2 hlo') ho'
        dsimp only
        have hlo3 := Nat.le_trans hlo2 (Nat.sub_le_sub_left hl2 orig)
        refine (ih d _ r2 (Nat.le_trans hl2 hl)).byCases (fun vt r3 off3 hl3 hlo'' ho3 => ?_)
          fun e o q hlo'' ho' => .fail rfl (Nat.le_trans hlo3 hlo'') ho'
        dsimp only
        have hl4 := Nat.le_trans hl3 hl2
        refine (ihKV d path n r3 (mapInsert m kt vt) off3 lo (Nat.le_trans hl4 hl) ho3 (Nat.le_trans hlo3 hlo'')
          (Nat.le_trans hlo2 (Nat.sub_le_sub_left hl4 orig))).byCases
          (fun l r4 off4 hl5 hlo4 ho4 => ?_) fun e o q hlo' ho' => .fail rfl hlo' ho'
        exact .ok rfl (Nat.le_trans hl5 hl4) hlo4 ho4

theorem ctx_top (x : Ext) (r : Bytes) :
    RelT (r.length + 1) r.length 1 (decC x (r.length + 1) (r.length + 1 + x.extra) 0 [] r)
      (dec x cBorrowed (r.length + 1 + x.extra) 0 r) := by
  have h := (ctx_inv x (r.length + 1) (r.length + 1 + x.extra)).1 0 [] r (by omega)
  rwa [Nat.add_sub_cancel_left] at h

/-- `decode_borrowed` behind a good version byte, read off the zero-copy configuration of the generic model: an error
of the term parser is reported at an offset behind the version byte; trailing data at the offset where it starts -/
theorem ctx_decode (x : Ext) (r : Bytes) :
    match dec x cBorrowed (r.length + 1 + x.extra) 0 r with
    | .error e => ∃ o p, decodeBorrowedCtx x (131 :: r) = .fail e o p ∧ 1 ≤ o ∧ o ≤ r.length + 1
    | .ok (t, []) => decodeBorrowedCtx x (131 :: r) = .ok t
    | .ok (_, _ :: rest) =>
      decodeBorrowedCtx x (131 :: r) = .fail (.trailing (rest.length + 1)) (r.length + 1 - (rest.length + 1)) [] ∧
        rest.length + 1 ≤ r.length := by
  unfold decodeBorrowedCtx
  dsimp only [List.length_cons]
  rw [if_neg (Nat.lt_irrefl _), if_neg (by decide)]
  refine (ctx_top x r).byCases (fun t r2 off hl hlo ho => ?_) fun e o p hlo ho => ⟨o, p, rfl, hlo, ho⟩
  cases r2 with
  | nil => rfl
  | cons b rest =>
    have hl' : rest.length + 1 ≤ r.length := hl
    exact ⟨by dsimp only; rw [if_neg (by omega)], hl'⟩

theorem ctx_version (x : Ext) (bs : Bytes) (h : ∀ r, bs ≠ 131 :: r) : decodeBorrowedCtx x bs = .fail .err 0 [] := by
  unfold decodeBorrowedCtx
  cases bs with
  | nil => rfl
  | cons v r =>
    have hv : (v != 131) = true := by
      rw [bne_iff_ne]; rintro rfl; exact h r rfl
    dsimp only [List.length_cons]
    rw [if_neg (Nat.lt_irrefl _), if_pos hv, Nat.add_sub_cancel_left, Nat.sub_self]

/-- what a failure of `decode_borrowed` reports: no good version byte, at offset 0; an error of the term parser, behind
the version byte; or trailing data, at the offset where it starts -/
theorem ctx_fail {x : Ext} {bs : Bytes} {e : DErr} {off : Nat} {p : List Seg} (h : decodeBorrowedCtx x bs = .fail e off p) :
    (e = .err ∧ off = 0 ∧ ∀ r, bs ≠ 131 :: r) ∨
    ∃ r, bs = 131 :: r ∧ 1 ≤ off ∧
      ((dec x cBorrowed (r.length + 1 + x.extra) 0 r = .error e ∧ off ≤ r.length + 1) ∨
        ∃ n, e = .trailing n ∧ 0 < n ∧ off + n = r.length + 1) := by
  by_cases hv : ∃ r, bs = 131 :: r
  · obtain ⟨r, rfl⟩ := hv
    refine .inr ⟨r, rfl, ?_⟩
    have hc := ctx_decode x r
    split at hc
    · obtain ⟨o, q, h', hlo, ho⟩ := hc
      rw [h'] at h; cases h
      exact ⟨hlo, .inl ⟨‹_›, ho⟩⟩
    · rw [hc] at h; cases h
    · rw [hc.1] at h; cases h
      exact ⟨by omega, .inr ⟨_, rfl, by omega, by omega⟩⟩
  · rw [ctx_version x bs fun r h => hv ⟨r, h⟩] at h; cases h
    exact .inl ⟨rfl, rfl, fun r h => hv ⟨r, h⟩⟩

end Edp
