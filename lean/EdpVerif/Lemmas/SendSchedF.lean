import EdpVerif.Impl.SendConn
/-!
C07, concurrency WITH operations that stop in the middle of their frame: any number of tasks, each issuing operations
through one `Arc<Mutex<Connection>>`, every operation with a fate (`Fate.whole` / `Fate.cut i k`), any schedule.

`stepF` is `Send.step` plus the connection's `closed` flag: an operation acquired on a closed connection fails at the gate
and writes nothing; an operation that was cut writes the prefix of its frame that its fate allows and, when it returns
(the `FrameWrite` guard is dropped before the mutex guard), leaves the connection closed.

`seqRun` is the reference: the same operations executed ONE AFTER THE OTHER in the order in which the lock was acquired
for them.  `invF_run` shows that every schedule refines it.
-/
namespace Edp.Send
open Edp

/-- one operation of a task: its writes on an open connection, and its fate -/
structure TOp where
  ws : List Bytes
  fate : Fate

/-- the writes that actually reach the socket -/
def TOp.eff (op : TOp) : List Bytes :=
  match op.fate with
  | .whole => op.ws
  | .cut i k => op.ws.take i ++ [((op.ws[i]?).getD []).take k]

def TOp.isCut (op : TOp) : Bool :=
  match op.fate with
  | .whole => false
  | .cut _ _ => true

theorem TOp.eff_flatten_cut (ws : List Bytes) (i k : Nat) : (TOp.eff ⟨ws, .cut i k⟩).flatten = cutBytes ws i k := by
  simp [TOp.eff, cutBytes]

structure StF where
  wire : Bytes
  lock : Option Nat
  closed : Bool
  ts : Nat → TSt
  acq : List (Nat × Nat)

def StF.init : StF := { wire := [], lock := none, closed := false, ts := fun _ => { next := 0, rem := none }, acq := [] }

def stepF (prog : Nat → List TOp) (st : StF) (t : Nat) : Option StF :=
  match (st.ts t).rem with
  | none =>
    match (prog t)[(st.ts t).next]? with
    | none => none
    | some op =>
      match st.lock with
      | some _ => none
      | none =>
        some { st with lock := some t,
                       ts := upd st.ts t { next := (st.ts t).next, rem := some (if st.closed then [] else op.eff) },
                       acq := st.acq ++ [(t, (st.ts t).next)] }
  | some [] =>
    some { st with lock := none,
                   closed := st.closed || (match (prog t)[(st.ts t).next]? with | some op => op.isCut | none => false),
                   ts := upd st.ts t { next := (st.ts t).next + 1, rem := none } }
  | some (w :: ws) => some { st with wire := st.wire ++ w, ts := upd st.ts t { next := (st.ts t).next, rem := some ws } }

def runF (prog : Nat → List TOp) (st : StF) (σ : List Nat) : StF :=
  σ.foldl (fun st t => (stepF prog st t).getD st) st

def seqStep (prog : Nat → List TOp) (s : Bytes × Bool) (p : Nat × Nat) : Bytes × Bool :=
  match (prog p.1)[p.2]? with
  | none => s
  | some op => if s.2 then s else (s.1 ++ op.eff.flatten, op.isCut)

def seqFrom (prog : Nat → List TOp) (s : Bytes × Bool) (acq : List (Nat × Nat)) : Bytes × Bool :=
  acq.foldl (seqStep prog) s

/-- the bytes on the stream and whether the connection is closed after the operations `acq` ran one after the other -/
def seqRun (prog : Nat → List TOp) (acq : List (Nat × Nat)) : Bytes × Bool := seqFrom prog ([], false) acq

theorem seqRun_snoc (prog : Nat → List TOp) (acq : List (Nat × Nat)) (p : Nat × Nat) :
    seqRun prog (acq ++ [p]) = seqStep prog (seqRun prog acq) p := by
  simp [seqRun, seqFrom, List.foldl_append]

theorem seqStep_closed (prog : Nat → List TOp) (s : Bytes × Bool) (p : Nat × Nat) (h : s.2 = true) :
    seqStep prog s p = s := by
  unfold seqStep
  cases (prog p.1)[p.2]? with
  | none => rfl
  | some op => simp [h]

theorem seqFrom_closed (prog : Nat → List TOp) (acq : List (Nat × Nat)) : ∀ (s : Bytes × Bool), s.2 = true →
    seqFrom prog s acq = s := by
  induction acq with
  | nil => intro s _; rfl
  | cons p ps ih =>
    intro s h
    simp only [seqFrom, List.foldl_cons]
    rw [seqStep_closed prog s p h]
    exact ih s h

theorem seqRun_append_closed (prog : Nat → List TOp) (a b : List (Nat × Nat)) (h : (seqRun prog a).2 = true) :
    seqRun prog (a ++ b) = seqRun prog a := by
  have : seqRun prog (a ++ b) = seqFrom prog (seqRun prog a) b := by simp [seqRun, seqFrom, List.foldl_append]
  rw [this]
  exact seqFrom_closed prog b _ h

/-- the whole frame of an operation -/
def fullOf (prog : Nat → List TOp) (p : Nat × Nat) : Bytes := (((prog p.1)[p.2]?).map (fun op => op.ws.flatten)).getD []

def cutAt (prog : Nat → List TOp) (p : Nat × Nat) : Bool := (((prog p.1)[p.2]?).map TOp.isCut).getD false

theorem eff_of_not_cut (op : TOp) (h : op.isCut = false) : op.eff = op.ws := by
  unfold TOp.isCut at h
  unfold TOp.eff
  split <;> simp_all

theorem seqStep_whole (prog : Nat → List TOp) (w : Bytes) (p : Nat × Nat) (h : cutAt prog p = false) :
    seqStep prog (w, false) p = (w ++ fullOf prog p, false) := by
  unfold cutAt at h
  unfold seqStep fullOf
  cases hp : (prog p.1)[p.2]? with
  | none => simp
  | some op =>
    have hc : op.isCut = false := by simpa [hp] using h
    simp [hc, eff_of_not_cut op hc]

/-- shape of a sequential run from an open connection: either no operation was cut and the stream is all the whole
frames, or the stream is the whole frames of the operations before the FIRST cut one followed by what that one wrote,
and nothing of the operations after it -/
theorem seqFrom_shape (prog : Nat → List TOp) : ∀ (acq : List (Nat × Nat)) (w : Bytes),
    (seqFrom prog (w, false) acq = (w ++ (acq.map (fullOf prog)).flatten, false) ∧ ∀ p ∈ acq, cutAt prog p = false) ∨
    (∃ a p b op, acq = a ++ p :: b ∧ (prog p.1)[p.2]? = some op ∧ op.isCut = true ∧ (∀ q ∈ a, cutAt prog q = false) ∧
      seqFrom prog (w, false) acq = (w ++ (a.map (fullOf prog)).flatten ++ op.eff.flatten, true))
  | [], w => .inl ⟨by simp [seqFrom], by simp⟩
  | p :: ps, w => by
    cases hcut : cutAt prog p with
    | true =>
      obtain ⟨op, hp, hc⟩ : ∃ op, (prog p.1)[p.2]? = some op ∧ op.isCut = true := by
        unfold cutAt at hcut
        cases hp : (prog p.1)[p.2]? <;> simp_all
      refine .inr ⟨[], p, ps, op, rfl, hp, hc, by simp, ?_⟩
      have hstep : seqStep prog (w, false) p = (w ++ op.eff.flatten, true) := by simp [seqStep, hp, hc]
      simpa [seqFrom, hstep] using seqFrom_closed prog ps (w ++ op.eff.flatten, true) rfl
    | false =>
      have hstep := seqStep_whole prog w p hcut
      have hmem : ∀ {a : List (Nat × Nat)}, (∀ q ∈ a, cutAt prog q = false) → ∀ q ∈ p :: a, cutAt prog q = false :=
        fun ha q hq => (List.mem_cons.mp hq).elim (· ▸ hcut) (ha q)
      rcases seqFrom_shape prog ps (w ++ fullOf prog p) with ⟨h1, h2⟩ | ⟨a, q, b, op, hacq, hq, hc, ha, hs⟩
      · exact .inl ⟨by simpa [seqFrom, hstep] using h1, hmem h2⟩
      · exact .inr ⟨p :: a, q, b, op, by simp [hacq], hq, hc, hmem ha, by simpa [seqFrom, hstep] using hs⟩

structure InvF (prog : Nat → List TOp) (st : StF) : Prop where
  /-- only the lock holder is inside an operation -/
  excl : ∀ u, (st.ts u).rem.isSome = true → st.lock = some u
  /-- with the lock free, stream and `closed` flag are those of the acquired operations run one after the other -/
  free : st.lock = none → (st.wire, st.closed) = seqRun prog st.acq
  /-- with the lock held, they are that for all but the last acquisition `op`, followed by the writes `pre` the holder has
  done; `rem` is what it still has to write (nothing at all if the connection was closed when it acquired the lock) -/
  held : ∀ t, st.lock = some t → ∃ acq' pre rem op,
    st.acq = acq' ++ [(t, (st.ts t).next)] ∧ (st.ts t).rem = some rem ∧ (prog t)[(st.ts t).next]? = some op ∧
    (if st.closed then [] else op.eff) = pre ++ rem ∧ st.wire = (seqRun prog acq').1 ++ pre.flatten ∧
    st.closed = (seqRun prog acq').2
  /-- each task's operations were acquired in issue order, without gaps -/
  order : ∀ u, ((st.acq.filter (fun p => p.1 = u)).map (·.2)) =
    List.range ((st.ts u).next + (if (st.ts u).rem.isSome then 1 else 0))
  /-- every acquisition is of an operation the program has -/
  valid : ∀ p ∈ st.acq, ((prog p.1)[p.2]?).isSome = true

theorem invF_init (prog : Nat → List TOp) : InvF prog StF.init := by
  refine ⟨?_, ?_, ?_, ?_, ?_⟩
  · intro u h; simp [StF.init] at h
  · intro _; simp [StF.init, seqRun, seqFrom]
  · intro t h; simp [StF.init] at h
  · intro u; simp [StF.init]
  · intro p h; simp [StF.init] at h

theorem invF_step (prog : Nat → List TOp) (st st' : StF) (t : Nat) (hi : InvF prog st)
    (hs : stepF prog st t = some st') : InvF prog st' := by
  unfold stepF at hs
  cases hrem : (st.ts t).rem with
  | none =>
    -- `t` is between operations: it acquires the free lock for its next one
    simp only [hrem] at hs
    cases hp : (prog t)[(st.ts t).next]? with
    | none => simp [hp] at hs
    | some op =>
      simp only [hp] at hs
      cases hl : st.lock with
      | some h => simp [hl] at hs
      | none =>
        simp only [hl] at hs
        cases hs
        have hfree := hi.free hl
        refine ⟨?_, ?_, ?_, ?_, ?_⟩
        · intro u hu
          by_cases hut : u = t
          · subst hut; rfl
          · simp only [upd, hut, ↓reduceIte] at hu
            have := hi.excl u hu
            rw [hl] at this; cases this
        · intro h; cases h
        · intro t' ht'
          cases ht'
          refine ⟨st.acq, [], (if st.closed then [] else op.eff), op, ?_, ?_, ?_, by simp, ?_, ?_⟩
          · simp [upd]
          · simp [upd]
          · simpa [upd] using hp
          · simp only [List.flatten_nil, List.append_nil]
            exact congrArg Prod.fst hfree
          · exact congrArg Prod.snd hfree
        · intro u
          have := hi.order u
          by_cases hut : u = t
          · subst hut
            simp only [hrem, Option.isSome_none, Bool.false_eq_true, ↓reduceIte, Nat.add_zero] at this
            simp [upd, List.filter_append, this, List.range_succ]
          · simpa [upd, hut, List.filter_append, Ne.symm hut] using this
        · intro p hp'
          rcases List.mem_append.mp hp' with h | h
          · exact hi.valid p h
          · cases List.mem_singleton.mp h
            simp [hp]
  | some rem =>
    have hlock := hi.excl t (by simp [hrem])
    obtain ⟨acq', pre, rem', op, hacq, hrem', hop, hsplit, hwire, hclosed⟩ := hi.held t hlock
    cases hrem.symm.trans hrem'
    cases rem with
    | nil =>
      -- nothing left to write: the operation returns and the lock is released
      simp only [hrem] at hs
      cases hs
      refine ⟨?_, ?_, ?_, ?_, hi.valid⟩
      · intro u hu
        by_cases hut : u = t
        · subst hut; simp [upd] at hu
        · simp only [upd, hut, ↓reduceIte] at hu
          have := hi.excl u hu
          rw [hlock] at this
          injection this with h; exact absurd h.symm hut
      · intro _
        rw [hacq, seqRun_snoc]
        simp only [seqStep, hop, ← hclosed]
        -- closed at the acquisition: nothing was to be written (`pre = []`); open: everything was
        cases hc : st.closed <;> simp_all [Prod.ext_iff]
      · intro t' ht'; cases ht'
      · intro u
        have := hi.order u
        by_cases hut : u = t
        · subst hut
          simpa [upd, hrem] using this
        · simpa [upd, hut] using this
    | cons w ws =>
      -- the holder does its next write `w`
      simp only [hrem] at hs
      cases hs
      refine ⟨?_, ?_, ?_, ?_, hi.valid⟩
      · intro u hu
        by_cases hut : u = t
        · subst hut; exact hlock
        · simp only [upd, hut, ↓reduceIte] at hu
          exact hi.excl u hu
      · intro h; simp only at h; rw [hlock] at h; cases h
      · intro t' ht'
        cases hlock.symm.trans ht'
        refine ⟨acq', pre ++ [w], ws, op, ?_, ?_, ?_, ?_, ?_, ?_⟩
        · simpa [upd] using hacq
        · simp [upd]
        · simpa [upd] using hop
        · simp [hsplit]
        · simp [hwire]
        · exact hclosed
      · intro u
        have := hi.order u
        by_cases hut : u = t
        · subst hut
          simpa [upd, hrem] using this
        · simpa [upd, hut] using this

theorem runF_cons (prog : Nat → List TOp) (st : StF) (t : Nat) (σ : List Nat) :
    runF prog st (t :: σ) = runF prog ((stepF prog st t).getD st) σ := rfl

theorem invF_run (prog : Nat → List TOp) (σ : List Nat) : ∀ st, InvF prog st → InvF prog (runF prog st σ) := by
  induction σ with
  | nil => intro st h; exact h
  | cons t σ ih =>
    intro st h
    rw [runF_cons]
    cases hs : stepF prog st t with
    | none => exact ih st h
    | some st' => exact ih st' (invF_step prog st st' t h hs)

theorem stepF_acq (prog : Nat → List TOp) (st : StF) (t : Nat) :
    ∃ more, ((stepF prog st t).getD st).acq = st.acq ++ more := by
  unfold stepF
  split
  · split
    · exact ⟨[], by simp⟩
    · split
      · exact ⟨[], by simp⟩
      · exact ⟨_, rfl⟩
  · exact ⟨[], by simp⟩
  · exact ⟨[], by simp⟩

theorem runF_acq (prog : Nat → List TOp) (σ : List Nat) : ∀ st, ∃ more, (runF prog st σ).acq = st.acq ++ more := by
  induction σ with
  | nil => intro st; exact ⟨[], by simp [runF]⟩
  | cons t σ ih =>
    intro st
    obtain ⟨m1, h1⟩ := stepF_acq prog st t
    obtain ⟨m2, h2⟩ := ih ((stepF prog st t).getD st)
    exact ⟨m1 ++ m2, by rw [runF_cons, h2, h1, List.append_assoc]⟩

theorem runF_append (prog : Nat → List TOp) (st : StF) (σ1 σ2 : List Nat) :
    runF prog st (σ1 ++ σ2) = runF prog (runF prog st σ1) σ2 := by
  simp [runF, List.foldl_append]

end Edp.Send
