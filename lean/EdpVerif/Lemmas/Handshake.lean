import EdpVerif.Impl.Handshake
import EdpVerif.Spec.Handshake
/-! The model's decoders are the Spec parsers (hence never panic); what each call of the state machine does in the state
it belongs to, in the Spec's terms; through these the state machine refines the protocol automaton of `Spec.Handshake`;
the automaton's edges, and how it can reach `established`. -/
namespace Edp.Lemmas.Handshake
open Edp
open Edp.Impl.Handshake
open Edp.Spec.Handshake (Op Phase Conn Side Resp connStep connRun connResps parseAck parseChallenge parseStatus)

/-! The regenerated constants are the values the proofs below compute with: if handshake.rs changes a tag, these stop
compiling (the model would no longer be the Spec's message). -/

@[simp] theorem tagN_eq : tagN = 78 := by decide
@[simp] theorem tagNOld_eq : tagNOld = 110 := by decide
@[simp] theorem tagS_eq : tagS = 115 := by decide
@[simp] theorem tagA_eq : tagA = 97 := by decide
@[simp] theorem tagR_eq : tagR = 114 := by decide
@[simp] theorem tagC_eq : tagC = 99 := by decide
@[simp] theorem version5_eq : version5 = 5 := by decide

theorem rdN_cases : ∀ (k : Nat) (bs : Bytes),
    (bs.length < k ∧ rdN k bs = none) ∨ ∃ v r, rdN k bs = some (v, r) ∧ bs.length = k + r.length := by
  intro k
  induction k with
  | zero => exact fun bs => .inr ⟨0, bs, rfl, by simp⟩
  | succ k ih =>
    intro bs
    cases bs with
    | nil => exact .inl ⟨by simp, rfl⟩
    | cons b bs =>
      rcases ih bs with ⟨l, h⟩ | ⟨v, r, h, l⟩
      · exact .inl ⟨by simpa using l, by simp [rdN, h]⟩
      · exact .inr ⟨b.toNat * 256 ^ k + v, r, by simp [rdN, h], by simp [l]; omega⟩

theorem getN_of_le (k : Nat) (bs : Bytes) (h : k ≤ bs.length) :
    ∃ v r, rdN k bs = some (v, r) ∧ getN k bs = .ok (v, r) ∧ bs.length = k + r.length := by
  rcases rdN_cases k bs with ⟨l, _⟩ | ⟨v, r, hr, l⟩
  · omega
  · exact ⟨v, r, hr, by simp [getN, hr], l⟩

theorem decodeAck_eq (bs : Bytes) :
    decodeAck bs = match parseAck bs with
      | some d => .ok d
      | none => .err .malformed := by
  cases bs with
  | nil => simp [decodeAck, parseAck]
  | cons t r =>
    by_cases ht : t = 97
    · by_cases hl : 16 ≤ r.length
      · simp [decodeAck, parseAck, getU8, copy16, ht, hl]
      · simp [decodeAck, parseAck, getU8, ht, hl]
    · simp [decodeAck, parseAck, getU8, ht]

def convMsg (m : Spec.Handshake.ChallengeMsg) : ChallengeMsg := ⟨m.flags, m.challenge, m.creation, m.name⟩

theorem decodeChallenge_eq (bs : Bytes) :
    decodeChallenge bs = match parseChallenge bs with
      | some m => .ok (convMsg m)
      | none => .err .malformed := by
  cases bs with
  | nil => simp [decodeChallenge, parseChallenge]
  | cons t r =>
    by_cases ht : t = 78
    · by_cases hl : r.length < 18
      · -- too short for the four fixed fields: one of the Spec's reads fails
        have hspec : parseChallenge (t :: r) = none := by
          simp only [parseChallenge, ht, ne_eq, not_true_eq_false, ↓reduceIte]
          rcases rdN_cases 8 r with ⟨_, h8⟩ | ⟨f, r1, h8, l1⟩ <;> simp only [h8]
          rcases rdN_cases 4 r1 with ⟨_, h4⟩ | ⟨c, r2, h4, l2⟩ <;> simp only [h4]
          rcases rdN_cases 4 r2 with ⟨_, h4'⟩ | ⟨cr, r3, h4', l3⟩ <;> simp only [h4']
          rcases rdN_cases 2 r3 with ⟨_, h2⟩ | ⟨nl, r4, _, l4⟩
          · simp only [h2]
          · omega
        rw [hspec]
        simp [decodeChallenge, getU8, ht, hl]
      · obtain ⟨f, r1, h8, g8, l1⟩ := getN_of_le 8 r (by omega)
        obtain ⟨c, r2, h4, g4, l2⟩ := getN_of_le 4 r1 (by omega)
        obtain ⟨cr, r3, h4', g4', l3⟩ := getN_of_le 4 r2 (by omega)
        obtain ⟨nl, r4, h2, g2, l4⟩ := getN_of_le 2 r3 (by omega)
        have hnot : ¬ (r.length < 8 + 4 + 4 + 2) := hl
        simp only [decodeChallenge, parseChallenge, getU8, tagN_eq, ht, h8, h4, h4', h2, g8, g4, g4', g2, HRes.bind_ok]
        by_cases hn : nl ≤ r4.length
        · by_cases hu : validUtf8 (r4.take nl) = true <;> simp [hnot, hn, hu, sliceTo, convMsg]
        · simp [hnot, hn, sliceTo]
    · simp [decodeChallenge, parseChallenge, getU8, ht]

def convStatus : Spec.Handshake.Status → Status
  | .ok => .ok
  | .okSimultaneous => .okSimultaneous
  | .nok => .nok
  | .notAllowed => .notAllowed
  | .alive => .alive

theorem convStatus_isOk (s : Spec.Handshake.Status) : (convStatus s).isOk = s.accepts := by
  cases s <;> rfl

open Edp.Spec.Handshake (txtOk txtOkSimultaneous txtNok txtNotAllowed txtAlive) in
theorem decodeStatus_eq (bs : Bytes) :
    decodeStatus bs = match parseStatus bs with
      | some s => .ok (convStatus s)
      | none => .err .malformed := by
  cases bs with
  | nil => simp [decodeStatus, parseStatus]
  | cons t r =>
    by_cases ht : t = 115
    · -- the decoder tests the Spec's five texts in the Spec's order, after a UTF-8 check that each of them passes
      simp only [decodeStatus, parseStatus, getU8, tagS_eq, ht, HRes.bind_ok, txtOk, txtOkSimultaneous, txtNok,
        txtNotAllowed, txtAlive]
      by_cases h1 : r = txtOk
      · subst h1; simp [convStatus, txtOk]; decide
      by_cases h2 : r = txtOkSimultaneous
      · subst h2; simp [convStatus, txtOkSimultaneous]; decide
      by_cases h3 : r = txtNok
      · subst h3; simp [convStatus, txtNok]; decide
      by_cases h4 : r = txtNotAllowed
      · subst h4; simp [convStatus, txtNotAllowed]; decide
      by_cases h5 : r = txtAlive
      · subst h5; simp [convStatus, txtAlive]; decide
      simp only [txtOk, txtOkSimultaneous, txtNok, txtNotAllowed, txtAlive] at h1 h2 h3 h4 h5
      simp [h1, h2, h3, h4, h5]
    · simp [decodeStatus, parseStatus, getU8, ht]

/-! The state machine does not use the next two decoders; they have no Spec parser to be compared with. -/

theorem decodeReply_no_panic (bs : Bytes) : decodeReply bs ≠ .panic := by
  cases bs with
  | nil => simp [decodeReply]
  | cons t r =>
    by_cases ht : t = 114
    · by_cases hl : r.length < 20
      · simp [decodeReply, getU8, ht, hl]
      · obtain ⟨c, r1, _, g4, l1⟩ := getN_of_le 4 r (by omega)
        have h16 : 16 ≤ r1.length := by omega
        simp [decodeReply, getU8, ht, hl, g4, copy16, h16]
    · simp [decodeReply, getU8, ht]

theorem decodeSendName_no_panic (bs : Bytes) : decodeSendName bs ≠ .panic := by
  cases bs with
  | nil => simp [decodeSendName]
  | cons t r =>
    by_cases ht : t = 78
    · by_cases hl : r.length < 14
      · simp [decodeSendName, getU8, ht, hl]
      · obtain ⟨f, r1, _, g8, l1⟩ := getN_of_le 8 r (by omega)
        obtain ⟨cr, r2, _, g4, l2⟩ := getN_of_le 4 r1 (by omega)
        obtain ⟨nl, r3, _, g2, l3⟩ := getN_of_le 2 r2 (by omega)
        have hnot : ¬ (r.length < 8 + 4 + 2) := by omega
        simp only [decodeSendName, getU8, tagN_eq, ht, g8, g4, g2, HRes.bind_ok]
        by_cases hn : r3.length < nl
        · simp [hnot, hn]
        · have hn' : nl ≤ r3.length := by omega
          by_cases hu : validUtf8 (r3.take nl) = true <;> simp [hnot, hn, sliceTo, hn', hu]
    · simp [decodeSendName, getU8, ht]

/-- the state a call belongs to: the one its `expect_state` asks for (`disconnect` asks for none) -/
def needs : Op → Option ConnState
  | .beginConnect => some .disconnected
  | .prepareSendName => some .connecting
  | .handleStatus _ => some .awaitingStatus
  | .prepareComplement => some .awaitingChallenge
  | .handleChallenge _ _ => some .awaitingChallenge
  | .prepareChallengeReply => some .sendingChallengeReply
  | .handleChallengeAck _ => some .awaitingChallengeAck
  | .disconnect => none

section Step
variable (cfg : Cfg) (dg : Bytes → Nat → Bytes) (s : State)

theorem step_out_of_order (op : Op) (st : ConnState) (hn : needs op = some st) (hs : s.state ≠ st) :
    step cfg dg s op = (s, .err .invalidTransition) := by
  cases op <;> simp only [needs, Option.some.injEq, reduceCtorEq] at hn <;> subst hn <;> simp [step, hs]

theorem step_beginConnect (hs : s.state = .disconnected) :
    step cfg dg s .beginConnect = ({ s with state := .connecting }, .unit) := by
  simp [step, hs]

theorem step_prepareSendName (hs : s.state = .connecting) :
    step cfg dg s .prepareSendName =
      if cfg.name.length ≤ 255 then
        ({ s with state := .awaitingStatus }, .bytes (Spec.Handshake.sendNameOld cfg.flags cfg.name))
      else ({ s with state := .sendingName }, .err .nameTooLong) := by
  by_cases hn : cfg.name.length ≤ 255
  · simp [step, hs, encodeSendNameOld, hn, Nat.not_lt.mpr hn, Spec.Handshake.sendNameOld]
  · simp [step, hs, encodeSendNameOld, hn, Nat.not_le.mp hn]

theorem step_handleStatus (b : Bytes) (hs : s.state = .awaitingStatus) :
    step cfg dg s (.handleStatus b) =
      match parseStatus b with
      | some st =>
        if st.accepts then ({ s with state := .awaitingChallenge }, .unit) else ({ s with state := .failed }, .err .refused)
      | none => ({ s with state := .failed }, .err .malformed) := by
  simp only [step, hs, decodeStatus_eq]
  cases parseStatus b <;> simp [convStatus_isOk]

theorem step_prepareComplement (hs : s.state = .awaitingChallenge) :
    step cfg dg s .prepareComplement = (s, .bytes (Spec.Handshake.complement cfg.flags cfg.creation)) := by
  simp [step, hs, Spec.Handshake.complement]

theorem step_handleChallenge (b : Bytes) (c : Nat) (hs : s.state = .awaitingChallenge) :
    step cfg dg s (.handleChallenge b c) =
      match parseChallenge b with
      | some m => (⟨.sendingChallengeReply, some c, some m.challenge, some (m.flags &&& cfg.flags)⟩, .unit)
      | none => ({ s with state := .failed }, .err .malformed) := by
  simp only [step, hs, decodeChallenge_eq]
  cases parseChallenge b <;> simp [convMsg]

theorem step_prepareChallengeReply (hs : s.state = .sendingChallengeReply) :
    step cfg dg s .prepareChallengeReply =
      match s.our, s.their with
      | some o, some t => ({ s with state := .awaitingChallengeAck }, .bytes (Spec.Handshake.reply o (dg cfg.cookie t)))
      | _, _ => (s, .err .stateMsg) := by
  simp only [step, hs]
  rfl

theorem step_handleChallengeAck (a : Bytes) (hs : s.state = .awaitingChallengeAck) :
    step cfg dg s (.handleChallengeAck a) =
      match parseAck a, s.our with
      | some d, some o =>
        if d = dg cfg.cookie o then ({ s with state := .connected }, .unit) else ({ s with state := .failed }, .err .auth)
      | some _, none => (s, .err .stateMsg)
      | none, _ => ({ s with state := .failed }, .err .malformed) := by
  simp only [step, hs, decodeAck_eq]
  cases parseAck a <;> cases s.our <;> simp

theorem step_err_state (op : Op) (e : Err) : (step cfg dg s op).2 = .err e →
    (step cfg dg s op).1 = match e with
      | .invalidTransition | .stateMsg => s
      | .nameTooLong => { s with state := .sendingName }
      | _ => { s with state := .failed } := by
  intro h
  cases hn : needs op with
  | none => cases op <;> cases hn; cases h
  | some st =>
    by_cases hs : s.state = st
    · cases op with
      | disconnect => cases hn
      | beginConnect => cases hn; rw [step_beginConnect cfg dg s hs] at h; cases h
      | prepareSendName =>
        cases hn
        rw [step_prepareSendName cfg dg s hs] at h ⊢
        split at h <;> cases h
        rw [if_neg ‹_›]
      | handleStatus b =>
        cases hn
        rw [step_handleStatus cfg dg s b hs] at h ⊢
        split at h
        · split at h <;> cases h
          rw [if_neg ‹_›]
        · cases h; rfl
      | prepareComplement => cases hn; rw [step_prepareComplement cfg dg s hs] at h; cases h
      | handleChallenge b c =>
        cases hn
        rw [step_handleChallenge cfg dg s b c hs] at h ⊢
        split at h <;> cases h
        rfl
      | prepareChallengeReply =>
        cases hn
        rw [step_prepareChallengeReply cfg dg s hs] at h ⊢
        split at h <;> cases h
        rfl
      | handleChallengeAck a =>
        cases hn
        rw [step_handleChallengeAck cfg dg s a hs] at h ⊢
        split at h
        · split at h <;> cases h
          rw [if_neg ‹_›]
        · cases h; rfl
        · cases h; rfl
    · rw [step_out_of_order cfg dg s op st hn hs] at h ⊢
      cases h; rfl

/-- `Failed`, and `SendingName` (where a refused name leaves the machine), are states no call belongs to -/
theorem step_dead (hs : s.state = .failed ∨ s.state = .sendingName) (op : Op) (hd : op ≠ .disconnect) :
    step cfg dg s op = (s, .err .invalidTransition) := by
  cases hn : needs op with
  | none => cases op <;> cases hn; exact absurd rfl hd
  | some st =>
    refine step_out_of_order cfg dg s op st hn ?_
    rcases hs with h | h <;> rw [h] <;> cases op <;> cases hn <;> nofun

end Step

theorem runFrom_cons (cfg : Cfg) (dg : Bytes → Nat → Bytes) (s : State) (op : Op) (ops : List Op) :
    runFrom cfg dg s (op :: ops) = runFrom cfg dg (step cfg dg s op).1 ops := rfl

theorem runFrom_append (cfg : Cfg) (dg : Bytes → Nat → Bytes) (s : State) (a b : List Op) :
    runFrom cfg dg s (a ++ b) = runFrom cfg dg (runFrom cfg dg s a) b := by
  simp [runFrom, List.foldl_append]

def sideOf (cfg : Cfg) : Side := ⟨cfg.name, cfg.cookie, cfg.flags, cfg.creation⟩

/-- the phase a machine state stands for. `SendingName` is only ever left standing when the name was refused
(the handshake is over); a reply/ack state without the challenge it needs cannot be reached and counts as dead. -/
def absPhase (s : State) : Phase :=
  match s.state with
  | .disconnected => .idle
  | .connecting => .begun
  | .sendingName => .dead
  | .awaitingStatus => .nameSent
  | .awaitingChallenge => .accepted
  | .sendingChallengeReply =>
    match s.our, s.their with
    | some c, some t => .challenged c t
    | _, _ => .dead
  | .awaitingChallengeAck =>
    match s.our with
    | some c => .replied c
    | none => .dead
  | .connected => .established
  | .failed => .dead

def abs (s : State) : Conn := ⟨absPhase s, s.neg⟩

/-- a call's result as the automaton sees it (a panic is nothing the automaton can answer) -/
def respOf : Out → Option Resp
  | .unit => some .ok
  | .bytes b => some (.sent b)
  | .err _ => some .error
  | .panic => none

theorem abs_init : abs State.init = Conn.empty := rfl

theorem absPhase_inv (s : State) (X : Phase) : absPhase s = X →
    match X with
    | .idle => s.state = .disconnected
    | .begun => s.state = .connecting
    | .nameSent => s.state = .awaitingStatus
    | .accepted => s.state = .awaitingChallenge
    | .challenged c t => s.state = .sendingChallengeReply ∧ s.our = some c ∧ s.their = some t
    | .replied c => s.state = .awaitingChallengeAck ∧ s.our = some c
    | .established => s.state = .connected
    | .dead => True := by
  rintro rfl
  obtain ⟨st, our, their, neg⟩ := s
  cases st
  case sendingChallengeReply => cases our <;> cases their <;> simp [absPhase]
  case awaitingChallengeAck => cases our <;> simp [absPhase]
  all_goals simp [absPhase]

theorem connected_iff (s : State) : s.state = .connected ↔ (abs s).phase = .established := by
  exact ⟨fun h => by simp [abs, absPhase, h], absPhase_inv s _⟩

section Refines
variable (cfg : Cfg) (dg : Bytes → Nat → Bytes) (s : State)

theorem connStep_out_of_order (op : Op) (st : ConnState) (hn : needs op = some st) (hs : s.state ≠ st) :
    connStep (sideOf cfg) dg (abs s) op = (abs s, .error) := by
  have := absPhase_inv s _ rfl
  cases op <;> cases hn <;> simp only [connStep, abs] <;> split <;> simp_all

/- every case below unfolds the abstraction and one step of the automaton -/
attribute [local simp] abs absPhase connStep respOf sideOf in
theorem step_refines (op : Op) :
    abs (step cfg dg s op).1 = (connStep (sideOf cfg) dg (abs s) op).1 ∧
    respOf (step cfg dg s op).2 = some (connStep (sideOf cfg) dg (abs s) op).2 := by
  cases hn : needs op with
  | none => cases op <;> cases hn; exact ⟨rfl, rfl⟩
  | some st =>
    by_cases hs : s.state = st
    · -- the call is made in the state it belongs to: both sides do the same with what the parsers return
      cases op with
      | disconnect => cases hn
      | beginConnect =>
        cases hn
        simp [step_beginConnect cfg dg s hs, hs]
      | prepareSendName =>
        cases hn
        rw [step_prepareSendName cfg dg s hs]
        by_cases hl : cfg.name.length ≤ 255 <;> simp [hs, hl]
      | handleStatus b =>
        cases hn
        rw [step_handleStatus cfg dg s b hs]
        cases hp : parseStatus b with
        | none => simp [hs, hp]
        | some st => cases hst : st.accepts <;> simp [hs, hp, hst]
      | prepareComplement =>
        cases hn
        simp [step_prepareComplement cfg dg s hs, hs]
      | handleChallenge b c =>
        cases hn
        rw [step_handleChallenge cfg dg s b c hs]
        cases hp : parseChallenge b <;> simp [hs, hp]
      | prepareChallengeReply =>
        cases hn
        rw [step_prepareChallengeReply cfg dg s hs]
        cases ho : s.our <;> cases ht : s.their <;> simp [hs, ho, ht]
      | handleChallengeAck a =>
        cases hn
        rw [step_handleChallengeAck cfg dg s a hs]
        cases ho : s.our with
        | none => cases parseAck a <;> simp [hs, ho]
        | some o =>
          cases hp : parseAck a with
          | none => simp [hs, ho, hp]
          | some d => by_cases hd : d = dg cfg.cookie o <;> simp [hs, ho, hp, hd]
    · rw [step_out_of_order cfg dg s op st hn hs, connStep_out_of_order cfg dg s op st hn hs]
      exact ⟨rfl, rfl⟩

theorem step_no_panic (op : Op) : (step cfg dg s op).2 ≠ .panic := by
  intro h
  have := (step_refines cfg dg s op).2
  rw [h] at this
  cases this

end Refines

theorem connRun_cons (p : Side) (dg : Bytes → Nat → Bytes) (h : Conn) (op : Op) (ops : List Op) :
    connRun p dg h (op :: ops) = connRun p dg (connStep p dg h op).1 ops := rfl

theorem connRun_append (p : Side) (dg : Bytes → Nat → Bytes) (h : Conn) (a b : List Op) :
    connRun p dg h (a ++ b) = connRun p dg (connRun p dg h a) b := by
  simp [connRun, List.foldl_append]

theorem runFrom_refines (cfg : Cfg) (dg : Bytes → Nat → Bytes) (ops : List Op) :
    ∀ s, abs (runFrom cfg dg s ops) = connRun (sideOf cfg) dg (abs s) ops := by
  induction ops with
  | nil => intro s; rfl
  | cons op rest ih =>
    intro s
    rw [runFrom_cons, connRun_cons, ih, (step_refines cfg dg s op).1]

theorem run_refines (cfg : Cfg) (dg : Bytes → Nat → Bytes) (ops : List Op) :
    abs (run cfg dg ops) = connRun (sideOf cfg) dg Conn.empty ops := by
  rw [run, runFrom_refines, abs_init]

theorem outs_refine (cfg : Cfg) (dg : Bytes → Nat → Bytes) (ops : List Op) :
    ∀ s, (outsFrom cfg dg s ops).map respOf = (connResps (sideOf cfg) dg (abs s) ops).map some := by
  induction ops with
  | nil => intro s; rfl
  | cons op rest ih =>
    intro s
    simp only [outsFrom, connResps, List.map_cons]
    rw [ih, (step_refines cfg dg s op).1, (step_refines cfg dg s op).2]

/-- the events that lead out of a phase -/
def leaves : Phase → Op → Bool
  | .idle, op => op.isBegin
  | .begun, op => op.isSendName || op.isDisconnect
  | .nameSent, op => op.isStatus || op.isDisconnect
  | .accepted, op => op.isChallenge || op.isDisconnect
  | .challenged _ _, op => op.isReply || op.isDisconnect
  | .replied _, op => op.isAck || op.isDisconnect
  | .established, op => op.isDisconnect
  | .dead, op => op.isDisconnect

theorem Conn.eq_of_phase {h : Conn} {X : Phase} (hp : h.phase = X) : h = ⟨X, h.neg⟩ := by
  cases h; cases hp; rfl

section Automaton
variable (p : Side) (dg : Bytes → Nat → Bytes)

/-- the one edge into each phase: the event, what it must carry, the phase it is accepted in, and the negotiated set
(fixed by the challenge, kept until `disconnect`) -/
def Entry (h : Conn) (op : Op) : Conn → Prop
  | ⟨.idle, ng⟩ => op = .disconnect ∧ ng = none
  | ⟨.begun, ng⟩ => op = .beginConnect ∧ h = ⟨.idle, ng⟩
  | ⟨.nameSent, ng⟩ => op = .prepareSendName ∧ p.name.length ≤ 255 ∧ h = ⟨.begun, ng⟩
  | ⟨.accepted, ng⟩ => ∃ b st, op = .handleStatus b ∧ parseStatus b = some st ∧ st.accepts = true ∧ h = ⟨.nameSent, ng⟩
  | ⟨.challenged c t, ng⟩ => ∃ b m ng0, op = .handleChallenge b c ∧ parseChallenge b = some m ∧ m.challenge = t ∧
      ng = some (m.flags &&& p.flags) ∧ h = ⟨.accepted, ng0⟩
  | ⟨.replied c, ng⟩ => op = .prepareChallengeReply ∧ ∃ t, h = ⟨.challenged c t, ng⟩
  | ⟨.established, ng⟩ => ∃ a c, op = .handleChallengeAck a ∧ h = ⟨.replied c, ng⟩ ∧ parseAck a = some (dg p.cookie c)
  | ⟨.dead, _⟩ => True

theorem connStep_entry (h : Conn) (op : Op) :
    (connStep p dg h op).1 = h ∨ Entry p dg h op (connStep p dg h op).1 := by
  obtain ⟨ph, ng⟩ := h
  -- in its phase an event is the edge out of it or kills the handshake; in any other phase nothing changes
  cases op <;> simp only [connStep]
  case disconnect => exact .inr ⟨rfl, rfl⟩
  case beginConnect =>
    split
    · exact .inr ⟨rfl, rfl⟩
    · exact .inl rfl
  case prepareSendName =>
    split
    · split
      · exact .inr ⟨rfl, ‹_›, rfl⟩
      · exact .inr trivial
    · exact .inl rfl
  case handleStatus b =>
    split
    · split
      · split
        · exact .inr ⟨b, _, rfl, ‹_›, ‹_›, rfl⟩
        · exact .inr trivial
      · exact .inr trivial
    · exact .inl rfl
  case prepareComplement => split <;> exact .inl rfl
  case handleChallenge b c =>
    split
    · split
      · exact .inr ⟨b, _, ng, rfl, ‹_›, rfl, rfl, rfl⟩
      · exact .inr trivial
    · exact .inl rfl
  case prepareChallengeReply =>
    split
    · exact .inr ⟨rfl, _, rfl⟩
    · exact .inl rfl
  case handleChallengeAck b =>
    split
    · split
      · exact .inr ⟨b, _, rfl, rfl, ‹_›⟩
      · exact .inr trivial
    · exact .inl rfl

theorem connStep_of_entry (h : Conn) (op : Op) (h' : Conn) (he : Entry p dg h op h') (hd : h'.phase ≠ .dead) :
    (connStep p dg h op).1 = h' := by
  obtain ⟨ph', ng'⟩ := h'
  cases ph' <;> simp only [Entry] at he
  case dead => exact absurd rfl hd
  case idle => obtain ⟨rfl, rfl⟩ := he; rfl
  case begun => obtain ⟨rfl, rfl⟩ := he; rfl
  case nameSent => obtain ⟨rfl, hn, rfl⟩ := he; simp [connStep, hn]
  case accepted => obtain ⟨b, st, rfl, hs, ha, rfl⟩ := he; simp [connStep, hs, ha]
  case challenged c t => obtain ⟨b, m, ng0, rfl, hm, rfl, rfl, rfl⟩ := he; simp [connStep, hm]
  case replied c => obtain ⟨rfl, t, rfl⟩ := he; rfl
  case established => obtain ⟨a, c, rfl, rfl, ha⟩ := he; simp [connStep, ha]

/-- the three messages the automaton puts on the wire -/
theorem connStep_sent (h : Conn) (op : Op) (b : Bytes) (hs : (connStep p dg h op).2 = .sent b) :
    (op = .prepareSendName ∧ p.name.length ≤ 255 ∧ b = Spec.Handshake.sendNameOld p.flags p.name) ∨
    (op = .prepareComplement ∧ b = Spec.Handshake.complement p.flags p.creation) ∨
    (op = .prepareChallengeReply ∧ ∃ c t, h.phase = .challenged c t ∧ b = Spec.Handshake.reply c (dg p.cookie t)) := by
  cases op <;> simp only [connStep] at hs
  case prepareSendName =>
    split at hs
    · split at hs <;> cases hs
      exact .inl ⟨rfl, ‹_›, rfl⟩
    · cases hs
  case prepareComplement =>
    split at hs <;> cases hs
    exact .inr (.inl ⟨rfl, rfl⟩)
  case prepareChallengeReply =>
    split at hs <;> cases hs
    exact .inr (.inr ⟨rfl, _, _, ‹_›, rfl⟩)
  -- the other events answer `ok` or `error`
  all_goals repeat' split at hs
  all_goals cases hs

theorem connStep_phase_iff (h : Conn) (op : Op) : (connStep p dg h op).1.phase = h.phase ↔ leaves h.phase op = false := by
  obtain ⟨ph, ng⟩ := h
  cases ph <;> cases op <;>
    simp [leaves, connStep, Op.isBegin, Op.isSendName, Op.isStatus, Op.isChallenge, Op.isReply, Op.isAck,
      Op.isDisconnect, Conn.empty] <;> (repeat' split) <;> simp

theorem enter_replied (c : Nat) (h : Conn) (op : Op) (hn : ¬ h.phase = .replied c)
    (hp : (connStep p dg h op).1.phase = .replied c) :
    op = .prepareChallengeReply ∧ ∃ t, h.phase = .challenged c t := by
  rcases connStep_entry p dg h op with e | e
  · rw [e] at hp; exact absurd hp hn
  · rw [Conn.eq_of_phase hp] at e
    obtain ⟨rfl, t, e⟩ := e
    exact ⟨rfl, t, congrArg Conn.phase e⟩

theorem connRun_stays (X : Phase) : ∀ (ops : List Op) (h : Conn), h.phase = X → (∀ o ∈ ops, leaves X o = false) →
    (connRun p dg h ops).phase = X := by
  intro ops
  induction ops with
  | nil => intro h hp _; exact hp
  | cons op rest ih =>
    intro h hp hall
    obtain ⟨hop, hrest⟩ := List.forall_mem_cons.mp hall
    rw [connRun_cons]
    refine ih _ ?_ hrest
    rw [(connStep_phase_iff p dg h op).mpr (hp ▸ hop), hp]

theorem last_entry (X : Phase) (ng : Option Nat) : ∀ (ops : List Op) (h : Conn), connRun p dg h ops = ⟨X, ng⟩ →
    (h = ⟨X, ng⟩ ∧ ∀ o ∈ ops, leaves X o = false) ∨
    ∃ pre op post, ops = pre ++ op :: post ∧ Entry p dg (connRun p dg h pre) op ⟨X, ng⟩ ∧
      ∀ o ∈ post, leaves X o = false := by
  intro ops
  induction ops with
  | nil => intro h hp; exact .inl ⟨hp, by simp⟩
  | cons op rest ih =>
    intro h hp
    rw [connRun_cons] at hp
    rcases ih _ hp with ⟨hp', hall⟩ | ⟨pre, o, post, e, hen, hall⟩
    · rcases connStep_entry p dg h op with e | e
      · -- `op` changed nothing, so it did not lead out
        rw [e] at hp'
        refine .inl ⟨hp', List.forall_mem_cons.mpr ⟨?_, hall⟩⟩
        have := (connStep_phase_iff p dg h op).mp (by rw [e])
        rwa [hp'] at this
      · exact .inr ⟨[], op, rest, rfl, hp' ▸ e, hall⟩
    · exact .inr ⟨op :: pre, o, post, by simp [e], hen, hall⟩

end Automaton

theorem step_enter_connected (cfg : Cfg) (dg : Bytes → Nat → Bytes) (s : State) (op : Op)
    (hs : s.state ≠ .connected) (hc : (step cfg dg s op).1.state = .connected) :
    (step cfg dg s op).2 = .unit ∧ s.state = .awaitingChallengeAck ∧
    ∃ a c, op = .handleChallengeAck a ∧ s.our = some c ∧ parseAck a = some (dg cfg.cookie c) := by
  have hp := (connected_iff _).mp hc
  rw [(step_refines cfg dg s op).1] at hp
  rcases connStep_entry (sideOf cfg) dg (abs s) op with e | e
  · rw [e] at hp; exact absurd ((connected_iff s).mpr hp) hs
  · rw [Conn.eq_of_phase hp] at e
    obtain ⟨a, c, rfl, hr, hack⟩ := e
    obtain ⟨hst, hour⟩ := absPhase_inv s _ (congrArg Conn.phase hr)
    refine ⟨?_, hst, a, c, rfl, hour, hack⟩
    rw [step_handleChallengeAck cfg dg s a hst, hack, hour]
    exact congrArg Prod.snd (if_pos rfl)

theorem isDisconnect_eq (o : Op) : o.isDisconnect = true ↔ o = .disconnect := by
  cases o <;> simp [Op.isDisconnect]

theorem split_last_disconnect (l : List Op) :
    ∃ a b, l = a ++ b ∧ (a = [] ∨ ∃ q, a = q ++ [Op.disconnect]) ∧ ∀ o ∈ b, o.isDisconnect = false := by
  induction l with
  | nil => exact ⟨[], [], rfl, .inl rfl, by simp⟩
  | cons x t ih =>
    obtain ⟨a, b, e, ha, hb⟩ := ih
    rcases ha with rfl | ⟨q, rfl⟩
    · cases hx : x.isDisconnect with
      | true =>
        obtain rfl := (isDisconnect_eq x).mp hx
        exact ⟨[.disconnect], b, by simp [e], .inr ⟨[], rfl⟩, hb⟩
      | false => exact ⟨[], x :: b, by simp [e], .inl rfl, List.forall_mem_cons.mpr ⟨hx, hb⟩⟩
    · exact ⟨x :: (q ++ [.disconnect]), b, by simp [e], .inr ⟨x :: q, by simp⟩, hb⟩

/-- every event sequence that ends `established`, from a fresh connecting side, is the six edges in protocol order since
the last `disconnect`, with only events that lead nowhere in the gaps (read out at `C04_connected_only_in_order`) -/
theorem established_decomp (p : Side) (dg : Bytes → Nat → Bytes) (ops : List Op)
    (he : (connRun p dg Conn.empty ops).phase = .established) :
    ∃ pre g0 g1 g2 sb g3 cb c g4 g5 ab post,
      ops = pre ++ g0 ++ Op.beginConnect :: g1 ++ Op.prepareSendName :: g2 ++ Op.handleStatus sb :: g3 ++
        Op.handleChallenge cb c :: g4 ++ Op.prepareChallengeReply :: g5 ++ Op.handleChallengeAck ab :: post ∧
      (pre = [] ∨ ∃ q, pre = q ++ [Op.disconnect]) ∧
      (∀ o ∈ g0, o.isBegin = false ∧ o.isDisconnect = false) ∧
      (∀ o ∈ g1, (o.isSendName || o.isDisconnect) = false) ∧
      (∀ o ∈ g2, (o.isStatus || o.isDisconnect) = false) ∧
      (∀ o ∈ g3, (o.isChallenge || o.isDisconnect) = false) ∧
      (∀ o ∈ g4, (o.isReply || o.isDisconnect) = false) ∧
      (∀ o ∈ g5, (o.isAck || o.isDisconnect) = false) ∧
      (∀ o ∈ post, o.isDisconnect = false) ∧
      p.name.length ≤ 255 ∧
      (∃ st, parseStatus sb = some st ∧ st.accepts = true) ∧
      (∃ m, parseChallenge cb = some m ∧ (connRun p dg Conn.empty ops).neg = some (m.flags &&& p.flags)) ∧
      parseAck ab = some (dg p.cookie c) := by
  -- walk back: each phase was entered by its one edge (a fresh side starts in none of them)
  rcases last_entry p dg _ _ ops Conn.empty (Conn.eq_of_phase he) with ⟨h0, _⟩ | ⟨p6, _, post, e6, ⟨ab, c, rfl, h5, hack⟩, hpost⟩
  · cases h0
  rcases last_entry p dg _ _ p6 Conn.empty h5 with ⟨h0, _⟩ | ⟨p5, _, g5, e5, ⟨rfl, t, h4⟩, hg5⟩
  · cases h0
  rcases last_entry p dg _ _ p5 Conn.empty h4 with ⟨h0, _⟩ | ⟨p4, _, g4, e4, ⟨cb, m, ng0, rfl, hm, _, hng, h3⟩, hg4⟩
  · cases h0
  rcases last_entry p dg _ _ p4 Conn.empty h3 with ⟨h0, _⟩ | ⟨p3, _, g3, e3, ⟨sb, st, rfl, hst, hacc, h2⟩, hg3⟩
  · cases h0
  rcases last_entry p dg _ _ p3 Conn.empty h2 with ⟨h0, _⟩ | ⟨p2, _, g2, e2, ⟨rfl, hname, h1⟩, hg2⟩
  · cases h0
  rcases last_entry p dg _ _ p2 Conn.empty h1 with ⟨h0, _⟩ | ⟨p1, _, g1, e1, ⟨rfl, h0⟩, hg1⟩
  · cases h0
  -- idle: from the start, or entered by a disconnect; no begin_connect since
  have hidle : ∃ pre g0, p1 = pre ++ g0 ∧ (pre = [] ∨ ∃ q, pre = q ++ [Op.disconnect]) ∧
      ∀ o ∈ g0, o.isBegin = false ∧ o.isDisconnect = false := by
    rcases last_entry p dg _ _ p1 Conn.empty h0 with ⟨_, hall⟩ | ⟨p0, _, g0', e0, ⟨rfl, _⟩, hg0⟩
    · obtain ⟨a, b, e, ha, hb⟩ := split_last_disconnect p1
      exact ⟨a, b, e, ha, fun o ho => ⟨hall o (by rw [e]; simp [ho]), hb o ho⟩⟩
    · obtain ⟨a, b, e, ha, hb⟩ := split_last_disconnect g0'
      refine ⟨p0 ++ Op.disconnect :: a, b, by simp [e0, e], ?_, fun o ho => ⟨hg0 o (by rw [e]; simp [ho]), hb o ho⟩⟩
      rcases ha with rfl | ⟨q, rfl⟩
      · exact .inr ⟨p0, by simp⟩
      · exact .inr ⟨p0 ++ Op.disconnect :: q, by simp⟩
  obtain ⟨pre, g0, e0, hpre, hg0⟩ := hidle
  refine ⟨pre, g0, g1, g2, sb, g3, cb, c, g4, g5, ab, post, ?_, hpre, hg0, hg1, hg2, hg3, hg4, hg5, hpost, hname,
    ⟨st, hst, hacc⟩, ⟨m, hm, hng⟩, hack⟩
  subst e0 e1 e2 e3 e4 e5 e6
  simp [List.append_assoc]

/-- the converse of `established_decomp`: every event sequence of that shape ends `established` -/
theorem established_of_shape (p : Side) (dg : Bytes → Nat → Bytes) (pre g0 g1 g2 g3 : List Op) (sbytes cbytes : Bytes)
    (c : Nat) (g4 g5 : List Op) (ab : Bytes) (post : List Op)
    (hpre : pre = [] ∨ ∃ q, pre = q ++ [Op.disconnect])
    (hg0 : ∀ o ∈ g0, o.isBegin = false ∧ o.isDisconnect = false)
    (hg1 : ∀ o ∈ g1, (o.isSendName || o.isDisconnect) = false)
    (hg2 : ∀ o ∈ g2, (o.isStatus || o.isDisconnect) = false)
    (hg3 : ∀ o ∈ g3, (o.isChallenge || o.isDisconnect) = false)
    (hg4 : ∀ o ∈ g4, (o.isReply || o.isDisconnect) = false)
    (hg5 : ∀ o ∈ g5, (o.isAck || o.isDisconnect) = false)
    (hpost : ∀ o ∈ post, o.isDisconnect = false)
    (hname : p.name.length ≤ 255)
    (hst : ∃ st, parseStatus sbytes = some st ∧ st.accepts = true)
    (hm : ∃ m, parseChallenge cbytes = some m)
    (hack : parseAck ab = some (dg p.cookie c)) :
    (connRun p dg Conn.empty (pre ++ g0 ++ Op.beginConnect :: g1 ++ Op.prepareSendName :: g2 ++
      Op.handleStatus sbytes :: g3 ++ Op.handleChallenge cbytes c :: g4 ++ Op.prepareChallengeReply :: g5 ++
      Op.handleChallengeAck ab :: post)).phase = .established := by
  obtain ⟨st, hs, hacc⟩ := hst
  obtain ⟨m, hm⟩ := hm
  have edge := fun h op (h' : Conn) he hd => congrArg Conn.phase (connStep_of_entry p dg h op h' he hd)
  have h0 : (connRun p dg Conn.empty pre).phase = .idle := by
    rcases hpre with rfl | ⟨q, rfl⟩
    · rfl
    · simp [connRun, connStep, Conn.empty]
  have h0' := connRun_stays p dg _ g0 _ h0 (fun o ho => (hg0 o ho).1)
  have h1 := edge _ .beginConnect ⟨.begun, _⟩ ⟨rfl, Conn.eq_of_phase h0'⟩ nofun
  have h1' := connRun_stays p dg _ g1 _ h1 hg1
  have h2 := edge _ .prepareSendName ⟨.nameSent, _⟩ ⟨rfl, hname, Conn.eq_of_phase h1'⟩ nofun
  have h2' := connRun_stays p dg _ g2 _ h2 hg2
  have h3 := edge _ (.handleStatus sbytes) ⟨.accepted, _⟩ ⟨_, st, rfl, hs, hacc, Conn.eq_of_phase h2'⟩ nofun
  have h3' := connRun_stays p dg _ g3 _ h3 hg3
  have h4 := edge _ (.handleChallenge cbytes c) ⟨.challenged c m.challenge, _⟩
    ⟨_, m, _, rfl, hm, rfl, rfl, Conn.eq_of_phase h3'⟩ nofun
  have h4' := connRun_stays p dg _ g4 _ h4 hg4
  have h5 := edge _ .prepareChallengeReply ⟨.replied c, _⟩ ⟨rfl, _, Conn.eq_of_phase h4'⟩ nofun
  have h5' := connRun_stays p dg _ g5 _ h5 hg5
  have h6 := edge _ (.handleChallengeAck ab) ⟨.established, _⟩ ⟨_, c, rfl, Conn.eq_of_phase h5', hack⟩ nofun
  have h6' := connRun_stays p dg _ post _ h6 hpost
  simpa [connRun_append, connRun_cons, List.append_assoc] using h6'

end Edp.Lemmas.Handshake
