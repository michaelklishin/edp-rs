import EdpVerif.Impl.DistHeader
import EdpVerif.Impl.Recv
import EdpVerif.Spec.DistHeader
import EdpVerif.Lemmas.Codec
import EdpVerif.Lemmas.DecArms
/-! `Impl/DistHeader.lean` for C14 and C06: nibble packing, the sender/reader pair of the spec, the library's header reader
on a conforming sender's header, the library's header writer as a conforming sender, and `decode_with_atom_cache` as
"the header, then the terms". -/
namespace Edp.Recv
open Edp

theorem rdU_ne_panic (k : Nat) (bs : Bytes) : rdU k bs ≠ .error .panic :=
  fun h => nomatch rdU_err h

theorem takeE_err {k : Nat} {bs : Bytes} {e : DErr} (h : takeE k bs = .error e) : e = .err :=
  Edp.takeE_err h

theorem takeE_ne_panic (k : Nat) (bs : Bytes) : takeE k bs ≠ .error .panic :=
  fun h => nomatch takeE_err h

/-- `decode_fragment_header` fails with `Error::Decode` only, and a success has read the sequence id first -/
theorem decodeFragmentHeader_spec (a b : UInt8) (r : Bytes) :
    match decodeFragmentHeader (a :: b :: r) with
    | .error e => e = .err
    | .ok ((seq, _, _), _) => ∃ r1, rdU 8 r = .ok (seq, r1) := by
  simp only [decodeFragmentHeader]
  by_cases ha : (a != 131) = true
  · rw [if_pos ha]
  by_cases hb : (b != 69) = true
  · rw [if_neg ha, if_pos hb]
  rw [if_neg ha, if_neg hb]
  rcases h1 : rdU 8 r with e | ⟨seq, r1⟩
  · exact rdU_err h1
  dsimp only
  rcases h2 : rdU 8 r1 with e | ⟨fid, r2⟩
  · exact rdU_err h2
  dsimp only
  rcases h3 : rdU 1 r2 with e | ⟨n, r3⟩
  · exact rdU_err h3
  · exact ⟨r1, rfl⟩

/-- … and so does `decode_fragment_cont` -/
theorem decodeFragmentCont_spec (a b : UInt8) (r : Bytes) :
    match decodeFragmentCont (a :: b :: r) with
    | .error e => e = .err
    | .ok ((seq, _), _) => ∃ r1, rdU 8 r = .ok (seq, r1) := by
  simp only [decodeFragmentCont]
  by_cases ha : (a != 131) = true
  · rw [if_pos ha]
  by_cases hb : (b != 70) = true
  · rw [if_neg ha, if_pos hb]
  rw [if_neg ha, if_neg hb]
  rcases h1 : rdU 8 r with e | ⟨seq, r1⟩
  · exact rdU_err h1
  dsimp only
  rcases h2 : rdU 8 r1 with e | ⟨fid, r2⟩
  · exact rdU_err h2
  · exact ⟨r1, rfl⟩

end Edp.Recv

namespace Edp.DistHeader
open Edp Edp.Spec.DistHeader

theorem pack_eq (l : List Nat) : packNibbles l = pack l := by
  fun_induction packNibbles l <;> simp [pack, *]

theorem pack_length (l : List Nat) : (pack l).length = (l.length + 1) / 2 := by
  fun_induction pack l
  · simp
  · simp
  · simp [*]; omega

theorem field_pack (l : List Nat) (hl : ∀ x ∈ l, x < 16) (i : Nat) (hi : i < l.length) :
    field (pack l) i = l[i] := by
  fun_induction pack l generalizing i
  · simp at hi
  · rename_i a
    have : i = 0 := by simp at hi; omega
    subst this
    have ha : a < 16 := hl a (by simp)
    simp [field]; omega
  · rename_i a b r ih
    have ha : a < 16 := hl a (by simp)
    have hb : b < 16 := hl b (by simp)
    match i, hi with
    | 0, _ => simp [field]; omega
    | 1, _ => simp [field]; omega
    | j + 2, hj =>
      have hr : ∀ x ∈ r, x < 16 := fun x hx => hl x (by simp [hx])
      have := ih hr j (by simpa using hj)
      have e1 : (j + 2) / 2 = j / 2 + 1 := by omega
      have e2 : (j + 2) % 2 = j % 2 := by omega
      simp only [field, e1, e2, List.getElem?_cons_succ, List.getElem_cons_succ] at this ⊢
      exact this

theorem field_pack_snoc (l : List Nat) (z : Nat) (hl : ∀ x ∈ l, x < 16) (hz : z < 16) (i : Nat) (hi : i ≤ l.length) :
    field (pack (l ++ [z])) i = if h : i < l.length then l[i] else z := by
  have hlz : ∀ x ∈ l ++ [z], x < 16 := by
    simp only [List.mem_append, List.mem_singleton]
    rintro x (h | rfl)
    · exact hl x h
    · exact hz
  rw [field_pack _ hlz i (by simp; omega)]
  by_cases h : i < l.length
  · rw [dif_pos h, List.getElem_append_left h]
  · obtain rfl : i = l.length := by omega
    simp

theorem field_lt (flags : Bytes) (i : Nat) : field flags i < 16 := by
  unfold field
  split
  · rename_i b _
    have := b.toNat_lt
    split <;> omega
  · omega

/-- the library reads flag field `i` as the protocol does; an index out of range is the panic site -/
theorem nibbleAt_eq (flags : Bytes) (i : Nat) : nibbleAt flags i = if i / 2 < flags.length then some (field flags i) else none := by
  unfold nibbleAt field
  by_cases h : i / 2 < flags.length
  · rw [List.getElem?_eq_getElem h, if_pos h]
    have := (flags[i / 2]).toNat_lt
    by_cases hi : i % 2 = 0
    · simp [hi]
    · simp [hi]; omega
  · rw [List.getElem?_eq_none (by omega), if_neg h]

theorem lenField_read (long : Bool) (n : Nat) (r : Bytes) (h : if long then n < 65536 else n < 256) :
    rdN (if long then 2 else 1) (Spec.DistHeader.lenField long n ++ r) = some (n, r) := by
  cases long
  · simp only [Spec.DistHeader.lenField, Bool.false_eq_true, ↓reduceIte] at h ⊢
    exact rdN_beN 1 n r (by simpa using h)
  · simp only [Spec.DistHeader.lenField, ↓reduceIte] at h ⊢
    exact rdN_beN 2 n r (by simpa using h)

theorem readRefs_send (long : Bool) (flags : Bytes) (es : List Entry) (i : Nat) (s : Slots) (rest : Bytes)
    (hf : ∀ j (h : j < es.length), field flags (i + j) = nibOf es[j])
    (hc : Conforming long s es) :
    readRefs long flags es.length i s (sendRefs long es ++ rest) =
      some (es.map (·.atom), sendSlots s es, rest) := by
  induction es generalizing i s with
  | nil => simp [readRefs, sendRefs, sendSlots]
  | cons e r ih =>
    obtain ⟨hseg, hidx, hlen, hold, hrest⟩ := hc
    have h0 := hf 0 (by simp)
    simp only [Nat.add_zero, List.getElem_cons_zero] at h0
    have hf' : ∀ j (h : j < r.length), field flags (i + 1 + j) = nibOf r[j] := by
      intro j hj
      have := hf (j + 1) (by simp; omega)
      simpa [Nat.add_assoc, Nat.add_comm 1 j] using this
    have hidx' : (UInt8.ofNat e.idx).toNat = e.idx := by simp; omega
    cases hn : e.new
    · have hlook := hold hn
      have hnib : nibOf e = e.seg := by simp [nibOf, hn]
      have hlt : ¬ (e.seg ≥ 8) := by omega
      simp only [sendRefs, hn, Bool.false_eq_true, ↓reduceIte, List.cons_append, List.length_cons, readRefs, h0, hnib,
        hlt, hidx', Nat.mod_eq_of_lt hseg, hlook]
      have := ih (i + 1) s hf' (by simpa [upd, hn] using hrest)
      rw [this]
      simp [sendSlots, upd, hn]
    · have hnib : nibOf e = 8 + e.seg := by simp [nibOf, hn]
      have hge : 8 + e.seg ≥ 8 := by omega
      have hmod : (8 + e.seg) % 8 = e.seg := by omega
      simp only [sendRefs, hn, ↓reduceIte, List.cons_append, List.append_assoc, List.length_cons, readRefs, h0, hnib, hge,
        hidx', hmod]
      rw [lenField_read long _ _ hlen]
      simp only [takeN_append]
      have := ih (i + 1) (((e.seg, e.idx), e.atom) :: s) hf' (by simpa [upd, hn] using hrest)
      simp only [this]
      simp [sendSlots, upd, hn]

/-- the position table `L` is `A` with the atoms `as` entered at positions `i, i+1, …` (latest first) -/
def Positions (L A : List (Nat × Bytes)) (i : Nat) (as : List Bytes) : Prop :=
  (∀ j (hj : j < as.length), L.lookup (i + j) = some as[j]) ∧ ∀ m, m < i → L.lookup m = A.lookup m

theorem Positions.nil (A : List (Nat × Bytes)) (i : Nat) : Positions A A i [] :=
  ⟨fun j hj => absurd hj (Nat.not_lt_zero j), fun _ _ => rfl⟩

theorem Positions.cons {L A : List (Nat × Bytes)} {i : Nat} {a : Bytes} {as : List Bytes}
    (h : Positions L ((i, a) :: A) (i + 1) as) : Positions L A i (a :: as) := by
  obtain ⟨hpos, hlow⟩ := h
  refine ⟨fun j hj => ?_, fun m hm => ?_⟩
  · cases j with
    | zero => rw [Nat.add_zero, hlow i (by omega)]; simp [List.lookup]
    | succ j => simpa [Nat.add_assoc, Nat.add_comm 1 j] using hpos j (by simpa using hj)
  · have : (m == i) = false := by simp; omega
    rw [hlow m (by omega)]
    simp [List.lookup, this]

/-- the library's cache and the sender's agree slot by slot -/
def SlotsAgree (c : Cache) (s : Slots) : Prop := ∀ k, c.slots.lookup k = s.lookup k

theorem SlotsAgree.cons {c : Cache} {s : Slots} (h : SlotsAgree c s) (atoms : List (Nat × Bytes)) (k : Nat × Nat) (v : Bytes) :
    SlotsAgree { atoms := atoms, slots := (k, v) :: c.slots } ((k, v) :: s) := fun k' => by
  simp only [List.lookup]
  split
  · rfl
  · exact h k'

theorem lenField_readU (long : Bool) (n : Nat) (r : Bytes) (h : if long then n < 65536 else n < 256) :
    rdU (if long then 2 else 1) (Spec.DistHeader.lenField long n ++ r) = .ok (n, r) := by
  simp [rdU, lenField_read long n r h]

theorem parseRefs_send (long : Bool) (flags : Bytes) (es : List Entry) (i : Nat) (c : Cache) (s : Slots) (rest : Bytes)
    (hf : ∀ j (h : j < es.length), nibbleAt flags (i + j) = some (nibOf es[j]))
    (hc : Conforming long s es) (hv : ∀ e ∈ es, validUtf8 e.atom = true) (ha : SlotsAgree c s) :
    ∃ c', parseRefs long flags es.length i c (sendRefs long es ++ rest) = (c', .ok rest) ∧
      Positions c'.atoms c.atoms i (es.map (·.atom)) ∧ SlotsAgree c' (sendSlots s es) := by
  induction es generalizing i c s with
  | nil => exact ⟨c, by simp [parseRefs, sendRefs], .nil _ _, by simpa [sendSlots] using ha⟩
  | cons e r ih =>
    obtain ⟨hseg, hidx, hlen, hold, hrest⟩ := hc
    have h0 := hf 0 (by simp)
    simp only [Nat.add_zero, List.getElem_cons_zero] at h0
    have hf' : ∀ j (h : j < r.length), nibbleAt flags (i + 1 + j) = some (nibOf r[j]) := by
      intro j hj
      have := hf (j + 1) (by simp; omega)
      simpa [Nat.add_assoc, Nat.add_comm 1 j] using this
    have hv' : ∀ e' ∈ r, validUtf8 e'.atom = true := fun e' he => hv e' (by simp [he])
    have hve : validUtf8 e.atom = true := hv e (by simp)
    cases hn : e.new
    · have hlook : c.slots.lookup (e.seg, e.idx) = some e.atom := by rw [ha]; exact hold hn
      have hnib : nibOf e = e.seg := by simp [nibOf, hn]
      have hdiv : e.seg / 8 = 0 := by omega
      obtain ⟨c', h1, h2, h3⟩ := ih (i + 1) { c with atoms := (i, e.atom) :: c.atoms } s hf'
        (by simpa [upd, hn] using hrest) hv' ha
      refine ⟨c', ?_, ?_, ?_⟩
      · simp only [sendRefs, hn, Bool.false_eq_true, ↓reduceIte, List.cons_append, List.length_cons, parseRefs,
          rdU_byte e.idx _ hidx, h0, hnib, hdiv, Nat.mod_eq_of_lt hseg, hlook]
        simpa using h1
      · exact h2.cons
      · simpa [sendSlots, upd, hn] using h3
    · have hnib : nibOf e = 8 + e.seg := by simp [nibOf, hn]
      have hdiv : (8 + e.seg) / 8 = 1 := by omega
      have hmod : (8 + e.seg) % 8 = e.seg := by omega
      have ha' := ha.cons ((i, e.atom) :: c.atoms) (e.seg, e.idx) e.atom
      obtain ⟨c', h1, h2, h3⟩ := ih (i + 1) _ _ hf' (by simpa [upd, hn] using hrest) hv' ha'
      refine ⟨c', ?_, ?_, ?_⟩
      · simp only [sendRefs, hn, ↓reduceIte, List.cons_append, List.append_assoc, List.length_cons, parseRefs,
          rdU_byte e.idx _ hidx, h0, hnib, hdiv, hmod]
        rw [lenField_readU long _ _ hlen]
        simp only [takeE_append, hve]
        simpa using h1
      · exact h2.cons
      · simpa [sendSlots, upd, hn] using h3

/-- `parse_dist_header_with_cache` up to the reference loop, in the protocol's terms: its index into the flag bytes is
in range, and its LongAtoms decision is bit 0 of field `n` -/
theorem parseHeader_eq (c : Cache) (nb : UInt8) (r : Bytes) :
    parseHeader c (nb :: r) =
      if nb.toNat = 0 then (c, .ok r) else
      match takeE (nb.toNat / 2 + 1) r with
      | .error e => (c, .error e)
      | .ok (flags, r1) => parseRefs (decide (field flags nb.toNat % 2 = 1)) flags nb.toNat 0 c r1 := by
  have h1 : rdU 1 (nb :: r) = .ok (nb.toNat, r) := by simp [rdU, rdN]
  simp only [parseHeader, h1, beq_iff_eq]
  split
  · rfl
  · rcases ht : takeE (nb.toNat / 2 + 1) r with e | ⟨flags, r1⟩
    · rfl
    · have hin : nb.toNat / 2 < flags.length := by have := takeE_facts ht; omega
      simp only [List.getElem?_eq_getElem hin]
      congr 1
      have := (flags[nb.toNat / 2]).toNat_lt
      unfold field
      rw [List.getElem?_eq_getElem hin]
      by_cases hp : nb.toNat % 2 = 0
      · simp only [hp, if_true, Nat.mod_mod_of_dvd _ (by decide : 2 ∣ 16)]; rfl
      · simp only [hp, if_false]; rfl

theorem conforming_seg (long : Bool) (s : Slots) (es : List Entry) (h : Conforming long s es) : ∀ e ∈ es, e.seg < 8 := by
  induction es generalizing s with
  | nil => simp
  | cons e r ih =>
    obtain ⟨hseg, _, _, _, hrest⟩ := h
    intro e' he'
    rcases List.mem_cons.mp he' with rfl | he'
    · exact hseg
    · exact ih _ hrest e' he'

theorem sendHeader_flags (long : Bool) (es : List Entry) (hne : es ≠ []) (hn : es.length ≤ 255) (hs : ∀ e ∈ es, e.seg < 8) :
    ∃ nb flags, sendHeader long es = nb :: (flags ++ sendRefs long es) ∧ nb.toNat = es.length ∧ ¬ es.length = 0 ∧
      flags.length = es.length / 2 + 1 ∧ (∀ j (h : j < es.length), field flags j = nibOf es[j]) ∧
      decide (field flags es.length % 2 = 1) = long := by
  have hl : ∀ x ∈ es.map nibOf, x < 16 := by
    intro x hx
    obtain ⟨e, he, rfl⟩ := List.mem_map.mp hx
    have := hs e he
    unfold nibOf; split <;> omega
  have hf := field_pack_snoc (es.map nibOf) (if long then 1 else 0) hl (by split <;> omega)
  simp only [List.length_map] at hf
  refine ⟨UInt8.ofNat es.length, pack (es.map nibOf ++ [if long then 1 else 0]), ?_, by simp; omega,
    fun h => hne (List.length_eq_zero_iff.mp h), ?_, fun j hj => ?_, ?_⟩
  · rw [sendHeader, if_neg (by simpa using hne)]
  · rw [pack_length]; simp; omega
  · rw [hf j (by omega), dif_pos hj]; simp
  · rw [hf es.length (Nat.le_refl _), dif_neg (Nat.lt_irrefl _)]
    cases long <;> simp

/-- internal consistency of the oracle: the spec's reader reads the spec's sender -/
theorem readHeader_send (long : Bool) (s : Slots) (es : List Entry) (rest : Bytes)
    (hn : es.length ≤ 255) (hc : Conforming long s es) :
    readHeader s (sendHeader long es ++ rest) = some (es.map (·.atom), sendSlots s es, rest) := by
  by_cases hne : es = []
  · subst hne; simp [sendHeader, readHeader, sendSlots]
  · obtain ⟨nb, flags, hsend, hlen', hne0, hlen, hf, hlong⟩ := sendHeader_flags long es hne hn (conforming_seg long s es hc)
    simp only [hsend, List.cons_append, List.append_assoc, readHeader, hlen', hne0, if_false]
    rw [← hlen, takeN_append]
    simp only [hlong]
    exact readRefs_send long flags es 0 s rest (fun j hj => by rw [Nat.zero_add]; exact hf j hj) hc

/-- `parse_dist_header_with_cache` on the header of any conforming sender -/
theorem parseHeader_send (long : Bool) (c : Cache) (s : Slots) (es : List Entry) (rest : Bytes)
    (hn : es.length ≤ 255) (hc : Conforming long s es) (hv : ∀ e ∈ es, validUtf8 e.atom = true) (ha : SlotsAgree c s) :
    ∃ c', parseHeader c (sendHeader long es ++ rest) = (c', .ok rest) ∧
      (∀ j (hj : j < es.length), c'.atoms.lookup j = some es[j].atom) ∧ SlotsAgree c' (sendSlots s es) := by
  by_cases hne : es = []
  · subst hne
    exact ⟨c, by simp [sendHeader, parseHeader_eq], fun j hj => absurd hj (Nat.not_lt_zero j), by simpa [sendSlots] using ha⟩
  · obtain ⟨nb, flags, hsend, hlen', hne0, hlen, hf, hlong⟩ := sendHeader_flags long es hne hn (conforming_seg long s es hc)
    obtain ⟨c', h1, h2, h3⟩ := parseRefs_send long flags es 0 c s rest (fun j hj => by
      rw [Nat.zero_add, nibbleAt_eq, if_pos (by omega), hf j hj]) hc hv ha
    refine ⟨c', ?_, fun j hj => ?_, h3⟩
    · simp only [hsend, List.cons_append, List.append_assoc, parseHeader_eq, hlen', hne0, if_false]
      rw [← hlen, takeE_append]
      simp only [hlong]
      exact h1
    · have := h2.1 j (by simpa using hj)
      simpa using this

/-- the references the library's encoder writes: every atom a new entry in segment 0 at index = position -/
def entriesOf : Nat → List Bytes → List Entry
  | _, [] => []
  | i, a :: r => ⟨a, 0, i, true⟩ :: entriesOf (i + 1) r

theorem entriesOf_atoms (i : Nat) (l : List Bytes) : (entriesOf i l).map (·.atom) = l := by
  induction l generalizing i with
  | nil => rfl
  | cons a r ih => simp [entriesOf, ih]

theorem entriesOf_length (i : Nat) (l : List Bytes) : (entriesOf i l).length = l.length := by
  simpa using congrArg List.length (entriesOf_atoms i l)

theorem entriesOf_nib (i : Nat) (l : List Bytes) : (entriesOf i l).map nibOf = List.replicate l.length 8 := by
  induction l generalizing i with
  | nil => rfl
  | cons a r ih => simp [entriesOf, ih, nibOf, List.replicate_succ]

theorem lenField_eq (long : Bool) (n : Nat) : DistHeader.lenField long n = Spec.DistHeader.lenField long n := by
  cases long <;> simp [DistHeader.lenField, Spec.DistHeader.lenField, be8, be16]

theorem refsBytes_eq (long : Bool) (i : Nat) (l : List Bytes) : refsBytes long i l = sendRefs long (entriesOf i l) := by
  induction l generalizing i with
  | nil => rfl
  | cons a r ih => simp [refsBytes, entriesOf, sendRefs, ih, lenField_eq]

/-- what the encoder writes after `131, 68` is what a sender with these entries writes -/
theorem header_eq_send (order : List Bytes) (h : order ≠ []) :
    header order = sendHeader (isLong order) (entriesOf 0 order) := by
  have hne : (entriesOf 0 order).isEmpty = false := by
    cases order with
    | nil => exact absurd rfl h
    | cons a r => simp [entriesOf]
  simp [header, sendHeader, hne, entriesOf_length, flagNibbles, entriesOf_nib, pack_eq, refsBytes_eq]

theorem entriesOf_conforming (s : Slots) (order : List Bytes) (i : Nat)
    (hn : i + order.length ≤ 256) (hl : ∀ a ∈ order, a.length < 65536) :
    Conforming (isLong order) s (entriesOf i order) := by
  -- generalise the LongAtoms flag: any flag that covers the lengths will do
  suffices h : ∀ (long : Bool) (l : List Bytes) (i : Nat) (s : Slots), i + l.length ≤ 256 →
      (∀ a ∈ l, if long then a.length < 65536 else a.length < 256) → Conforming long s (entriesOf i l) by
    apply h _ _ _ _ hn
    intro a ha
    by_cases hL : isLong order = true
    · simp [hL]; exact hl a ha
    · simp only [hL, Bool.false_eq_true, ↓reduceIte]
      have : ¬ (order.any fun a => decide (a.length > 255)) = true := hL
      simp only [List.any_eq_true, decide_eq_true_eq, not_exists, not_and] at this
      have := this a ha
      omega
  intro long l
  induction l with
  | nil => intros; trivial
  | cons a r ih =>
    intro i s hn hl
    simp only [List.length_cons] at hn
    refine ⟨by simp, by simp; omega, hl a (by simp), by simp, ?_⟩
    exact ih (i + 1) _ (by omega) (fun a' ha' => hl a' (by simp [ha']))

/-- reading a header never reaches an out-of-range index into the flag bytes (no panic), for any input at all -/
theorem parseRefs_np (long : Bool) (flags : Bytes) (k i : Nat) (c : Cache) (bs : Bytes)
    (h : i + k ≤ 2 * flags.length - 1) :
    (parseRefs long flags k i c bs).2 ≠ .error .panic := by
  induction k generalizing i c bs with
  | zero => simp [parseRefs]
  | succ k ih =>
    have hin : i / 2 < flags.length := by omega
    simp only [parseRefs, nibbleAt_eq, if_pos hin]
    split
    · rename_i e he; exact fun hp => by cases rdU_err he ▸ Except.error.inj hp
    · split
      · split
        · rename_i e he; exact fun hp => by cases rdU_err he ▸ Except.error.inj hp
        · split
          · rename_i e he; exact fun hp => by cases takeE_err he ▸ Except.error.inj hp
          · split
            · simp
            · exact ih (i + 1) _ _ (by omega)
      · split
        · exact ih (i + 1) _ _ (by omega)
        · simp

theorem parseHeader_np (c : Cache) (bs : Bytes) : (parseHeader c bs).2 ≠ .error .panic := by
  cases bs with
  | nil => simp [parseHeader, rdU, rdN]
  | cons nb r =>
    rw [parseHeader_eq]
    split
    · simp
    · split
      · rename_i e he; exact fun hp => by cases takeE_err he ▸ Except.error.inj hp
      · rename_i flags r1 hf
        exact parseRefs_np _ flags nb.toNat 0 c r1 (by have := takeE_facts hf; omega)

end Edp.DistHeader

namespace Edp

open DistHeader in
theorem parseRefs_len (long : Bool) (flags : Bytes) : ∀ (k i : Nat) (c : Cache) (bs body : Bytes),
    (parseRefs long flags k i c bs).2 = .ok body → body.length ≤ bs.length := by
  intro k
  induction k with
  | zero => intro i c bs body h; simp [parseRefs] at h; simp [h]
  | succ k ih =>
    intro i c bs body h
    unfold parseRefs at h
    split at h
    · simp at h
    · rename_i idx r h0
      have := rdU_len h0
      split at h
      · simp at h
      · split at h
        · split at h
          · simp at h
          · rename_i len r1 h1
            have := rdU_len h1
            split at h
            · simp at h
            · rename_i text r2 h2
              have := takeE_facts h2
              split at h
              · simp at h
              · have := ih _ _ _ _ h; omega
        · dsimp only at h
          split at h
          · have := ih _ _ _ _ h; omega
          · simp at h

open DistHeader in
theorem parseHeader_len (c : Cache) (bs body : Bytes) (h : (parseHeader c bs).2 = .ok body) : body.length ≤ bs.length := by
  unfold parseHeader at h
  split at h
  · simp at h
  · rename_i n r h0
    have := rdU_len h0
    split at h
    · simp at h; rw [← h]; omega
    · split at h
      · simp at h
      · rename_i flags r1 h1
        have := takeE_facts h1
        split at h
        · simp at h
        · have := parseRefs_len _ _ _ _ _ _ _ h; omega

end Edp

namespace Edp.Recv
open Edp

/-- the table `ATOM_CACHE_REF` reads (`AtomCache::get`): header position ↦ atom (`DistHeader.Cache.atoms`, `DecCfg.cache`) -/
abbrev PosTable := List (Nat × Bytes)

/-- the terms after a distribution header (the tail of `decode_with_atom_cache`): the control term, then — if bytes
remain — the payload term, after which nothing may remain; `c` is the table `ATOM_CACHE_REF` reads -/
def termsOf (x : Ext) (c : PosTable) (fuel : Nat) (body : Bytes) : Except DErr (Term × Option Term) :=
  match dec x { cache := c } fuel 0 body with
  | .error e => .error e
  | .ok (t, rest) =>
    if rest.isEmpty then .ok (t, none) else
    match dec x { cache := c } fuel 0 rest with
    | .error e => .error e
    | .ok (p, []) => .ok (t, some p)
    | .ok (_, more) => .error (.trailing more.length)

/-- the term decoder reads the bytes `bs` as the term `t` under atom table `c` at nesting depth `d`, wherever they stand:
whatever follows them is handed back, any sufficient fuel will do. This is what C01/C03 establish for the output of an
encoder; C06 takes it as the meaning of "`bs` are the bytes of `t`". -/
def ReadsAt (x : Ext) (c : PosTable) (d : Nat) (bs : Bytes) (t : Term) : Prop :=
  ∀ (r : Bytes) (fuel : Nat), bs.length + r.length < fuel → dec x { cache := c } fuel d (bs ++ r) = .ok (t, r)

abbrev Reads (x : Ext) (c : PosTable) (bs : Bytes) (t : Term) : Prop := ReadsAt x c 0 bs t

theorem readsAt_nonempty {x : Ext} {c : PosTable} {d : Nat} {bs : Bytes} {t : Term} (h : ReadsAt x c d bs t) : bs ≠ [] := by
  intro e
  subst e
  have := h [] 1 (by simp)
  simp [dec] at this

theorem termsOf_reads {x : Ext} {c : PosTable} {cb : Bytes} {ct : Term} (hc : Reads x c cb ct) (pay : Option (Bytes × Term))
    (hp : ∀ pb p, pay = some (pb, p) → Reads x c pb p) {fuel : Nat} (hf : (cb ++ (pay.map (·.1)).getD []).length < fuel) :
    termsOf x c fuel (cb ++ (pay.map (·.1)).getD []) = .ok (ct, pay.map (·.2)) := by
  unfold termsOf
  cases pay with
  | none =>
    have := hc [] fuel (by simpa using hf)
    rw [List.append_nil] at this
    simp [this]
  | some pp =>
    obtain ⟨pb, p⟩ := pp
    have hrp := hp pb p rfl
    simp only [Option.map_some, Option.getD_some, List.length_append] at hf ⊢
    have h2 := hrp [] fuel (by simp; omega)
    rw [List.append_nil] at h2
    have : pb.isEmpty = false := by simpa using readsAt_nonempty hrp
    simp [hc pb fuel (by omega), h2, this]

theorem termsOf_np {x : Ext} (hx : ∀ (cfg : DecCfg) (fuel d : Nat) (bs : Bytes), dec x cfg fuel d bs ≠ .error .panic)
    (c : PosTable) (fuel : Nat) (body : Bytes) : termsOf x c fuel body ≠ .error .panic := by
  unfold termsOf
  split
  · rename_i e he; exact fun h => hx _ _ _ _ (Except.error.inj h ▸ he)
  · split
    · simp
    · split
      · rename_i e he; exact fun h => hx _ _ _ _ (Except.error.inj h ▸ he)
      · simp
      · simp

end Edp.Recv

namespace Edp.DistHeader
open Edp Edp.Spec.DistHeader

/-- `decode_with_atom_cache` on a buffer with its version byte: under tag `68` the header goes into the cache, whatever
follows it, and the terms are read under the table it leaves; any other tag starts the terms themselves -/
theorem decodeWithAtomCache_cons (x : Ext) (c : Cache) (tag : UInt8) (r : Bytes) :
    decodeWithAtomCache x c (131 :: tag :: r) =
      if tag = 68 then
        ((parseHeader c r).1,
          match (parseHeader c r).2 with
          | .error e => .error e
          | .ok body => Recv.termsOf x (parseHeader c r).1.atoms ((131 :: tag :: r).length + 1 + x.extra) body)
      else (c, Recv.termsOf x c.atoms ((131 :: tag :: r).length + 1 + x.extra) (tag :: r)) := by
  have tail : ∀ (c1 : Cache) (fuel : Nat) (body : Bytes),
      (match dec x { cache := c1.atoms } fuel 0 body with
        | .error e => (c1, .error e)
        | .ok (t, rest) =>
          if rest.isEmpty then (c1, .ok (t, none)) else
          match dec x { cache := c1.atoms } fuel 0 rest with
          | .error e => (c1, .error e)
          | .ok (p, []) => (c1, .ok (t, some p))
          | .ok (_, more) => (c1, .error (.trailing more.length)) : Cache × Except DErr (Term × Option Term)) =
      (c1, Recv.termsOf x c1.atoms fuel body) := by
    intro c1 fuel body
    unfold Recv.termsOf
    rcases dec x { cache := c1.atoms } fuel 0 body with e | ⟨t, rest⟩
    · rfl
    · by_cases hr : rest.isEmpty = true
      · simp [hr]
      · simp only [hr, Bool.false_eq_true, ↓reduceIte]
        rcases dec x { cache := c1.atoms } fuel 0 rest with e | ⟨p, _ | ⟨b, more⟩⟩ <;> rfl
  have h131 : ((131 : UInt8) != 131) = false := by decide
  simp only [decodeWithAtomCache, h131, Bool.false_eq_true, ↓reduceIte]
  by_cases ht : tag = 68
  · subst ht
    simp only [BEq.rfl, ↓reduceIte]
    rcases parseHeader c r with ⟨c1, e | body⟩
    · rfl
    · exact tail c1 _ body
  · have ht' : (tag == 68) = false := by simpa using ht
    simp only [ht', Bool.false_eq_true, ↓reduceIte, ht]
    exact tail c _ _

theorem decodeWithAtomCache_short (x : Ext) (c : Cache) {data : Bytes} (h : ∀ tag r, data ≠ 131 :: tag :: r) :
    decodeWithAtomCache x c data = (c, .error .err) := by
  match data with
  | [] => rfl
  | [v] => by_cases hv : v = 131 <;> simp [decodeWithAtomCache, hv]
  | v :: tag :: r =>
    have hv : (v != 131) = true := by simpa using fun e : v = 131 => h tag r (e ▸ rfl)
    simp [decodeWithAtomCache, hv]

/-- only the distribution header writes the cache: whatever the terms after it are -/
theorem decodeWithAtomCache_fst (x : Ext) (c : Cache) (r : Bytes) :
    (decodeWithAtomCache x c (131 :: 68 :: r)).1 = (parseHeader c r).1 := by
  rw [decodeWithAtomCache_cons]; rfl

theorem decodeWithAtomCache_np (x : Ext) (hx : ∀ (cfg : DecCfg) (fuel d : Nat) (bs : Bytes), dec x cfg fuel d bs ≠ .error .panic)
    (c : Cache) (data : Bytes) : (decodeWithAtomCache x c data).2 ≠ .error .panic := by
  by_cases h : ∃ tag r, data = 131 :: tag :: r
  · obtain ⟨tag, r, rfl⟩ := h
    rw [decodeWithAtomCache_cons]
    split
    · have hp := parseHeader_np c r
      split
      · rename_i e he
        exact fun h => hp (he.trans (by rw [Except.error.inj h]))
      · exact Recv.termsOf_np hx _ _ _
    · exact Recv.termsOf_np hx _ _ _
  · rw [decodeWithAtomCache_short x c (fun tag r e => h ⟨tag, r, e⟩)]; simp

theorem parseRefs_suffix (long : Bool) (flags : Bytes) (c0 : Cache) : ∀ (k i : Nat) (c : Cache) (bs : Bytes),
    c0.atoms <:+ c.atoms ∧ c0.slots <:+ c.slots →
    c0.atoms <:+ (parseRefs long flags k i c bs).1.atoms ∧ c0.slots <:+ (parseRefs long flags k i c bs).1.slots := by
  intro k
  induction k with
  | zero => intro i c bs h; exact h
  | succ k ih =>
    intro i c bs h
    unfold parseRefs
    split
    · exact h
    · split
      · exact h
      · simp only
        split
        · split
          · exact h
          · split
            · exact h
            · split
              · exact h
              · exact ih _ _ _ ⟨h.1.trans (List.suffix_cons _ _), h.2.trans (List.suffix_cons _ _)⟩
        · split
          · exact ih _ _ _ ⟨h.1.trans (List.suffix_cons _ _), h.2⟩
          · exact h

theorem parseHeader_suffix (c : Cache) (bs : Bytes) :
    c.atoms <:+ (parseHeader c bs).1.atoms ∧ c.slots <:+ (parseHeader c bs).1.slots := by
  have hrefl : c.atoms <:+ c.atoms ∧ c.slots <:+ c.slots := ⟨List.suffix_refl _, List.suffix_refl _⟩
  cases bs with
  | nil => exact hrefl
  | cons nb r =>
    rw [parseHeader_eq]
    split
    · exact hrefl
    · split
      · exact hrefl
      · exact parseRefs_suffix _ _ c _ _ _ _ hrefl

/-- both tables of the atom cache only ever gain entries in front, whatever the input -/
theorem decodeWithAtomCache_suffix (x : Ext) (c : Cache) (data : Bytes) :
    c.atoms <:+ (decodeWithAtomCache x c data).1.atoms ∧ c.slots <:+ (decodeWithAtomCache x c data).1.slots := by
  by_cases h : ∃ tag r, data = 131 :: tag :: r
  · obtain ⟨tag, r, rfl⟩ := h
    rw [decodeWithAtomCache_cons]
    split
    · exact parseHeader_suffix c r
    · exact ⟨List.suffix_refl _, List.suffix_refl _⟩
  · rw [decodeWithAtomCache_short x c (fun tag r e => h ⟨tag, r, e⟩)]
    exact ⟨List.suffix_refl _, List.suffix_refl _⟩

end Edp.DistHeader
