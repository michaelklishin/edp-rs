import EdpVerif.Lemmas.NumKey
/-!
Transitivity of the model order `Term.cmp` (C11), for all terms whose big integers carry minimal digits (`WFo`).
`Tr3 ab bc ac` packages the four upward clauses (lt/lt, lt/eq, eq/lt, eq/eq) for three comparison results; it
lifts through `Ordering.then` (`then_tr`), holds for the leaf comparisons, follows from the codes alone where a
comparison refines a comparison of codes that are not all equal (`tr_of_finer`: ranks of terms, tails against cons
cells), and is carried through the nested term type by `cmpN_ind` (`cmpN_tr`).
-/
open Edp Edp.Term
namespace Edp

structure Tr3 (ab bc ac : Ordering) : Prop where
  ll : ab = .lt → bc = .lt → ac = .lt
  le : ab = .lt → bc = .eq → ac = .lt
  el : ab = .eq → bc = .lt → ac = .lt
  ee : ab = .eq → bc = .eq → ac = .eq

/-- the second components matter only when the first ones are equal -/
theorem then_tr' {a1 b1 c1 a2 b2 c2 : Ordering} (h1 : Tr3 a1 b1 c1) (h2 : a1 = .eq → b1 = .eq → Tr3 a2 b2 c2) :
    Tr3 (a1.then a2) (b1.then b2) (c1.then c2) := by
  constructor
  · intro hab hbc
    rcases Ordering.then_eq_lt.mp hab with ha | ⟨ha1, ha2⟩ <;> rcases Ordering.then_eq_lt.mp hbc with hb | ⟨hb1, hb2⟩
    · exact Ordering.then_eq_lt.mpr (.inl (h1.ll ha hb))
    · exact Ordering.then_eq_lt.mpr (.inl (h1.le ha hb1))
    · exact Ordering.then_eq_lt.mpr (.inl (h1.el ha1 hb))
    · exact Ordering.then_eq_lt.mpr (.inr ⟨h1.ee ha1 hb1, (h2 ha1 hb1).ll ha2 hb2⟩)
  · intro hab hbc
    obtain ⟨hb1, hb2⟩ := Ordering.then_eq_eq.mp hbc
    rcases Ordering.then_eq_lt.mp hab with ha | ⟨ha1, ha2⟩
    · exact Ordering.then_eq_lt.mpr (.inl (h1.le ha hb1))
    · exact Ordering.then_eq_lt.mpr (.inr ⟨h1.ee ha1 hb1, (h2 ha1 hb1).le ha2 hb2⟩)
  · intro hab hbc
    obtain ⟨ha1, ha2⟩ := Ordering.then_eq_eq.mp hab
    rcases Ordering.then_eq_lt.mp hbc with hb | ⟨hb1, hb2⟩
    · exact Ordering.then_eq_lt.mpr (.inl (h1.el ha1 hb))
    · exact Ordering.then_eq_lt.mpr (.inr ⟨h1.ee ha1 hb1, (h2 ha1 hb1).el ha2 hb2⟩)
  · intro hab hbc
    obtain ⟨ha1, ha2⟩ := Ordering.then_eq_eq.mp hab
    obtain ⟨hb1, hb2⟩ := Ordering.then_eq_eq.mp hbc
    exact Ordering.then_eq_eq.mpr ⟨h1.ee ha1 hb1, (h2 ha1 hb1).ee ha2 hb2⟩

theorem then_tr {a1 b1 c1 a2 b2 c2 : Ordering} (h1 : Tr3 a1 b1 c1) (h2 : Tr3 a2 b2 c2) :
    Tr3 (a1.then a2) (b1.then b2) (c1.then c2) := then_tr' h1 (fun _ _ => h2)

theorem tr_nat (a b c : Nat) : Tr3 (compare a b) (compare b c) (compare a c) := by
  constructor <;> simp only [Nat.compare_eq_lt, Nat.compare_eq_eq] <;> omega

theorem tr_int (a b c : Int) : Tr3 (compare a b) (compare b c) (compare a c) := by
  constructor <;> simp only [Int.compare_eq_lt, Int.compare_eq_eq] <;> omega

theorem tr_eq : Tr3 .eq .eq .eq := by constructor <;> simp

theorem tr_lex : ∀ (a b c : List Nat), Tr3 (lexCmp a b) (lexCmp b c) (lexCmp a c)
  | [], [], [] => tr_eq
  | [], [], _ :: _ | [], _ :: _, [] | [], _ :: _, _ :: _ | _ :: _, [], [] | _ :: _, [], _ :: _ | _ :: _, _ :: _, [] => by
    constructor <;> simp [lexCmp]
  | x :: xs, y :: ys, z :: zs => by
    simp only [lexCmp, thenO]
    exact then_tr (tr_nat x y z) (tr_lex xs ys zs)

theorem tr_bytes (a b c : Bytes) : Tr3 (bytesCmp a b) (bytesCmp b c) (bytesCmp a c) := tr_lex _ _ _

theorem tr_key (p q r : Int × Int) : Tr3 (cmpKey p q) (cmpKey q r) (cmpKey p r) :=
  then_tr (tr_int _ _ _) (tr_int _ _ _)

theorem tr_pid (p q r : PidF) : Tr3 (pidCmp p q) (pidCmp q r) (pidCmp p r) := by
  unfold pidCmp thenO
  exact then_tr (tr_bytes _ _ _) (then_tr (tr_nat _ _ _) (then_tr (tr_nat _ _ _) (tr_nat _ _ _)))


/-- `T1` .. `T7`: what is needed of the results for lists that run out (`b..` = both out, `α.` = first out, `β.` = second
out), one condition for each way in which three lists can end -/
theorem zip_tr {bab bbc bac αa αb βb βc : Ordering}
    (T1 : Tr3 bab bbc bac) (T2 : Tr3 bab αb αa) (T3 : Tr3 αa βc bac) (T4 : ∀ o, Tr3 αa o αa)
    (T5 : Tr3 βb bbc βc) (T6 : ∀ o, Tr3 βb αb o) (T7 : ∀ o, Tr3 o βc βc) :
    ∀ (xs ys zs : List Term),
      (∀ x ∈ xs, ∀ y ∈ ys, ∀ z ∈ zs, Tr3 (cmpN x y) (cmpN y z) (cmpN x z)) →
      Tr3 (cmpZip xs ys bab αa βb) (cmpZip ys zs bbc αb βc) (cmpZip xs zs bac αa βc)
  | [], [], [], _ => by simpa [cmpZip] using T1
  | [], [], _ :: _, _ => by simpa [cmpZip] using T2
  | [], _ :: _, [], _ => by simpa [cmpZip] using T3
  | [], _ :: _, _ :: _, _ => by simpa [cmpZip] using T4 _
  | _ :: _, [], [], _ => by simpa [cmpZip] using T5
  | _ :: _, [], _ :: _, _ => by simpa [cmpZip] using T6 _
  | _ :: _, _ :: _, [], _ => by simpa [cmpZip] using T7 _
  | x :: xs, y :: ys, z :: zs, ih => by
    simp only [cmpZip, thenO]
    exact then_tr (ih x (by simp) y (by simp) z (by simp))
      (zip_tr T1 T2 T3 T4 T5 T6 T7 xs ys zs (fun x hx y hy z hz =>
        ih x (List.mem_cons_of_mem _ hx) y (List.mem_cons_of_mem _ hy) z (List.mem_cons_of_mem _ hz)))

theorem zipLex_tr (xs ys zs : List Term)
    (ih : ∀ x ∈ xs, ∀ y ∈ ys, ∀ z ∈ zs, Tr3 (cmpN x y) (cmpN y z) (cmpN x z)) :
    Tr3 (cmpZip xs ys .eq .lt .gt) (cmpZip ys zs .eq .lt .gt) (cmpZip xs zs .eq .lt .gt) := by
  apply zip_tr _ _ _ _ _ _ _ xs ys zs ih <;> (try intro o) <;> constructor <;> simp

theorem cmpZip_eqlen : ∀ (xs ys : List Term) (b a1 b1 a2 b2 : Ordering), xs.length = ys.length →
    cmpZip xs ys b a1 b1 = cmpZip xs ys b a2 b2
  | [], [], _, _, _, _, _, _ => by simp [cmpZip]
  | [], _ :: _, _, _, _, _, _, h => by simp at h
  | _ :: _, [], _, _, _, _, _, h => by simp at h
  | x :: xs, y :: ys, b, a1, b1, a2, b2, h => by
    simp only [cmpZip]; rw [cmpZip_eqlen xs ys b a1 b1 a2 b2 (by simpa using h)]

/-- tuples and the key and value columns of maps: the lengths have been compared before -/
theorem zipEq_tr (xs ys zs : List Term) (l1 : xs.length = ys.length) (l2 : ys.length = zs.length)
    (ih : ∀ x ∈ xs, ∀ y ∈ ys, ∀ z ∈ zs, Tr3 (cmpN x y) (cmpN y z) (cmpN x z)) :
    Tr3 (cmpZip xs ys .eq .eq .eq) (cmpZip ys zs .eq .eq .eq) (cmpZip xs zs .eq .eq .eq) := by
  rw [cmpZip_eqlen xs ys .eq .eq .eq .lt .gt l1, cmpZip_eqlen ys zs .eq .eq .eq .lt .gt l2,
    cmpZip_eqlen xs zs .eq .eq .eq .lt .gt (l1.trans l2)]
  exact zipLex_tr _ _ _ ih

mutual
/-- the guard of the order laws: every big integer carries minimal digits (no high-order zero digit) -/
def WFo : Term → Bool
  | .big _ d => minDigits d
  | .list l => WFoL l
  | .ilist l t => WFoL l && WFo t
  | .map kvs => WFoKV kvs
  | .tuple l => WFoL l
  | .ifun _ _ _ _ _ _ _ _ fr => WFoL fr
  | _ => true
def WFoL : List Term → Bool
  | [] => true
  | t :: ts => WFo t && WFoL ts
def WFoKV : List (Term × Term) → Bool
  | [] => true
  | (k, v) :: r => WFo k && WFo v && WFoKV r
end

mutual
/-- normal forms (the image of `norm`) satisfying `WFo`: no empty `.list`, `.ilist` has elements and a tail that is
not a list -/
def NF : Term → Bool
  | .big _ d => minDigits d
  | .list l => !l.isEmpty && NFL l
  | .ilist l t => !l.isEmpty && NFL l && NF t && !isListLike t
  | .map kvs => NFKV kvs
  | .tuple l => NFL l
  | .ifun _ _ _ _ _ _ _ _ fr => NFL fr
  | _ => true
def NFL : List Term → Bool
  | [] => true
  | t :: ts => NF t && NFL ts
def NFKV : List (Term × Term) → Bool
  | [] => true
  | (k, v) :: r => NF k && NF v && NFKV r
end

theorem numOk_of_NF {a : Term} (h : NF a) : numOk a := by cases a <;> simp [numOk] ; simpa [NF] using h

theorem NFL_append : ∀ (a b : List Term), NFL (a ++ b) = (NFL a && NFL b)
  | [], b => by simp [NFL]
  | x :: a, b => by simp [NFL, NFL_append a b, Bool.and_assoc]

theorem NFL_mem : ∀ {l : List Term} {x : Term}, NFL l → x ∈ l → NF x
  | y :: l, x, h, hx => by
    simp only [NFL, Bool.and_eq_true] at h
    rcases List.mem_cons.mp hx with rfl | hx
    · exact h.1
    · exact NFL_mem h.2 hx

theorem NFL_fst : ∀ {l : List (Term × Term)}, NFKV l → NFL (l.map (·.1))
  | [], _ => rfl
  | (_, _) :: _, h => by
    simp only [NFKV, Bool.and_eq_true] at h
    simp only [List.map_cons, NFL, Bool.and_eq_true]; exact ⟨h.1.1, NFL_fst h.2⟩

theorem NFL_snd : ∀ {l : List (Term × Term)}, NFKV l → NFL (l.map (·.2))
  | [], _ => rfl
  | (_, _) :: _, h => by
    simp only [NFKV, Bool.and_eq_true] at h
    simp only [List.map_cons, NFL, Bool.and_eq_true]; exact ⟨h.1.2, NFL_snd h.2⟩

theorem normL_nil_iff : ∀ (l : List Term), normL l = [] ↔ l = []
  | [] => by simp [normL]
  | _ :: _ => by simp [normL]

theorem NF_mkList {l : List Term} (h : NFL l) : NF (mkList l) := by
  cases l
  · rfl
  · simpa [mkList, NF] using h

theorem NF_mkIlist {l : List Term} {t : Term} (hl : NFL l) (ht : NF t) : NF (mkIlist l t) := by
  cases l with
  | nil => exact ht
  | cons x l =>
    by_cases h8 : rank t = 8
    · -- a tail that is itself a normal list is spliced in
      simp only [NFL, Bool.and_eq_true] at hl
      rcases rank_eq_8 h8 with rfl | ⟨l2, rfl⟩ | ⟨l2, t2, rfl⟩ <;> simp only [NF, Bool.and_eq_true] at ht
      · simp [mkIlist, NF, NFL, hl]
      · simp [mkIlist, NF, NFL, NFL_append, hl, ht.2]
      · simp [mkIlist, NF, NFL, NFL_append, hl, ht.1.1.2, ht.1.2, ht.2]
    · rw [mkIlist_cons_nonlist _ _ h8]
      simp [NF, hl, ht, ← Bool.not_eq_true, isListLike_iff, h8]

mutual
theorem NF_norm : ∀ (t : Term), WFo t → NF (norm t)
  | .atom _, _ | .int _, _ | .float _, _ | .pid _, _ | .port _ _ _ _, _ | .ref _ _ _ _, _ | .bin _, _
  | .bits _ _, _ | .str _, _ | .xfun _ _ _, _ | .nil, _ => rfl
  | .big _ _, h => h
  | .tuple l, h | .ifun _ _ _ _ _ _ _ _ l, h => NFL_normL l h
  | .map kvs, h => NFKV_normKV kvs h
  | .list l, h => NF_mkList (NFL_normL l h)
  | .ilist l t, h => by
    simp only [WFo, Bool.and_eq_true] at h
    exact NF_mkIlist (NFL_normL l h.1) (NF_norm t h.2)
theorem NFL_normL : ∀ (l : List Term), WFoL l → NFL (normL l)
  | [], _ => rfl
  | t :: ts, h => by
    simp only [WFoL, Bool.and_eq_true] at h
    simp [normL, NFL, NF_norm t h.1, NFL_normL ts h.2]
theorem NFKV_normKV : ∀ (l : List (Term × Term)), WFoKV l → NFKV (normKV l)
  | [], _ => rfl
  | (k, v) :: r, h => by
    simp only [WFoKV, Bool.and_eq_true] at h
    simp [normKV, NFKV, NF_norm k h.1.1, NF_norm v h.1.2, NFKV_normKV r h.2]
end


/-- `o` orders two things at least as finely as their codes `j`, `k` order them -/
structure Finer (o : Ordering) (j k : Nat) : Prop where
  le_of_lt : o = .lt → j ≤ k
  eq_of_eq : o = .eq → j = k
  lt_of_lt : j < k → o = .lt

theorem finer_compare (j k : Nat) : Finer (compare j k) j k := by
  constructor <;> simp only [Nat.compare_eq_lt, Nat.compare_eq_eq] <;> omega

theorem finer_same (o : Ordering) (k : Nat) : Finer o k k :=
  ⟨fun _ => Nat.le_refl k, fun _ => rfl, fun h => absurd h (Nat.lt_irrefl k)⟩

theorem Finer.double {o : Ordering} {j k : Nat} (h : Finer o j k) : Finer o (2 * j) (2 * k) :=
  ⟨fun e => by have := h.le_of_lt e; omega, fun e => by have := h.eq_of_eq e; omega, fun l => h.lt_of_lt (by omega)⟩

/-- unless all three codes are equal the codes decide -/
theorem tr_of_finer {ab bc ac : Ordering} {i j k : Nat} (h1 : Finer ab i j) (h2 : Finer bc j k) (h3 : Finer ac i k)
    (h : i = j → j = k → Tr3 ab bc ac) : Tr3 ab bc ac := by
  by_cases hr : i = j ∧ j = k
  · exact h hr.1 hr.2
  constructor
  · intro a b; have := h1.le_of_lt a; have := h2.le_of_lt b; exact h3.lt_of_lt (by omega)
  · intro a b; have := h1.le_of_lt a; have := h2.eq_of_eq b; exact h3.lt_of_lt (by omega)
  · intro a b; have := h1.eq_of_eq a; have := h2.le_of_lt b; exact h3.lt_of_lt (by omega)
  · intro a b; have := h1.eq_of_eq a; have := h2.eq_of_eq b; omega

theorem cmpN_finer (a b : Term) : Finer (cmpN a b) (rank a) (rank b) := by
  by_cases h : rank a = rank b
  · rw [h]; exact finer_same _ _
  · rw [cmpN_of_rank_ne a b h]; exact finer_compare _ _

theorem tr_of_rank (a b c : Term) (h : rank a = rank b → rank b = rank c → Tr3 (cmpN a b) (cmpN b c) (cmpN a c)) :
    Tr3 (cmpN a b) (cmpN b c) (cmpN a c) := tr_of_finer (cmpN_finer a b) (cmpN_finer b c) (cmpN_finer a c) h

/-! When one list runs out its tail meets a cons cell of the other.  With the code `2 * rank` for a tail that is a term, 16
for nil and 17 for a cons cell, `cmpTail`, `aOutOf` and `bOutOf` all refine the comparison of these codes. -/

/-- the final tail of a normal list-like term (`cells`): none, or a term that is not itself a list -/
def tailOk : Option Term → Prop
  | none => True
  | some t => rank t ≠ 8

def tcode : Option Term → Nat
  | none => 16
  | some t => 2 * rank t

theorem tcode_ne (t : Option Term) : tcode t ≠ 17 := by cases t <;> simp [tcode] <;> omega

theorem aOutOf_finer (t : Option Term) (h : tailOk t) : Finer (aOutOf t) (tcode t) 17 := by
  cases t with
  | none => exact finer_compare 16 17
  | some t =>
    simp only [tailOk] at h
    constructor <;> simp only [aOutOf, tcode, listRank, Nat.compare_eq_lt, Nat.compare_eq_eq] <;> omega

theorem bOutOf_finer (t : Option Term) (h : tailOk t) : Finer (bOutOf t) 17 (tcode t) := by
  cases t with
  | none => exact finer_compare 17 16
  | some t =>
    simp only [tailOk] at h
    constructor <;> simp only [bOutOf, tcode, listRank, Nat.compare_eq_lt, Nat.compare_eq_eq] <;> omega

theorem cmpTail_finer (t u : Option Term) (ht : tailOk t) (hu : tailOk u) : Finer (cmpTail t u) (tcode t) (tcode u) := by
  cases t <;> cases u
  · exact finer_same _ _
  · simp only [tailOk] at hu
    constructor <;> simp only [cmpTail, tcode, listRank, Nat.compare_eq_lt, Nat.compare_eq_eq] <;> omega
  · simp only [tailOk] at ht
    constructor <;> simp only [cmpTail, tcode, listRank, Nat.compare_eq_lt, Nat.compare_eq_eq] <;> omega
  · exact (cmpN_finer _ _).double

/-- three tails: equal codes mean three nils or three terms of one rank -/
theorem tail_tr (tx ty tz : Option Term) (hx : tailOk tx) (hy : tailOk ty) (hz : tailOk tz)
    (h3 : ∀ t u w, tx = some t → ty = some u → tz = some w → Tr3 (cmpN t u) (cmpN u w) (cmpN t w)) :
    Tr3 (cmpTail tx ty) (cmpTail ty tz) (cmpTail tx tz) := by
  refine tr_of_finer (cmpTail_finer tx ty hx hy) (cmpTail_finer ty tz hy hz) (cmpTail_finer tx tz hx hz) (fun h1 h2 => ?_)
  cases tx <;> cases ty <;> cases tz <;> simp only [tailOk, tcode] at hx hy hz h1 h2 <;> first
    | exact tr_eq
    | exact h3 _ _ _ rfl rfl rfl
    | omega

theorem elems_ih {xs ys zs : List Term}
    (ih : ∀ x ∈ xs, ∀ y ∈ ys, ∀ z, NF x → NF y → NF z → rank x = rank y → rank y = rank z →
      Tr3 (cmpN x y) (cmpN y z) (cmpN x z))
    (hx : NFL xs) (hy : NFL ys) (hz : NFL zs) : ∀ x ∈ xs, ∀ y ∈ ys, ∀ z ∈ zs, Tr3 (cmpN x y) (cmpN y z) (cmpN x z) :=
  fun x mx y my z mz => tr_of_rank x y z (ih x mx y my z (NFL_mem hx mx) (NFL_mem hy my) (NFL_mem hz mz))

theorem cells_NF {a : Term} (ha : rank a = 8) (na : NF a) :
    NFL (cells a).1 ∧ tailOk (cells a).2 ∧ (∀ t, (cells a).2 = some t → NF t) := by
  rcases rank_eq_8 ha with rfl | ⟨x, rfl⟩ | ⟨x, t, rfl⟩
  · simp [cells, NFL, tailOk]
  · simp only [NF, Bool.and_eq_true] at na; simp [cells, tailOk, na.2]
  · simp only [NF, Bool.and_eq_true] at na
    refine ⟨na.1.1.2, ?_, ?_⟩
    · simp only [cells, tailOk]
      intro h8
      simp [(isListLike_iff t).mpr h8] at na
    · intro t' ht; simp only [cells, Option.some.injEq] at ht; subst ht; exact na.1.2

/-- in each case the third term has the rank of the other two, hence their form (`tr_of_rank`) -/
theorem cmpN_tr (a b c : Term) (na : NF a) (nb : NF b) (nc : NF c) : Tr3 (cmpN a b) (cmpN b c) (cmpN a c) := by
  refine tr_of_rank a b c (fun hab hc => ?_)
  induction a, b using cmpN_ind generalizing c with
  | ne a b h => exact absurd hab h
  | num a b ha hb =>
    have hc : rank c = 0 := by omega
    rw [cmpN_num a b ha hb (numOk_of_NF na) (numOk_of_NF nb), cmpN_num b c hb hc (numOk_of_NF nb) (numOk_of_NF nc),
      cmpN_num a c ha hc (numOk_of_NF na) (numOk_of_NF nc)]
    exact tr_key _ _ _
  | atom x y =>
    obtain ⟨z, rfl⟩ := rank_eq_1 hc.symm
    simp only [cmpN_atom]; exact tr_bytes _ _ _
  | ref =>
    obtain ⟨_, _, _, _, rfl⟩ := rank_eq_2 hc.symm
    simp only [cmpN_ref]; exact then_tr (tr_bytes _ _ _) (then_tr (tr_nat _ _ _) (tr_lex _ _ _))
  | xfun =>
    rcases rank_eq_3 hc.symm with ⟨_, _, _, rfl⟩ | ⟨_, _, _, _, _, _, _, _, _, rfl⟩
    · simp only [cmpN_xfun]; exact then_tr (tr_bytes _ _ _) (then_tr (tr_bytes _ _ _) (tr_nat _ _ _))
    · simp only [cmpN_xfun_ifun]; constructor <;> simp
  | xfun_ifun | ifun_xfun =>
    rcases rank_eq_3 hc.symm with ⟨_, _, _, rfl⟩ | ⟨_, _, _, _, _, _, _, _, _, rfl⟩ <;>
      simp only [cmpN_xfun_ifun, cmpN_ifun_xfun] <;> constructor <;> simp
  | ifun _ _ _ _ _ _ _ _ fr _ _ _ _ _ _ _ _ fr2 ih =>
    rcases rank_eq_3 hc.symm with ⟨_, _, _, rfl⟩ | ⟨_, _, _, _, _, _, _, _, fr3, rfl⟩
    · simp only [cmpN_ifun_xfun]; constructor <;> simp
    · simp only [NF] at na nb nc
      simp only [cmpN_ifun]
      exact then_tr (tr_bytes _ _ _) (then_tr (tr_nat _ _ _) (then_tr (tr_nat _ _ _) (then_tr (tr_nat _ _ _)
        (then_tr (tr_bytes _ _ _) (then_tr (tr_pid _ _ _) (zipLex_tr _ _ _ (elems_ih ih na nb nc)))))))
  | port =>
    obtain ⟨_, _, _, _, rfl⟩ := rank_eq_4 hc.symm
    simp only [cmpN_port]; exact then_tr (tr_bytes _ _ _) (then_tr (tr_nat _ _ _) (tr_nat _ _ _))
  | pid p q =>
    obtain ⟨r, rfl⟩ := rank_eq_5 hc.symm
    simp only [cmpN_pid]; exact tr_pid _ _ _
  | tuple x y ih =>
    obtain ⟨z, rfl⟩ := rank_eq_6 hc.symm
    simp only [NF] at na nb nc
    simp only [cmpN_tuple]
    refine then_tr' (tr_nat _ _ _) (fun h1 h2 => ?_)
    exact zipEq_tr x y z (Nat.compare_eq_eq.mp h1) (Nat.compare_eq_eq.mp h2) (elems_ih ih na nb nc)
  | map x y ihk ihv =>
    obtain ⟨z, rfl⟩ := rank_eq_7 hc.symm
    simp only [NF] at na nb nc
    simp only [cmpN_map]
    refine then_tr' (tr_nat _ _ _) (fun h1 h2 => ?_)
    have l1 := Nat.compare_eq_eq.mp h1
    have l2 := Nat.compare_eq_eq.mp h2
    exact then_tr
      (zipEq_tr _ _ _ (by simp [l1]) (by simp [l2]) (elems_ih ihk (NFL_fst na) (NFL_fst nb) (NFL_fst nc)))
      (zipEq_tr _ _ _ (by simp [l1]) (by simp [l2]) (elems_ih ihv (NFL_snd na) (NFL_snd nb) (NFL_snd nc)))
  | list a b ha hb ihe iht =>
    have hc : rank c = 8 := by omega
    rw [cmpN_cells a b ha hb, cmpN_cells b c hb hc, cmpN_cells a c ha hc]
    obtain ⟨ea, oa, ta⟩ := cells_NF ha na
    obtain ⟨eb, ob, tb⟩ := cells_NF hb nb
    obtain ⟨ec, oc, tc⟩ := cells_NF hc nc
    have fa := aOutOf_finer _ oa; have fb := aOutOf_finer _ ob
    have gb := bOutOf_finer _ ob; have gc := bOutOf_finer _ oc
    have ab := cmpTail_finer _ _ oa ob; have bc := cmpTail_finer _ _ ob oc; have ac := cmpTail_finer _ _ oa oc
    have ka := tcode_ne (cells a).2; have kb := tcode_ne (cells b).2; have kc := tcode_ne (cells c).2
    -- a cons cell has code 17, no tail has: wherever a cell is involved the codes decide
    refine zip_tr (tail_tr _ _ _ oa ob oc fun t u w h1 h2 h3 =>
        tr_of_rank t u w (iht t u h1 h2 w (ta t h1) (tb u h2) (tc w h3)))
      (tr_of_finer ab fb fa fun _ h => absurd h kb) (tr_of_finer fa gc ac fun h _ => absurd h ka)
      (fun o => tr_of_finer fa (finer_same o 17) fa fun h _ => absurd h ka)
      (tr_of_finer gb bc gc fun h _ => absurd h.symm kb)
      (fun o => tr_of_finer gb fb (finer_same o 17) fun h _ => absurd h.symm kb)
      (fun o => tr_of_finer (finer_same o 17) gc gc fun _ h => absurd h.symm kc) _ _ _ (elems_ih ihe ea eb ec)
  | bits a b ha hb =>
    have hc : rank c = 9 := by omega
    rw [cmpN_bits a b ha hb, cmpN_bits b c hb hc, cmpN_bits a c ha hc]
    exact then_tr (tr_bytes _ _ _) (tr_nat _ _ _)

namespace Term

theorem cmp_tr (a b c : Term) (ha : WFo a) (hb : WFo b) (hc : WFo c) : Tr3 (cmp a b) (cmp b c) (cmp a c) :=
  cmpN_tr (norm a) (norm b) (norm c) (NF_norm a ha) (NF_norm b hb) (NF_norm c hc)

theorem cmp_trans_lt_lt {a b c : Term} (ha : WFo a) (hb : WFo b) (hc : WFo c) :
    cmp a b = .lt → cmp b c = .lt → cmp a c = .lt := (cmp_tr a b c ha hb hc).ll
theorem cmp_trans_lt_eq {a b c : Term} (ha : WFo a) (hb : WFo b) (hc : WFo c) :
    cmp a b = .lt → cmp b c = .eq → cmp a c = .lt := (cmp_tr a b c ha hb hc).le
theorem cmp_trans_eq_lt {a b c : Term} (ha : WFo a) (hb : WFo b) (hc : WFo c) :
    cmp a b = .eq → cmp b c = .lt → cmp a c = .lt := (cmp_tr a b c ha hb hc).el
theorem cmp_trans_eq_eq {a b c : Term} (ha : WFo a) (hb : WFo b) (hc : WFo c) :
    cmp a b = .eq → cmp b c = .eq → cmp a c = .eq := (cmp_tr a b c ha hb hc).ee

theorem cmp_trans_le {a b c : Term} (ha : WFo a) (hb : WFo b) (hc : WFo c)
    (h1 : cmp a b ≠ .gt) (h2 : cmp b c ≠ .gt) : cmp a c ≠ .gt := by
  have t := cmp_tr a b c ha hb hc
  cases h : cmp a b <;> cases h' : cmp b c <;> first | exact absurd h h1 | exact absurd h' h2 | skip
  · rw [t.ll h h']; simp
  · rw [t.le h h']; simp
  · rw [t.el h h']; simp
  · rw [t.ee h h']; simp

end Term
end Edp
