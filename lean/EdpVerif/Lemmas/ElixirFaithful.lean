import EdpVerif.Lemmas.ElixirTerms
import EdpVerif.Spec.Elixir
/-!
C20: what a successful `from_term` says about the term (field readers answer with the integer the term holds and
only when it fits the field's type), and the checked constructors against the calendar oracle.
-/
namespace Edp.Ex
open Edp

theorem intIn_some (lo hi : Int) (t : Term) (i : Int) :
    intIn lo hi t = some i ↔ (intOf t = some i ∧ lo ≤ i ∧ i ≤ hi) := by
  unfold intIn
  cases intOf t with
  | none => simp
  | some j =>
    simp only [Option.bind_some, Option.some.injEq]
    split <;> rename_i hj
    · rw [Option.some.injEq]; exact ⟨fun e => e ▸ ⟨rfl, hj⟩, fun e => e.1⟩
    · exact ⟨nofun, fun ⟨e, h⟩ => absurd (e ▸ h) hj⟩

theorem fldWith_some {lo hi : Int} {m : List (Term × Term)} {k : Bytes} {v : Int}
    (h : fldWith (intIn lo hi) m k = some v) : (fld m k).bind intOf = some v ∧ lo ≤ v ∧ v ≤ hi := by
  unfold fldWith at h
  cases hf : fld m k with
  | none => simp [hf] at h
  | some t =>
    simp only [hf, Option.bind_some] at h ⊢
    exact (intIn_some lo hi t v).mp h

/-- what the `microsecond` reader accepted: a 2-tuple of integers that fit `u32` and `u8`, or — only when the map has no
such entry at all — the default `{0, 0}` -/
def UsFaithful (m : List (Term × Term)) (uv up : Int) : Prop :=
  (∃ a b, fld m kMicrosecond = some (.tuple [a, b]) ∧ intOf a = some uv ∧ intOf b = some up ∧ InU32 uv ∧ InU8 up) ∨
  (fld m kMicrosecond = none ∧ uv = 0 ∧ up = 0)

theorem UsFaithful.wf {m : List (Term × Term)} {uv up : Int} : UsFaithful m uv up → InU32 uv ∧ InU8 up
  | .inl ⟨_, _, _, _, _, h⟩ => h
  | .inr ⟨_, e1, e2⟩ => by subst e1 e2; decide

theorem usPart_some {m : List (Term × Term)} {uv up : Int} (h : usPart m = some (uv, up)) : UsFaithful m uv up := by
  unfold usPart at h
  split at h
  · rename_i hf
    simp only [Option.some.injEq, Prod.mk.injEq] at h
    exact .inr ⟨hf, h.1.symm, h.2.symm⟩
  · rename_i a b hf
    split at h
    · rename_i h1 h2
      cases h
      have b1 := (intIn_some _ _ _ _).mp h1
      have b2 := (intIn_some _ _ _ _).mp h2
      exact .inl ⟨a, b, hf, b1.1, b2.1, b1.2, b2.2⟩
    · cases h
  · cases h

theorem tmod_zero_iff_dvd (y n : Int) : (Int.tmod y n == 0) = decide (n ∣ y) := by
  by_cases h : n ∣ y
  · simp [h, Int.tmod_eq_zero_of_dvd h]
  · have : Int.tmod y n ≠ 0 := fun e => h (Int.dvd_of_tmod_eq_zero e)
    simp [h, this]

theorem isLeapYear_spec (y : Int) : isLeapYear y = decide (Spec.Cal.leap y) := by
  unfold isLeapYear Spec.Cal.leap
  have e4 := tmod_zero_iff_dvd y 4
  have e100 := tmod_zero_iff_dvd y 100
  have e400 := tmod_zero_iff_dvd y 400
  rw [bne, e4, e100, e400]
  by_cases h4 : (4 : Int) ∣ y <;> by_cases h100 : (100 : Int) ∣ y <;> by_cases h400 : (400 : Int) ∣ y <;> simp [h4, h100, h400]

/-- the day table of `try_new` is `Calendar.ISO.days_in_month` -/
theorem maxDay_eq (y mo : Int) (h : 1 ≤ mo ∧ mo ≤ 12) : maxDay y mo = some (Spec.Cal.daysIn y mo) := by
  unfold maxDay Spec.Cal.daysIn
  rw [isLeapYear_spec]
  have : mo = 1 ∨ mo = 2 ∨ mo = 3 ∨ mo = 4 ∨ mo = 5 ∨ mo = 6 ∨ mo = 7 ∨ mo = 8 ∨ mo = 9 ∨ mo = 10 ∨ mo = 11 ∨ mo = 12 := by
    omega
  rcases this with rfl | rfl | rfl | rfl | rfl | rfl | rfl | rfl | rfl | rfl | rfl | rfl <;> first | rfl | simp

/-- `try_new` accepts exactly the dates of the proleptic Gregorian calendar, with the fields it was given -/
theorem date_tryNew_spec (y mo d : Int) :
    Date.tryNew y mo d = if Spec.Cal.validDate y mo d then some ⟨y, mo, d⟩ else none := by
  unfold Date.tryNew Gen.C20_MONTH_LO Gen.C20_MONTH_HI
  by_cases hv : Spec.Cal.validDate y mo d
  · rw [if_pos hv]
    unfold Spec.Cal.validDate at hv
    rw [if_neg (by omega), maxDay_eq y mo ⟨hv.1, hv.2.1⟩]
    exact if_neg (by omega)
  · rw [if_neg hv]
    unfold Spec.Cal.validDate at hv
    by_cases h1 : 1 ≤ mo ∧ mo ≤ 12
    · rw [if_neg (by omega), maxDay_eq y mo h1]
      exact if_pos (by omega)
    · rw [if_pos h1]

/-- `ElixirTime::try_new` on arguments of its parameter types (`u8`, `u32`): exactly the valid times -/
theorem time_tryNew_spec (h mi s us p : Int) (h0 : 0 ≤ h) (m0 : 0 ≤ mi) (s0 : 0 ≤ s) (u0 : 0 ≤ us) (p0 : 0 ≤ p) :
    Time.tryNew h mi s us p = if Spec.Cal.validTime h mi s us p then some ⟨h, mi, s, us, p⟩ else none := by
  unfold Time.tryNew Gen.C20_HOUR Gen.C20_MINUTE Gen.C20_SECOND Gen.C20_MICRO Gen.C20_PRECISION
  by_cases hv : Spec.Cal.validTime h mi s us p
  · rw [if_pos hv]
    unfold Spec.Cal.validTime at hv
    rw [if_neg (by omega), if_neg (by omega), if_neg (by omega)]
  · rw [if_neg hv]
    unfold Spec.Cal.validTime at hv
    split
    · rfl
    · split
      · rfl
      · rw [if_pos (by omega)]

end Edp.Ex
