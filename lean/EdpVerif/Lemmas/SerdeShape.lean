import EdpVerif.Spec.SerdeShape
/-! C15, the error clause: for every constructor of the type universe, the term shapes `from_term::<T>` can accept at all.
A term of another shape is an error — never a value made up from it. -/
namespace Edp.SerdeShape
open Edp Edp.Serde

theorem deL_short : ∀ (ts : List Ty) (l : List Term), l.length < ts.length → deL ts l = .error .err
  | [], l, h => by simp at h
  | _ :: _, [], _ => by simp [deL]
  | ty :: ts, x :: xs, h => by
    have ih := deL_short ts xs (by simpa using h)
    simp only [deL]
    cases de ty x with
    | error e => cases e; rfl
    | ok v => simp [ih]

theorem deVariant_unknown (en a : Bytes) : ∀ (vs : List (Bytes × Ty)) (rest : List Term),
    (vs.any fun v => v.1 == a) = false → deVariant en a vs rest = .error .err
  | [], _, _ => by simp [deVariant]
  | (vn, sh) :: vs, rest, h => by
    simp only [List.any_cons, Bool.or_eq_false_iff, beq_eq_false_iff_ne, ne_eq] at h
    simp only [deVariant, h.1, ↓reduceIte]
    exact deVariant_unknown en a vs rest h.2

/-- THE error clause, for every constructor of the universe and every term: a term that does not have one of the shapes
the type is written as is an error. -/
theorem wrong_shape_is_error : ∀ (ty : Ty) (t : Term), shapeOk ty t = false → de ty t = .error .err
  | .int k, t, h => by
    cases t with
    | int _ | big _ _ => cases h
    -- for the other constructors `de` has no arm: a computation
    | _ => rfl
  | .f32, t, h | .f64, t, h => by
    cases t with
    | float _ => cases h
    | _ => rfl
  | .bool, t, h | .unit, t, h | .unitStruct _, t, h => by
    cases t with
    | atom a =>
      simp only [shapeOk, Bool.or_eq_false_iff, beq_eq_false_iff_ne, ne_eq] at h
      simp [de, h]
    | _ => rfl
  | .char, t, h => by
    cases t with
    | str _ | bin _ => cases h
    | _ => rfl
  | .string, t, h => by
    cases t with
    | str _ | bin _ | atom _ => cases h
    | _ => rfl
  | .bytes, t, h => by
    cases t with
    | bin _ => cases h
    | _ => rfl
  | .option ty, t, h => by
    simp only [shapeOk, Bool.or_eq_false_iff] at h
    simp [de, h.1, wrong_shape_is_error ty t h.2]
  | .tuple ts, t, h | .tupleStruct _ ts, t, h => by
    cases t with
    | tuple l =>
      simp only [shapeOk, decide_eq_false_iff_not, Nat.not_le] at h
      simp [de, deL_short ts l h]
    | _ => rfl
  | .seq ty, t, h => by
    cases t with
    | list _ | nil => cases h
    | _ => rfl
  | .map _ _, t, h | .struct _ _, t, h | .exStruct _ _, t, h => by
    cases t with
    | map _ => cases h
    | _ => rfl
  | .newtype n ty, t, h => by
    simp only [shapeOk] at h
    simp [de, wrong_shape_is_error ty t h]
  | .enum en vs, t, h => by
    cases t with
    | atom a =>
      simp only [shapeOk] at h
      simp [de, deVariant_unknown en a vs [] h]
    | tuple l =>
      cases l with
      | nil => rfl
      | cons x xs =>
        simp only [shapeOk, namesVariant] at h
        simp only [de]
        cases hs : deStr x with
        | error e => cases e; rfl
        | ok a =>
          simp only [hs] at h
          simp [deVariant_unknown en a vs xs h]
    | _ => rfl

end Edp.SerdeShape
