import EdpVerif.Impl.Receiver
import EdpVerif.Impl.Recv
/-!
`Receiver.classify` (property C19) and `Recv.recvRH` (property C06) are two models of ONE Rust function,
`Connection::receive_message_from_read_half` (connection.rs, the part after the frame body has been read).
They must agree; this file states it. `Recv.Res` has one error class, `RxErr` keeps the
variants apart, and an empty body is `none` there (never reached: a zero length is a tick) and `Error::InvalidStateMessage`
here.
-/
namespace Edp.Receiver
open Edp

theorem decodeTrailing_eq_recv (x : Ext) (bs : Bytes) : decodeTrailing x bs = Recv.decodeTrailing x bs := by
  cases bs with
  | nil => rfl
  | cons v r => rfl

/-- the coarser result type of `Impl/Recv.lean` -/
def toRecvRes : Except RxErr Received → Option Recv.Res
  | .ok (m, p) => some (.ok m p)
  | .error .empty => none
  | .error .panic => some .panic
  | .error _ => some .err

theorem classify_eq_recvRH (x : Ext) (tbl : Control.Table) (body : Bytes) :
    toRecvRes (classify x tbl body) = Recv.recvRH x tbl body := by
  cases body with
  | nil => rfl
  | cons b r =>
    unfold classify Recv.recvRH
    by_cases hb : b = 112
    · subst hb
      simp only [ne_eq, not_true_eq_false, if_false, bne_self_eq_false, Bool.false_eq_true]
      rw [← decodeTrailing_eq_recv]
      cases hd : decodeTrailing x r with
      | error e => cases e <;> rfl
      | ok v =>
        obtain ⟨ct, rest⟩ := v
        simp only
        cases hm : Control.parse tbl ct with
        | error e => cases e <;> rfl
        | ok m =>
          simp only
          cases rest with
          | nil => rfl
          | cons a t =>
            simp only
            rw [← decodeTrailing_eq_recv]
            cases hp : decodeTrailing x (a :: t) with
            | error e => cases e <;> rfl
            | ok w =>
              obtain ⟨p, rr⟩ := w
              cases rr <;> rfl
    · have : (b != 112) = true := by simpa using hb
      simp [hb, this, toRecvRes]

end Edp.Receiver
