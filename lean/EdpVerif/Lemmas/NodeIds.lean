import EdpVerif.Impl.NodeIds
import EdpVerif.Lemmas.PidAlloc
/-! The identifiers of a `Node` (`Impl/NodeIds.lean`): the creation every identifier carries, and the pids of a history as
one row of allocations. -/
namespace Edp.Impl.NodeIds
open Edp.Impl

/-- both holders of the creation agree -/
def Sync (s : NSt) : Prop := s.alloc.creation = s.creation

theorem step_sync (s : NSt) (op : Op) (h : Sync s) : Sync (step s op).2 := by
  cases op with
  | start e =>
    simp only [step]
    split
    · exact h
    · cases e <;> simp_all [Sync, PidAlloc.Sh.setCreation]
  | spawn =>
    simp only [step]
    split
    · exact h
    · simpa [Sync, (PidAlloc.alloc_creation _).1] using h
  | allocate => simpa [step, Sync, (PidAlloc.alloc_creation _).1] using h
  | makeRef => simpa [step, Sync] using h
  | unlink => simpa [step, Sync] using h

/-- the creation an identifier made by this call carries, if the call makes one -/
def Out.creation? : Out → Option Nat
  | .pid (.ok p) => some p.creation
  | .ref r => some r.creation
  | _ => none

theorem pid_creation (a : PidAlloc.Sh) (c : Nat) (hc : (Out.pid (PidAlloc.alloc a).1).creation? = some c) :
    c = a.creation := by
  cases hr : (PidAlloc.alloc a).1 <;> simp only [hr, Out.creation?, Option.some.injEq, reduceCtorEq] at hc
  rw [← hc, (PidAlloc.alloc_creation a).2 _ hr]

theorem step_out_creation (s : NSt) (op : Op) (h : Sync s) (c : Nat) (hc : (step s op).1.creation? = some c) :
    c = s.creation := by
  cases op with
  | start e =>
    simp only [step] at hc
    split at hc
    · simp [Out.creation?] at hc
    · cases e <;> simp [Out.creation?] at hc
  | spawn =>
    simp only [step] at hc
    split at hc
    · simp [Out.creation?] at hc
    · exact (pid_creation _ c hc).trans h
  | allocate => exact (pid_creation _ c hc).trans h
  | makeRef => simp only [step, Out.creation?, Option.some.injEq] at hc; exact hc.symm
  | unlink => simp [step, Out.creation?] at hc

theorem step_inForce (s : NSt) (op : Op) (r : List Op) :
    inForce s.started s.creation (op :: r) = inForce (step s op).2.started (step s op).2.creation r := by
  cases op with
  | start e =>
    simp only [step, inForce]
    split
    · rename_i hs; simp [hs]
    · cases e <;> simp
  | spawn =>
    simp only [step, inForce]
    split <;> rfl
  | allocate => rfl
  | makeRef => rfl
  | unlink => rfl

theorem run_inv (pre : List Op) : ∀ (s : NSt), Sync s →
    Sync (run s pre).2 ∧ (run s pre).2.creation = inForce s.started s.creation pre := by
  induction pre with
  | nil => intro s h; exact ⟨h, rfl⟩
  | cons op r ih =>
    intro s h
    have e : (run s (op :: r)).2 = (run (step s op).2 r).2 := rfl
    rw [e, step_inForce]
    exact ih _ (step_sync s op h)

theorem inForce_started (c : Nat) (r : List Op) : inForce true c r = c := by
  induction r with
  | nil => rfl
  | cons op r ih => cases op <;> simp [inForce, ih]

/-- the (id, serial) of every `allocate()` a history performs, in order (`none` for a call that failed) -/
def pidKeys : List Out → List (Option (Nat × Nat))
  | [] => []
  | .pid r :: l => r.key :: pidKeys l
  | _ :: l => pidKeys l

theorem pidKeys_cons (o : Out) (l : List Out) : pidKeys (o :: l) = pidKeys [o] ++ pidKeys l := by
  cases o <;> rfl

/-- a call is an `allocate()`, or it makes no pid and leaves the allocator alone up to its creation -/
theorem step_alloc (s : NSt) (op : Op) :
    ((step s op).1 = .pid (PidAlloc.alloc s.alloc).1 ∧ (step s op).2.alloc = (PidAlloc.alloc s.alloc).2) ∨
    (pidKeys [(step s op).1] = [] ∧ ∃ c, (step s op).2.alloc = s.alloc.setCreation c) := by
  have keep : ∃ c, s.alloc = s.alloc.setCreation c := ⟨s.alloc.creation, rfl⟩
  cases op with
  | start e =>
    simp only [step]
    split
    · exact .inr ⟨rfl, keep⟩
    · cases e
      · exact .inr ⟨rfl, keep⟩
      · exact .inr ⟨rfl, _, rfl⟩
  | spawn =>
    simp only [step]
    split
    · exact .inr ⟨rfl, keep⟩
    · exact .inl ⟨rfl, rfl⟩
  | allocate => exact .inl ⟨rfl, rfl⟩
  | makeRef => exact .inr ⟨rfl, keep⟩
  | unlink => exact .inr ⟨rfl, keep⟩

theorem run_pidKeys_row (ops : List Op) : ∀ (s : NSt),
    ∃ n, pidKeys (run s ops).1 = (List.range n).map (fun i => (PidAlloc.seqAlloc s.alloc i).key) := by
  induction ops with
  | nil => intro s; exact ⟨0, rfl⟩
  | cons op r ih =>
    intro s
    obtain ⟨n, hn⟩ := ih (step s op).2
    show ∃ n, pidKeys ((step s op).1 :: (run (step s op).2 r).1) = _
    rw [pidKeys_cons, hn]
    rcases step_alloc s op with ⟨ho, ha⟩ | ⟨ho, c, ha⟩ <;> rw [ho, ha]
    · -- the allocation is the first of the row, the others are the row from the state after it
      refine ⟨n + 1, ?_⟩
      rw [List.range_succ_eq_map, List.map_cons, List.map_map]
      simp only [← PidAlloc.seqAlloc_shift]
      rfl
    · exact ⟨n, by simp only [PidAlloc.seqAlloc_setCreation_key, List.nil_append]⟩

/-- **the numbers a node hands out do not depend on `start`**: the allocations of any history are those of one plain row
of allocations from the allocator's initial counters — `start` changes the creation and nothing else -/
theorem run_pidKeys (ops : List Op) (s : NSt) :
    pidKeys (run s ops).1 = (List.range (pidKeys (run s ops).1).length).map (fun i => (PidAlloc.seqAlloc s.alloc i).key) := by
  obtain ⟨n, h⟩ := run_pidKeys_row ops s
  rw [h, List.length_map, List.length_range]

end Edp.Impl.NodeIds
