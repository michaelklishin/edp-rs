import EdpVerif.Lemmas.Refine
/-! Existence form of the refinement: what the decoder accepts, the spec reader accepts with the same value —
for all tags except MAP_EXT (116), NEW_FUN_EXT (112) and COMPRESSED (80); see Props/C03.lean. -/
namespace Edp
open Term

mutual
/-- floats finite, no map, no internal fun — the decoded terms for which the existence-form refinement is proved -/
def plainT : Term → Bool
  | .float b => finiteF b
  | .list l => plainL l
  | .ilist l t => plainL l && plainT t
  | .tuple l => plainL l
  | .map _ => false
  | .ifun _ _ _ _ _ _ _ _ _ => false
  | _ => true
def plainL : List Term → Bool
  | [] => true
  | t :: ts => plainT t && plainL ts
end

/-- where the decoder succeeds with a result that passes `G`, the reader succeeds at the same byte with the image of that
result under `f` -/
abbrev Rf {α β : Type} (G : α → Prop) (f : α → β) := Rel G (fun y x => y = f x) False True

namespace Rf
variable {α β : Type} {G : α → Prop} {f : α → β} {a : Except DErr (α × Bytes)} {b : Option (β × Bytes)}

theorem intro (h : ∀ x r, a = .ok (x, r) → G x → b = some (f x, r)) : Rf G f a b := by
  rcases a with e | ⟨x, r⟩
  · exact .errL
  · rcases b with _ | ⟨y, r'⟩
    · exact fun hg => nomatch h x r rfl hg
    · exact fun hg => by cases h x r rfl hg; exact ⟨rfl, rfl⟩

theorem elim {x r} (h : Rf G f a b) (h1 : a = .ok (x, r)) (hp : G x) : b = some (f x, r) := by
  subst h1
  rcases b with _ | ⟨y, r'⟩
  · exact (h hp).elim
  · obtain ⟨rfl, rfl⟩ := h hp; rfl

end Rf

/-- the induction hypothesis at one fuel level (the same fuel on both sides), for a term and for `n` terms -/
def RefT (x : Ext) (cfg : DecCfg) (env : Spec.Env) (fuel : Nat) : Prop :=
  ∀ d bs, Rf (plainT · = true) den (dec x cfg fuel d bs) (Spec.parse env fuel bs)
def RefN (x : Ext) (cfg : DecCfg) (env : Spec.Env) (fuel : Nat) : Prop :=
  ∀ d n bs, Rf (plainL · = true) denL (decN x cfg fuel d n bs) (Spec.parseN env fuel n bs)

namespace Rf
variable {x : Ext} {cfg : DecCfg} {env : Spec.Env} {fuel : Nat} {α β : Type} {G : α → Prop} {f : α → β}
  (ih : RefT x cfg env fuel) {d : Nat} {bs : Bytes}
include ih

theorem node {F : Bytes → Bytes → Except DErr (α × Bytes)} {F' : List Nat → Bytes → Option (β × Bytes)}
    (h : ∀ n r, Rf G f (F n r) (F' (cps n) r)) :
    Rf G f (match dec x cfg fuel d bs with | .ok (.atom n, r) => F n r | .ok _ => .error .err | .error e => .error e)
      (match Spec.parse env fuel bs with | some (.atom n, r) => F' n r | _ => none) := by
  refine .intro fun _ _ h1 hp => ?_
  split at h1
  · rename_i n r0 heq
    rw [(ih _ _).elim heq rfl]; exact (h _ _).elim h1 hp
  · cases h1
  · cases h1

theorem int {F : Int → Bytes → Except DErr (α × Bytes)} {F' : Int → Bytes → Option (β × Bytes)}
    (h : ∀ n r, Rf G f (F n r) (F' n r)) :
    Rf G f (match dec x cfg fuel d bs with | .ok (.int n, r) => F n r | .ok _ => .error .err | .error e => .error e)
      (match Spec.parse env fuel bs with | some (.int n, r) => F' n r | _ => none) := by
  refine .intro fun _ _ h1 hp => ?_
  split at h1
  · rename_i n r0 heq
    rw [(ih _ _).elim heq rfl]; exact (h _ _).elim h1 hp
  · cases h1
  · cases h1

theorem tail {ts : List Term} :
    Rf (plainT · = true) den (match dec x cfg fuel d bs with
        | .error e => .error e
        | .ok (.nil, r) => .ok (.list ts, r)
        | .ok (t, r) => .ok (.ilist ts t, r))
      ((Spec.parse env fuel bs).map fun (t, r) => (Value.mkList (denL ts) t, r)) := by
  refine .intro fun _ _ h1 hp => ?_
  split at h1
  · cases h1
  · rename_i r0 heq; cases h1; rw [(ih _ _).elim heq rfl]; rfl
  · rename_i t r0 _ heq; cases h1
    rw [(ih _ _).elim heq (by simp only [plainT, Bool.and_eq_true] at hp; exact hp.2)]; rfl

theorem localExt {L : Bytes → Bytes} :
    Rf (plainT · = true) den (match dec x cfg fuel d bs with
        | .error e => .error e
        | .ok (t, r) => match t with
          | .pid p => .ok (.pid { p with loc := some (L r) }, r)
          | .port n i c _ => .ok (.port n i c (some (L r)), r)
          | .ref n c ids _ => .ok (.ref n c ids (some (L r)), r)
          | t => .ok (t, r))
      (Spec.parse env fuel bs) := by
  refine .intro fun _ _ h1 hp => ?_
  split at h1
  · cases h1
  · rename_i t r0 heq
    split at h1 <;> cases h1
    · exact ((ih _ _).elim heq rfl).trans rfl
    · exact ((ih _ _).elim heq rfl).trans rfl
    · exact ((ih _ _).elim heq rfl).trans rfl
    · exact (ih _ _).elim heq hp


theorem list (ihN : RefN x cfg env fuel) {n : Nat} :
    Rf (plainT · = true) den (match decN x cfg fuel d n bs with
        | .error e => .error e
        | .ok (l, r) => match dec x cfg fuel d r with
          | .error e => .error e
          | .ok (.nil, r) => .ok (.list l, r)
          | .ok (t, r) => .ok (.ilist l t, r))
      (match Spec.parseN env fuel n bs with
        | some (l, r) => (Spec.parse env fuel r).map fun (t, r) => (Value.mkList l t, r)
        | none => none) := by
  refine .intro fun _ _ h1 hp => ?_
  split at h1
  · cases h1
  · rename_i l r1 heq
    have hl : plainL l = true := by
      split at h1 <;> cases h1
      · exact hp
      · exact (Bool.and_eq_true _ _ ▸ hp).1
    rw [(ihN _ _ _).elim heq hl]; exact (tail ih).elim h1 hp

end Rf

namespace Rf

/-- NEW_FLOAT_EXT: the reader refuses an exponent field of all ones (infinity, NaN: `finiteF`), the decoder does not -/
theorem finite (v : Nat) (r : Bytes) :
    Rf (plainT · = true) den (.ok (.float v, r)) (if v / 2 ^ 52 % 2048 == 2047 then none else some (.float v, r)) := by
  refine .intro fun _ _ h1 hp => ?_; cases h1
  simp only [plainT, finiteF, Bool.not_eq_true'] at hp
  simp only [hp, Bool.false_eq_true, if_false]; rfl

theorem utf8 (a r : Bytes) :
    Rf (plainT · = true) den (if validUtf8 a then .ok (.atom a, r) else .error .err)
      ((utf8Decode a).map fun c => (Value.atom c, r)) := by
  refine .intro fun _ _ h1 _ => ?_
  split at h1
  · rename_i hu; cases h1; rw [utf8_cps a hu]; rfl
  · cases h1

theorem floatText {x : Ext} (hpf : ∀ f b, x.parseFloat f = some b → Spec.parseFloatText f = some b) (f r : Bytes) :
    Rf (plainT · = true) den (match x.parseFloat f with | some b => .ok (.float b, r) | none => .error .err)
      ((Spec.parseFloatText f).map fun b => (Value.float b, r)) := by
  refine .intro fun _ _ h1 _ => ?_
  cases hp : x.parseFloat f with
  | none => rw [hp] at h1; cases h1
  | some b => rw [hp] at h1; cases h1; rw [hpf f b hp]; rfl

theorem cacheRef {cfg : DecCfg} {env : Spec.Env}
    (hcache : ∀ i a, cfg.cache.lookup i = some a → env.refs[i]? = some (cps a)) (i : Nat) (r : Bytes) :
    Rf (plainT · = true) den (match cfg.cache.lookup i with | some a => .ok (.atom a, r) | none => .error .err)
      (match env.refs[i]? with | some a => some (.atom a, r) | none => none) := by
  refine .intro fun _ _ h1 _ => ?_
  cases hl : cfg.cache.lookup i with
  | none => rw [hl] at h1; cases h1
  | some a => rw [hl] at h1; cases h1; rw [hcache i a hl]; rfl

/-- MAP_EXT: the result is a map, which the guard excludes -/
theorem mapVoid {a : Except DErr (List (Term × Term) × Bytes)} {b : Option (Value × Bytes)} :
    Rf (plainT · = true) den (match a with | .ok (m, r) => .ok (.map m, r) | .error e => .error e) b := by
  refine .intro fun _ _ h1 hp => ?_; split at h1 <;> cases h1; cases hp

end Rf

/-- what the decoder accepts, the spec reader accepts at the same fuel, with the value the decoded term denotes and the
same remaining bytes — for every byte string whose decoded term is `plainT` (finite floats, no map, no internal fun),
when nothing inflates (`hz`).  `hpf`: the float-text parsers agree wherever Rust's accepts. -/
theorem dec_refines (x : Ext) (cfg : DecCfg) (env : Spec.Env)
    (hpf : ∀ f b, x.parseFloat f = some b → Spec.parseFloatText f = some b)
    (hz : ∀ z, x.inflate z = none)
    (hcache : ∀ i a, cfg.cache.lookup i = some a → env.refs[i]? = some (cps a)) :
    ∀ fuel, RefT x cfg env fuel ∧ RefN x cfg env fuel := by
  intro fuel
  induction fuel with
  | zero =>
    refine ⟨fun d bs => by rw [dec.eq_1]; exact .errL, fun d n bs => ?_⟩
    · cases n with
      | zero => simp only [decN, Spec.parseN]; exact .pure
      | succ n => rw [decN]; exact .errL
  | succ fuel ihh =>
    obtain ⟨ih, ihN⟩ := ihh
    refine ⟨fun d bs => .intro fun t r h1 hp => ?_, fun d n bs => ?_⟩
    · cases bs with
      | nil => simp [dec] at h1
      | cons tag bs =>
      induction tag using decTags_cases
      case other hn => rw [dec_other x cfg fuel d bs hn] at h1; cases h1
      all_goals (open_dec h1; refine Rf.elim (G := (plainT · = true)) (f := den) ?_ h1 hp; conv => arg 4; whnf)
      · -- 97 SMALL_INTEGER_EXT
        exact .rdM' 1
      · -- 98 INTEGER_EXT
        exact .rdM' 4 fun a _ => den_i32 a
      · -- 99 FLOAT_EXT
        exact .takeB 31 fun f r => .guardL (Rf.floatText hpf f r)
      · -- 70 NEW_FLOAT_EXT
        exact .rdB' 8 Rf.finite
      · -- 100 ATOM_EXT
        exact .rdB 2 fun n _ => .guardL (.takeM n fun a _ => den_latin1 a)
      · -- 118 ATOM_UTF8_EXT
        exact .rdB 2 fun n _ => .guardL (.takeB n Rf.utf8)
      · -- 119 SMALL_ATOM_UTF8_EXT
        exact .rdB 1 fun n _ => .guardL (.takeB n Rf.utf8)
      · -- 115 SMALL_ATOM_EXT
        exact .rdB 1 fun n _ => .guardL (.takeM n fun a _ => den_latin1 a)
      · -- 104 SMALL_TUPLE_EXT
        exact .rdB 1 fun n r => .seqM' (ihN _ _ _) (fun _ _ _ h => h ▸ rfl) fun _ hp => hp
      · -- 105 LARGE_TUPLE_EXT
        exact .rdB 4 fun n r => .guardL (.seqM' (ihN _ _ _) (fun _ _ _ h => h ▸ rfl) fun _ hp => hp)
      · -- 106 NIL_EXT
        exact .pure
      · -- 107 STRING_EXT
        exact .rdB 2 fun n r => .takeM n fun s _ => den_string s
      · -- 108 LIST_EXT
        exact .rdB 4 fun n r => .guardL (Rf.list ih ihN)
      · -- 109 BINARY_EXT
        exact .rdB 4 fun n r => .guardL (.takeM n)
      · -- 77 BIT_BINARY_EXT
        exact .rdB 4 fun n r => .guardL (.rdB 1 fun _ _ => .guard2 (by simp) (.takeM n))
      · -- 110 SMALL_BIG_EXT
        exact .rdB 1 fun n _ => .rdB 1 fun s _ => .takeM n fun d _ => den_big s d
      · -- 111 LARGE_BIG_EXT
        exact .rdB 4 fun n _ => .rdB 1 fun s _ => .takeM n fun d _ => den_big s d
      · -- 116 MAP_EXT
        exact .rdB 4 fun n r => .guardL Rf.mapVoid
      · -- 88 NEW_PID_EXT
        exact Rf.node ih fun _ _ => .rdB 4 fun _ _ => .rdB 4 fun _ _ => .rdM 4
      · -- 103 PID_EXT
        exact Rf.node ih fun _ _ => .rdB 4 fun _ _ => .rdB 4 fun _ _ => .rdM 1
      · -- 120 V4_PORT_EXT
        exact Rf.node ih fun _ _ => .rdB 8 fun _ _ => .rdM 4
      · -- 89 NEW_PORT_EXT
        exact Rf.node ih fun _ _ => .rdB 4 fun _ _ => .rdM 4
      · -- 102 PORT_EXT
        exact Rf.node ih fun _ _ => .rdB 4 fun _ _ => .rdM 1
      · -- 90 NEWER_REFERENCE_EXT
        exact .rdB 2 fun n _ => Rf.node ih fun _ _ => .rdB 4 fun _ _ => .wordsM n
      · -- 114 NEW_REFERENCE_EXT
        exact .rdB 2 fun n _ => Rf.node ih fun _ _ => .rdB 1 fun _ _ => .wordsM n
      · -- 101 REFERENCE_EXT
        exact Rf.node ih fun _ _ => .rdB 4 fun _ _ => .rdM 1
      · -- 113 EXPORT_EXT
        exact Rf.node ih fun _ _ => Rf.node ih fun _ _ => Rf.int ih fun _ _ => .guardB .pure
      · -- 112 NEW_FUN_EXT: every successful branch returns an internal fun, which the guard excludes
        refine .intro fun _ _ h1 hp => ?_
        repeat' split at h1
        all_goals cases h1
        cases hp
      · -- 121 LOCAL_EXT
        exact .rdB 8 fun _ _ => Rf.localExt ih
      · -- 80 COMPRESSED: nothing inflates
        refine .intro fun _ _ h1 _ => ?_
        split at h1
        · cases h1
        · split at h1
          · cases h1
          · simp [hz] at h1
      · -- 82 ATOM_CACHE_REF
        exact .rdB 1 (Rf.cacheRef hcache)
    · cases n with
      | zero => simp only [decN, Spec.parseN]; exact .pure
      | succ n =>
        refine .intro fun _ _ h1 hp => ?_
        simp only [decN] at h1
        simp only [Spec.parseN]
        split at h1
        · cases h1
        · rename_i t1 r1 heq1
          split at h1
          · cases h1
          · rename_i ts2 r2 heq2
            cases h1
            simp only [plainL, Bool.and_eq_true] at hp
            rw [(ih _ _).elim heq1 hp.1]; simp only []; rw [(ihN _ _ _).elim heq2 hp.2]; rfl

end Edp
