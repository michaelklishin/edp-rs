import EdpVerif.Impl.Convert
import EdpVerif.Lemmas.Reencode
/-! The conversions of borrowed.rs (`Impl/Convert.lean`): clones are copies, `to_owned` / `From<&OwnedTerm>` are the structural
image on every tree whose maps are `BTreeMap`s (keys pairwise strictly increasing). -/
namespace Edp

theorem clonePid_id (p : PidF) : clonePid p = p := rfl

mutual
theorem cloneT_id (t : Term) : cloneT t = t := by
  match t with
  | .atom _ | .int _ | .float _ | .bin _ | .bits _ _ | .str _ | .big _ _ | .xfun _ _ _ | .nil | .pid _ | .port _ _ _ _
  | .ref _ _ _ _ => rfl
  | .list l | .tuple l => simp [cloneT, cloneTL_id l]
  | .ilist l t => simp [cloneT, cloneTL_id l, cloneT_id t]
  | .map kvs => simp [cloneT, cloneTKV_id kvs]
  | .ifun a u i nf m oi ou p fr => simp [cloneT, clonePid_id, cloneTL_id fr]
theorem cloneTL_id (l : List Term) : cloneTL l = l := by
  match l with
  | [] => simp [cloneTL]
  | t :: ts => simp [cloneTL, cloneT_id t, cloneTL_id ts]
theorem cloneTKV_id (l : List (Term × Term)) : cloneTKV l = l := by
  match l with
  | [] => simp [cloneTKV]
  | (k, v) :: r => simp [cloneTKV, cloneT_id k, cloneT_id v, cloneTKV_id r]
end

mutual
theorem cloneB_id (t : BTerm) : cloneB t = t := by
  match t with
  | .atom _ _ | .int _ | .float _ | .bin _ _ | .bits _ _ _ | .str _ _ | .big _ _ | .xfun _ _ _ | .nil | .pid _
  | .port _ _ _ _ | .ref _ _ _ _ => rfl
  | .list l | .tuple l => simp [cloneB, cloneBL_id l]
  | .ilist l t => simp [cloneB, cloneBL_id l, cloneB_id t]
  | .map kvs => simp [cloneB, cloneBKV_id kvs]
  | .ifun a u i nf m oi ou p fr => simp [cloneB, clonePid_id, cloneTL_id fr]
theorem cloneBL_id (l : List BTerm) : cloneBL l = l := by
  match l with
  | [] => simp [cloneBL]
  | t :: ts => simp [cloneBL, cloneB_id t, cloneBL_id ts]
theorem cloneBKV_id (l : List (BTerm × BTerm)) : cloneBKV l = l := by
  match l with
  | [] => simp [cloneBKV]
  | (k, v) :: r => simp [cloneBKV, cloneB_id k, cloneB_id v, cloneBKV_id r]
end

mutual
/-- every map of the term that a conversion re-collects has its keys pairwise strictly increasing under `Term.cmp` — the
invariant of `BTreeMap<OwnedTerm, _>`.  The free variables of a fun are not looked at: the conversions clone the box. -/
def btreeSorted : Term → Bool
  | .list l => btreeSortedL l
  | .ilist l t => btreeSortedL l && btreeSorted t
  | .map kvs => btreeSortedKV kvs && pairwiseLt kvs
  | .tuple l => btreeSortedL l
  | _ => true
def btreeSortedL : List Term → Bool
  | [] => true
  | t :: ts => btreeSorted t && btreeSortedL ts
def btreeSortedKV : List (Term × Term) → Bool
  | [] => true
  | (k, v) :: r => btreeSorted k && btreeSorted v && btreeSortedKV r
end

theorem collectT_eq (m l : List (Term × Term)) : collectT m l = insertAll m l := by
  induction l generalizing m with
  | nil => simp [collectT, insertAll]
  | cons kv r ih => obtain ⟨k, v⟩ := kv; simp [collectT, insertAll, ih]

theorem collectT_sorted (kvs : List (Term × Term)) (h : pairwiseLt kvs = true) : collectT [] kvs = kvs := by
  rw [collectT_eq]; exact insertAll_sorted kvs h

theorem erase_mapInsertB (acc : List (BTerm × BTerm)) (k v : BTerm) :
    eraseKV (mapInsertB acc k v) = mapInsert (eraseKV acc) (erase k) (erase v) := by
  induction acc with
  | nil => simp [mapInsertB, mapInsert, eraseKV]
  | cons a acc ih =>
    obtain ⟨k', v'⟩ := a
    simp only [mapInsertB, eraseKV, mapInsert, BTerm.cmp]
    cases Term.cmp (erase k) (erase k') <;> simp [eraseKV, ih]

theorem erase_insertAllB (acc l : List (BTerm × BTerm)) :
    eraseKV (insertAllB acc l) = insertAll (eraseKV acc) (eraseKV l) := by
  induction l generalizing acc with
  | nil => simp [insertAllB, insertAll, eraseKV]
  | cons kv r ih => obtain ⟨k, v⟩ := kv; simp [insertAllB, insertAll, eraseKV, ih, erase_mapInsertB]

mutual
theorem toOwned_erase (b : BTerm) (h : btreeSorted (erase b) = true) : toOwned b = erase b := by
  match b with
  | .atom _ _ | .int _ | .float _ | .bin _ _ | .bits _ _ _ | .str _ _ | .big _ _ | .xfun _ _ _ | .nil | .pid _
  | .port _ _ _ _ | .ref _ _ _ _ => rfl
  | .list l | .tuple l =>
    simp only [erase, btreeSorted] at h
    simp [toOwned, erase, toOwnedL_erase l h]
  | .ilist l t =>
    simp only [erase, btreeSorted, Bool.and_eq_true] at h
    simp [toOwned, erase, toOwnedL_erase l h.1, toOwned_erase t h.2]
  | .map kvs =>
    simp only [erase, btreeSorted, Bool.and_eq_true] at h
    simp [toOwned, erase, toOwnedKV_erase kvs h.1, collectT_sorted _ h.2]
  | .ifun a u i nf m oi ou p fr => simp [toOwned, erase, clonePid_id, cloneTL_id]
theorem toOwnedL_erase (l : List BTerm) (h : btreeSortedL (eraseL l) = true) : toOwnedL l = eraseL l := by
  match l with
  | [] => simp [toOwnedL, eraseL]
  | t :: ts =>
    simp only [eraseL, btreeSortedL, Bool.and_eq_true] at h
    simp [toOwnedL, eraseL, toOwned_erase t h.1, toOwnedL_erase ts h.2]
theorem toOwnedKV_erase (l : List (BTerm × BTerm)) (h : btreeSortedKV (eraseKV l) = true) : toOwnedKV l = eraseKV l := by
  match l with
  | [] => simp [toOwnedKV, eraseKV]
  | (k, v) :: r =>
    simp only [eraseKV, btreeSortedKV, Bool.and_eq_true] at h
    simp [toOwnedKV, eraseKV, toOwned_erase k h.1.1, toOwned_erase v h.1.2, toOwnedKV_erase r h.2]
end

mutual
theorem erase_fromOwned (t : Term) (h : btreeSorted t = true) : erase (fromOwned t) = t := by
  match t with
  | .atom _ | .int _ | .float _ | .bin _ | .bits _ _ | .str _ | .big _ _ | .xfun _ _ _ | .nil | .pid _ | .port _ _ _ _
  | .ref _ _ _ _ => rfl
  | .list l | .tuple l =>
    simp only [btreeSorted] at h
    simp [fromOwned, erase, eraseL_fromOwnedL l h]
  | .ilist l t =>
    simp only [btreeSorted, Bool.and_eq_true] at h
    simp [fromOwned, erase, eraseL_fromOwnedL l h.1, erase_fromOwned t h.2]
  | .map kvs =>
    simp only [btreeSorted, Bool.and_eq_true] at h
    simp [fromOwned, erase, erase_insertAllB, eraseKV, eraseKV_fromOwnedKV kvs h.1, insertAll_sorted _ h.2]
  | .ifun a u i nf m oi ou p fr => simp [fromOwned, erase, clonePid_id, cloneTL_id]
theorem eraseL_fromOwnedL (l : List Term) (h : btreeSortedL l = true) : eraseL (fromOwnedL l) = l := by
  match l with
  | [] => simp [fromOwnedL, eraseL]
  | t :: ts =>
    simp only [btreeSortedL, Bool.and_eq_true] at h
    simp [fromOwnedL, eraseL, erase_fromOwned t h.1, eraseL_fromOwnedL ts h.2]
theorem eraseKV_fromOwnedKV (l : List (Term × Term)) (h : btreeSortedKV l = true) : eraseKV (fromOwnedKV l) = l := by
  match l with
  | [] => simp [fromOwnedKV, eraseKV]
  | (k, v) :: r =>
    simp only [btreeSortedKV, Bool.and_eq_true] at h
    simp [fromOwnedKV, eraseKV, erase_fromOwned k h.1.1, erase_fromOwned v h.1.2, eraseKV_fromOwnedKV r h.2]
end

theorem toOwned_fromOwned (t : Term) (h : btreeSorted t = true) : toOwned (fromOwned t) = t := by
  have e := erase_fromOwned t h
  rw [toOwned_erase (fromOwned t) (by rw [e]; exact h), e]

theorem conv_apply_id (c : Conv) (t : Term) (h : btreeSorted t = true) : c.apply t = t := by
  cases c
  · exact cloneT_id t
  · exact toOwned_fromOwned t h
  · simp only [Conv.apply, cloneB_id]; exact toOwned_fromOwned t h
  · rfl

theorem applyConvs_id (cs : List Conv) (t : Term) (h : btreeSorted t = true) : applyConvs cs t = t := by
  induction cs with
  | nil => rfl
  | cons c cs ih => simp only [applyConvs, conv_apply_id c t h, ih]

mutual
theorem erase_tagWith (t : Term) (fl : List Bool) : erase (tagWith t fl).1 = t := by
  match t with
  | .atom _ | .int _ | .float _ | .bin _ | .bits _ _ | .str _ | .big _ _ | .xfun _ _ _ | .nil
  | .pid _ | .port _ _ _ _ | .ref _ _ _ _ | .ifun _ _ _ _ _ _ _ _ _ => rfl
  | .list l | .tuple l => simp [tagWith, erase, eraseL_tagWithL l fl]
  | .ilist l t => simp [tagWith, erase, eraseL_tagWithL l fl, erase_tagWith t _]
  | .map kvs => simp [tagWith, erase, eraseKV_tagWithKV kvs fl]
theorem eraseL_tagWithL (l : List Term) (fl : List Bool) : eraseL (tagWithL l fl).1 = l := by
  match l with
  | [] => simp [tagWithL, eraseL]
  | t :: ts => simp [tagWithL, eraseL, erase_tagWith t fl, eraseL_tagWithL ts _]
theorem eraseKV_tagWithKV (l : List (Term × Term)) (fl : List Bool) : eraseKV (tagWithKV l fl).1 = l := by
  match l with
  | [] => simp [tagWithKV, eraseKV]
  | (k, v) :: r => simp [tagWithKV, eraseKV, erase_tagWith k fl, erase_tagWith v _, eraseKV_tagWithKV r _]
end

theorem toOwned_tagWith (t : Term) (fl : List Bool) (h : btreeSorted t = true) : toOwned (tagWith t fl).1 = t := by
  have e := erase_tagWith t fl
  rw [toOwned_erase _ (by rw [e]; exact h), e]

mutual
/-- `is_borrowed`: some `Cow` of the tree is borrowed -/
theorem isBorrowed_flags (b : BTerm) : isBorrowed b = (flagsOf b).any id := by
  match b with
  | .atom _ _ | .bin _ _ | .bits _ _ _ | .str _ _ | .int _ | .float _ | .big _ _ | .xfun _ _ _ | .nil | .pid _ | .port _ _ _ _ | .ref _ _ _ _
  | .ifun _ _ _ _ _ _ _ _ _ => simp [isBorrowed, flagsOf]
  | .list l | .tuple l => simp [isBorrowed, flagsOf, isBorrowedL_flags l]
  | .ilist l t => simp [isBorrowed, flagsOf, isBorrowedL_flags l, isBorrowed_flags t, List.any_append]
  | .map kvs => simp [isBorrowed, flagsOf, isBorrowedKV_flags kvs]
theorem isBorrowedL_flags (l : List BTerm) : isBorrowedL l = (flagsOfL l).any id := by
  match l with
  | [] => simp [isBorrowedL, flagsOfL]
  | t :: ts => simp [isBorrowedL, flagsOfL, isBorrowed_flags t, isBorrowedL_flags ts, List.any_append]
theorem isBorrowedKV_flags (l : List (BTerm × BTerm)) : isBorrowedKV l = (flagsOfKV l).any id := by
  match l with
  | [] => simp [isBorrowedKV, flagsOfKV]
  | (k, v) :: r => simp [isBorrowedKV, flagsOfKV, isBorrowed_flags k, isBorrowed_flags v, isBorrowedKV_flags r, List.any_append, Bool.or_assoc]
end

end Edp
