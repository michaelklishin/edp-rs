import EdpVerif.Impl.PidAlloc
/-! The pid allocator (`Impl/PidAlloc.lean`): the completion function, the inductive invariant of the small-step
semantics (n whole allocations done plus at most one in flight by the lock holder), the closed form of the
sequential run. -/
namespace Edp.Impl.PidAlloc

/-! ### the rest of the holder's call, run without interruption -/

def finOut (s : Sh) (id ser : Nat) : Res × Sh := (.ok ⟨id, ser, s.creation⟩, s)

def finWrap (s : Sh) (id : Nat) : Res × Sh :=
  if s.nextSerial + 1 ≥ U64 then
    (.panic, { s with nextSerial := (s.nextSerial + 1) % U64, poisoned := true })
  else finOut { s with nextSerial := (s.nextSerial + 1) % U64 } id ((s.nextSerial + 1) % U32)

def finSerial (s : Sh) (id su : Nat) : Res × Sh :=
  if id ≥ MAXP then finWrap { s with nextId := 1 } id else finOut { s with nextId := id + 1 } id (su % U32)

def finId (s : Sh) (id : Nat) : Res × Sh :=
  if id + 1 ≥ U32 then (.panic, { s with poisoned := true }) else finSerial s id s.nextSerial

def complete (s : Sh) : Pc → Res × Sh
  | .idle => (.err, s)
  | .locked => finId s s.nextId
  | .gotId id => finId s id
  | .gotSerial id su => finSerial s id su
  | .storedWrap id => finWrap s id
  | .gotOut id ser => finOut s id ser
  | .gotCreation p => (.ok p, s)

/-- program counters before the linearisation point of the call -/
def preLin : Pc → Prop
  | .locked | .gotId _ | .gotSerial _ _ | .storedWrap _ | .gotOut _ _ => True
  | _ => False

def Res.setC (c : Nat) : Res → Res
  | .ok p => .ok { p with creation := c }
  | r => r

def mapC (c : Nat) (x : Res × Sh) : Res × Sh := (x.1.setC c, x.2.setCreation c)

theorem alloc_eq_complete (s : Sh) (h : s.poisoned = false) : alloc s = complete s .locked := by
  by_cases h1 : s.nextId + 1 ≥ U32 <;> by_cases h2 : s.nextId ≥ MAXP <;> by_cases h3 : s.nextSerial + 1 ≥ U64 <;>
    simp [alloc, complete, finId, finSerial, finWrap, finOut, h, h1, h2, h3]

theorem alloc_poisoned (s : Sh) (h : s.poisoned = true) : alloc s = (.err, s) := by
  simp [alloc, h]

/-- a step of the holder that goes on leaves the outcome of the call as it was; only the step from `gotOut` passes the
linearisation point -/
theorem hstep_cont {s s' : Sh} {pc pc' : Pc} (h : hstep s pc = .cont s' pc') (hp : preLin pc) :
    complete s' pc' = complete s pc ∧ s'.poisoned = s.poisoned ∧
      (if pc.isGotOut then ∃ p, pc' = .gotCreation p else preLin pc') := by
  cases pc <;> simp only [hstep] at h <;> (try split at h) <;> cases h <;>
    simp [*, complete, finId, finSerial, finWrap, finOut, preLin, Pc.isGotOut] at hp ⊢

theorem hstep_done {s s' : Sh} {pc : Pc} {r : Res} (h : hstep s pc = .done s' r) :
    complete s pc = (r, s') ∧ (preLin pc → r = .panic) ∧ ∀ p, pc = .gotCreation p → r = .ok p ∧ s' = s := by
  cases pc <;> simp only [hstep] at h <;> (try split at h) <;> cases h <;>
    simp [*, complete, finId, finWrap, preLin]

/-! `allocate` reads the creation only to stamp it on the pid: it commutes with `set_creation` -/

theorem finWrap_setC (s : Sh) (c id : Nat) : finWrap (s.setCreation c) id = mapC c (finWrap s id) := by
  by_cases h : s.nextSerial + 1 ≥ U64 <;> simp [finWrap, finOut, mapC, Sh.setCreation, Res.setC, h]

theorem finSerial_setC (s : Sh) (c id su : Nat) : finSerial (s.setCreation c) id su = mapC c (finSerial s id su) := by
  by_cases h : id ≥ MAXP
  · simp only [finSerial, h, if_true]; exact finWrap_setC { s with nextId := 1 } c id
  · simp only [finSerial, h, if_false]; rfl

theorem finId_setC (s : Sh) (c id : Nat) : finId (s.setCreation c) id = mapC c (finId s id) := by
  by_cases h : id + 1 ≥ U32
  · simp only [finId, h, if_true]; rfl
  · simp only [finId, h, if_false]; exact finSerial_setC s c id _

theorem complete_setC (s : Sh) (c : Nat) (pc : Pc) (hp : preLin pc) :
    complete (s.setCreation c) pc = mapC c (complete s pc) := by
  cases pc with
  | idle | gotCreation => exact hp.elim
  | locked => exact finId_setC s c _
  | gotId id => exact finId_setC s c id
  | gotSerial id su => exact finSerial_setC s c id su
  | storedWrap id => exact finWrap_setC s c id
  | gotOut id ser => rfl

theorem alloc_setC (s : Sh) (c : Nat) : alloc (s.setCreation c) = mapC c (alloc s) := by
  cases h : s.poisoned with
  | true => rw [alloc_poisoned s h, alloc_poisoned (s.setCreation c) h]; rfl
  | false =>
    rw [alloc_eq_complete s h, alloc_eq_complete (s.setCreation c) h]
    exact complete_setC s c .locked trivial

theorem alloc_creation (s : Sh) :
    (alloc s).2.creation = s.creation ∧ ∀ p, (alloc s).1 = .ok p → p.creation = s.creation := by
  have h : alloc s = mapC s.creation (alloc s) := alloc_setC s s.creation
  refine ⟨by rw [h]; rfl, fun p hp => ?_⟩
  rw [h] at hp
  cases hr : (alloc s).1 <;> simp only [mapC, hr, Res.setC, Res.ok.injEq, reduceCtorEq] at hp
  rw [← hp]

theorem seqRun_snoc (s : Sh) (l : List Op) (op : Op) : seqRun s (l ++ [op]) = seqStep (seqRun s l) op := by
  simp [seqRun, List.foldl_append]

/-- the inductive invariant: whole allocations done, plus at most one in flight by the lock holder -/
structure Inv (s0 : Sh) (st : St) : Prop where
  acq : st.acq = st.out.map (·.1) ++ (match st.lock with | some t => [t] | none => [])
  idle : ∀ t, st.lock ≠ some t → st.pc t = .idle
  free : st.lock = none → st.sh = (seqRun s0 st.lin).2 ∧ st.out.map (·.2) = (seqRun s0 st.lin).1
  held : ∀ t, st.lock = some t → st.sh.poisoned = false ∧
    ((preLin (st.pc t) ∧ st.out.map (·.2) = (seqRun s0 st.lin).1 ∧
        complete st.sh (st.pc t) = alloc (seqRun s0 st.lin).2)
     ∨ (∃ p, st.pc t = .gotCreation p ∧ st.sh = (seqRun s0 st.lin).2 ∧
          st.out.map (·.2) ++ [.ok p] = (seqRun s0 st.lin).1))

variable {s0 : Sh} {st st' : St}

theorem inv_init (s0 : Sh) : Inv s0 (St.init s0) := by
  refine ⟨rfl, fun _ _ => rfl, fun _ => ⟨rfl, rfl⟩, ?_⟩
  intro t h
  simp [St.init] at h

theorem inv_setCreation (c : Nat) (h : Inv s0 st) :
    Inv s0 { st with sh := st.sh.setCreation c, lin := st.lin ++ [.setCreation c] } := by
  refine ⟨h.acq, h.idle, ?_, ?_⟩
  · intro hl
    obtain ⟨h1, h2⟩ := h.free hl
    simp only [seqRun_snoc, seqStep]
    exact ⟨by rw [h1], h2⟩
  · intro t hl
    obtain ⟨hp, hc⟩ := h.held t hl
    refine ⟨by simpa [Sh.setCreation] using hp, ?_⟩
    simp only [seqRun_snoc, seqStep]
    rcases hc with ⟨hpre, ho, hcomp⟩ | ⟨p, hpc, hs, ho⟩
    · left
      refine ⟨hpre, ho, ?_⟩
      rw [complete_setC _ _ _ hpre, alloc_setC, hcomp]
    · right
      exact ⟨p, hpc, by rw [hs], ho⟩

theorem upd_same (f : Nat → Pc) (t : Nat) (v : Pc) : upd f t v t = v := by simp [upd]
theorem upd_other (f : Nat → Pc) (t t' : Nat) (v : Pc) (h : t' ≠ t) : upd f t v t' = f t' := by simp [upd, h]

/-- a thread that is not idle holds the lock -/
theorem Inv.holder {s0 : Sh} {st : St} (h : Inv s0 st) (t : Nat) (hpc : st.pc t ≠ .idle) : st.lock = some t := by
  apply Classical.byContradiction
  intro hl
  exact hpc (h.idle t hl)

theorem inv_cont (t : Nat) (h : Inv s0 st) (hl : st.lock = some t) (s' : Sh) (pc' : Pc)
    (hh : hstep st.sh (st.pc t) = .cont s' pc') :
    Inv s0 { st with sh := s', pc := upd st.pc t pc',
                     lin := if (st.pc t).isGotOut then st.lin ++ [.alloc] else st.lin } := by
  obtain ⟨hpois, hc⟩ := h.held t hl
  refine ⟨h.acq, ?_, ?_, ?_⟩
  · intro t' ht'
    have : t' ≠ t := by intro e; subst e; exact ht' hl
    show upd st.pc t pc' t' = .idle
    rw [upd_other _ _ _ _ this]
    exact h.idle t' ht'
  · intro hn
    exact absurd (hn ▸ hl : (none : Option Nat) = some t) (by simp)
  · intro t' hl'
    obtain rfl : t' = t := Option.some.inj (hl'.symm.trans hl)
    dsimp only
    simp only [upd_same]
    rcases hc with ⟨hpre, ho, hq⟩ | ⟨p, hp, _, _⟩
    · obtain ⟨hcomp, hpz, hpl⟩ := hstep_cont hh hpre
      refine ⟨hpz.trans hpois, ?_⟩
      cases hgo : (st.pc t').isGotOut <;> simp only [hgo, if_true, Bool.false_eq_true, if_false] at hpl ⊢
      · exact .inl ⟨hpl, ho, hcomp.trans hq⟩
      · -- the call is linearised here: what it will return, `complete s' (.gotCreation p) = (.ok p, s')`, is the
        -- next sequential allocation
        obtain ⟨p, rfl⟩ := hpl
        have hq' : alloc (seqRun s0 st.lin).2 = (.ok p, s') := (hcomp.trans hq).symm
        simp only [seqRun_snoc, seqStep, hq']
        exact .inr ⟨p, rfl, trivial, by rw [ho]⟩
    · rw [hp] at hh; cases hh

theorem inv_done (t : Nat) (h : Inv s0 st) (hl : st.lock = some t) (s' : Sh) (r : Res)
    (hh : hstep st.sh (st.pc t) = .done s' r) :
    Inv s0 { st with sh := s', lock := none, pc := upd st.pc t .idle, out := st.out ++ [(t, r)],
                     lin := if r = .panic then st.lin ++ [.alloc] else st.lin } := by
  obtain ⟨hpois, hc⟩ := h.held t hl
  obtain ⟨hcomp, hpanic, hok⟩ := hstep_done hh
  refine ⟨?_, ?_, ?_, ?_⟩
  · have := h.acq
    rw [hl] at this
    simp [this]
  · intro t' _
    show upd st.pc t .idle t' = .idle
    by_cases e : t' = t
    · subst e; exact upd_same _ _ _
    · rw [upd_other _ _ _ _ e]
      exact h.idle t' (by intro hl'; exact e (Option.some.inj (hl'.symm.trans hl)))
  · intro _
    dsimp only
    rcases hc with ⟨hpre, ho, hq⟩ | ⟨p, hp, hs, ho⟩
    · obtain rfl := hpanic hpre
      simp only [if_true, seqRun_snoc, seqStep, List.map_append, List.map_cons, List.map_nil]
      rw [← hq, hcomp, ho]
      exact ⟨rfl, rfl⟩
    · obtain ⟨rfl, rfl⟩ := hok p hp
      simp only [reduceCtorEq, if_false, List.map_append, List.map_cons, List.map_nil]
      exact ⟨hs, ho⟩
  · intro t' hl'
    simp at hl'

/-- `lock()` by an idle thread while the mutex is free -/
theorem inv_lock (t : Nat) (h : Inv s0 st) (hl : st.lock = none)
    (hp : st.sh.poisoned = false) :
    Inv s0 { st with lock := some t, pc := upd st.pc t .locked, acq := st.acq ++ [t] } := by
  obtain ⟨hs, ho⟩ := h.free hl
  refine ⟨?_, ?_, ?_, ?_⟩
  · have := h.acq
    rw [hl] at this
    simp [this]
  · intro t' ht'
    have e : t' ≠ t := by intro e; subst e; exact ht' rfl
    show upd st.pc t .locked t' = .idle
    rw [upd_other _ _ _ _ e]
    exact h.idle t' (by rw [hl]; simp)
  · intro hn
    simp at hn
  · intro t' hl'
    have e : t' = t := (Option.some.inj hl').symm
    subst e
    refine ⟨hp, Or.inl ?_⟩
    dsimp only
    simp only [upd_same]
    refine ⟨by simp [preLin], ho, ?_⟩
    rw [← hs, alloc_eq_complete _ hp]

/-- `lock()` on the poisoned mutex: the call returns `Err` -/
theorem inv_err (t : Nat) (h : Inv s0 st) (hl : st.lock = none)
    (hp : st.sh.poisoned = true) :
    Inv s0 { st with out := st.out ++ [(t, .err)], acq := st.acq ++ [t], lin := st.lin ++ [.alloc] } := by
  obtain ⟨hs, ho⟩ := h.free hl
  refine ⟨?_, h.idle, ?_, ?_⟩
  · have := h.acq
    rw [hl] at this
    simp [this, hl]
  · intro _
    dsimp only
    simp only [seqRun_snoc, seqStep, List.map_append, List.map_cons, List.map_nil]
    rw [← hs, alloc_poisoned _ hp, ho]
    exact ⟨rfl, rfl⟩
  · intro t' hl'
    exact absurd (hl.symm.trans hl') (by simp)

theorem step_of_ne_idle {st : St} {t : Nat} (h : st.pc t ≠ .idle) :
    step st t = match hstep st.sh (st.pc t) with
      | .cont s' pc' =>
        some { st with sh := s', pc := upd st.pc t pc',
                       lin := if (st.pc t).isGotOut then st.lin ++ [.alloc] else st.lin }
      | .done s' r =>
        some { st with sh := s', lock := none, pc := upd st.pc t .idle, out := st.out ++ [(t, r)],
                       lin := if r = .panic then st.lin ++ [.alloc] else st.lin } := by
  unfold step
  generalize st.pc t = pc at h
  cases pc <;> first | rfl | exact absurd rfl h

theorem inv_step (t : Nat) (h : Inv s0 st) (hs : step st t = some st') : Inv s0 st' := by
  by_cases hpc : st.pc t = .idle
  · simp only [step, hpc] at hs
    cases hl : st.lock with
    | some t' => rw [hl] at hs; cases hs
    | none =>
      rw [hl] at hs
      cases hp : st.sh.poisoned <;> simp only [hp, if_true, Bool.false_eq_true, if_false, Option.some.injEq] at hs <;>
        subst hs
      · exact inv_lock t h hl hp
      · exact hl ▸ inv_err t h hl hp
  · have hl := h.holder t hpc
    rw [step_of_ne_idle hpc] at hs
    cases hh : hstep st.sh (st.pc t) with
    | cont s' pc' =>
      rw [hh] at hs; cases hs
      exact inv_cont t h hl s' pc' hh
    | done s' r =>
      rw [hh] at hs; cases hs
      exact inv_done t h hl s' r hh

theorem inv_stepEv (e : Ev) (h : Inv s0 st) (hs : stepEv st e = some st') : Inv s0 st' := by
  cases e with
  | task t => exact inv_step t h hs
  | setCreation c =>
    simp only [stepEv, Option.some.injEq] at hs
    subst hs
    exact inv_setCreation c h

theorem inv_run (evs : List Ev) (h : Inv s0 st) : Inv s0 (run st evs) :=
  List.foldlRecOn (motive := Inv s0) evs _ h fun st h e _ => by
    show Inv s0 ((stepEv st e).getD st)
    cases hs : stepEv st e with
    | none => exact h
    | some st' => exact inv_stepEv e h hs

theorem MAXP_eq : MAXP = 1048576 := rfl

/-- the states reachable from `PidAllocator::new` by allocations that did not panic -/
def Good (s : Sh) : Prop := 1 ≤ s.nextId ∧ s.nextId ≤ MAXP ∧ s.poisoned = false

/-- position in the (id, serial) space counted in allocations -/
def pos (s : Sh) : Nat := (s.nextId - 1) + MAXP * s.nextSerial

theorem good_new (c : Nat) : Good (Sh.new c) := by simp [Good, Sh.new, MAXP_eq]

theorem alloc_good (s : Sh) (hg : Good s) :
    (∃ s', alloc s = (.panic, s') ∧ s'.poisoned = true ∧ U64 ≤ pos s / MAXP + 1) ∨
    (∃ s', alloc s = (.ok ⟨pos s % MAXP + 1, ((pos s + 1) / MAXP) % U32, s.creation⟩, s') ∧ Good s' ∧
        pos s' = pos s + 1 ∧ s'.creation = s.creation) := by
  obtain ⟨h1, h2, h3⟩ := hg
  simp only [MAXP_eq] at h2
  have hlt : ¬ (s.nextId + 1 ≥ U32) := by simp only [U32]; omega
  have e1 : pos s % MAXP + 1 = s.nextId := by simp only [pos, MAXP_eq]; omega
  have e0 : pos s / MAXP = s.nextSerial := by simp only [pos, MAXP_eq]; omega
  by_cases hw : s.nextId ≥ MAXP
  · have e2 : (pos s + 1) / MAXP = s.nextSerial + 1 := by simp only [MAXP_eq] at hw; simp only [pos, MAXP_eq]; omega
    by_cases ho : s.nextSerial + 1 ≥ U64
    · exact .inl ⟨{ s with nextId := 1, nextSerial := (s.nextSerial + 1) % U64, poisoned := true },
        by simp [alloc, h3, hlt, hw, ho], rfl, e0 ▸ ho⟩
    · refine .inr ⟨{ s with nextId := 1, nextSerial := (s.nextSerial + 1) % U64 }, ?_, ?_, ?_, rfl⟩
      · simp [alloc, h3, hlt, hw, ho, e1, e2]
      · simp [Good, MAXP_eq, h3]
      · simp only [MAXP_eq] at hw; simp only [U64] at ho; simp only [pos, MAXP_eq, U64]; omega
  · have hw' : s.nextId < 1048576 := by simpa [MAXP_eq] using hw
    have e2 : (pos s + 1) / MAXP = s.nextSerial := by simp only [pos, MAXP_eq]; omega
    refine .inr ⟨{ s with nextId := s.nextId + 1 }, ?_, ⟨?_, ?_, h3⟩, ?_, rfl⟩
    · simp [alloc, h3, hlt, hw, e1, e2]
    · show 1 ≤ s.nextId + 1; omega
    · show s.nextId + 1 ≤ MAXP; simp only [MAXP_eq]; omega
    · simp only [pos]; omega

theorem seqState_good (s0 : Sh) (hg : Good s0) (i : Nat) :
    (Good (seqState s0 i) ∧ pos (seqState s0 i) = pos s0 + i ∧ (seqState s0 i).creation = s0.creation) ∨
    ((seqState s0 i).poisoned = true ∧ U64 ≤ (pos s0 + i) / MAXP + 1) := by
  induction i with
  | zero => exact .inl ⟨hg, rfl, rfl⟩
  | succ i ih =>
    show (Good (alloc (seqState s0 i)).2 ∧ pos (alloc (seqState s0 i)).2 = _ ∧ (alloc (seqState s0 i)).2.creation = _) ∨
      ((alloc (seqState s0 i)).2.poisoned = true ∧ _)
    rcases ih with ⟨g, hp, hc⟩ | ⟨hpz, hx⟩
    · rcases alloc_good _ g with ⟨s', ha, hpz, ho⟩ | ⟨s', ha, g', hp', hc'⟩ <;> rw [ha]
      · exact .inr ⟨hpz, by rw [hp] at ho; simp only [MAXP_eq] at ho ⊢; omega⟩
      · exact .inl ⟨g', by rw [hp', hp]; omega, hc'.trans hc⟩
    · rw [alloc_poisoned _ hpz]
      exact .inr ⟨hpz, by simp only [MAXP_eq] at hx ⊢; omega⟩

theorem seqAlloc_ok (s0 : Sh) (hg : Good s0) (i : Nat) (p : Pid) (h : seqAlloc s0 i = .ok p) :
    p = ⟨(pos s0 + i) % MAXP + 1, ((pos s0 + i + 1) / MAXP) % U32, s0.creation⟩ := by
  unfold seqAlloc at h
  rcases seqState_good s0 hg i with ⟨g, hp, hc⟩ | ⟨hpz, _⟩
  · rcases alloc_good _ g with ⟨s', ha, _, _⟩ | ⟨s', ha, _, _, _⟩
    · rw [ha] at h; cases h
    · rw [ha] at h
      simp only [Res.ok.injEq] at h
      rw [← h, hp, hc]
  · rw [alloc_poisoned _ hpz] at h; cases h

theorem seqAlloc_is_ok (s0 : Sh) (hg : Good s0) (i : Nat) (hb : (pos s0 + i) / MAXP + 1 < U64) :
    ∃ p, seqAlloc s0 i = .ok p := by
  unfold seqAlloc
  rcases seqState_good s0 hg i with ⟨g, hp, _⟩ | ⟨_, hx⟩
  · rcases alloc_good _ g with ⟨s', _, _, ho⟩ | ⟨s', ha, _⟩
    · rw [hp] at ho; omega
    · exact ⟨_, by rw [ha]⟩
  · omega

theorem seqAlloc_key_ne (s0 : Sh) (hg : Good s0) (i j : Nat) (hij : i < j) (hd : j - i < MAXP * U32)
    (p q : Pid) (hp : seqAlloc s0 i = .ok p) (hq : seqAlloc s0 j = .ok q) :
    (p.id, p.serial) ≠ (q.id, q.serial) := by
  rw [seqAlloc_ok s0 hg i p hp, seqAlloc_ok s0 hg j q hq]
  simp only [ne_eq, Prod.mk.injEq, not_and]
  simp only [MAXP_eq, U32] at hd ⊢
  generalize pos s0 = a
  omega

/-! ### any start state (counter positions only reachable through the `*_test_only` accessors included) -/

theorem seqState_shift (s : Sh) (i : Nat) : seqState s (i + 1) = seqState (alloc s).2 i := by
  induction i with
  | zero => rfl
  | succ i ih => show (alloc (seqState s (i + 1))).2 = (alloc (seqState (alloc s).2 i)).2; rw [ih]

theorem seqAlloc_shift (s : Sh) (i : Nat) : seqAlloc s (i + 1) = seqAlloc (alloc s).2 i := by
  unfold seqAlloc; rw [seqState_shift]

theorem seqAlloc_poisoned (s : Sh) (h : s.poisoned = true) (i : Nat) : seqAlloc s i = .err := by
  induction i generalizing s with
  | zero => unfold seqAlloc seqState; rw [alloc_poisoned s h]
  | succ i ih => rw [seqAlloc_shift, alloc_poisoned s h]; exact ih s h

/-- outside the well-formed range the first call hands out the out-of-range id (or panics) and the allocator is
well-formed afterwards -/
theorem alloc_bad (s : Sh) (hp : s.poisoned = false) (hb : s.nextId = 0 ∨ MAXP < s.nextId) :
    (alloc s).2.poisoned = true ∨ (Good (alloc s).2 ∧ ∀ p, (alloc s).1 = .ok p → p.id = s.nextId) := by
  by_cases h1 : s.nextId + 1 ≥ U32
  · simp [alloc, hp, h1]
  by_cases h2 : s.nextId ≥ MAXP
  · by_cases h3 : s.nextSerial + 1 ≥ U64 <;> simp only [alloc, hp, h1, h2, h3, Bool.false_eq_true, if_false, if_true] <;>
      simp [Good, MAXP_eq]
  · have h0 : s.nextId = 0 := hb.resolve_right (fun h => h2 (Nat.le_of_lt h))
    simp only [alloc, hp, h1, h2, Bool.false_eq_true, if_false]
    simp [Good, MAXP_eq, h0]

theorem seqAlloc_key_ne_any (s0 : Sh) (i j : Nat) (hij : i < j) (hd : j - i < MAXP * U32)
    (p q : Pid) (hp : seqAlloc s0 i = .ok p) (hq : seqAlloc s0 j = .ok q) :
    (p.id, p.serial) ≠ (q.id, q.serial) := by
  cases hpz : s0.poisoned with
  | true => rw [seqAlloc_poisoned s0 hpz] at hp; cases hp
  | false =>
    by_cases hg : 1 ≤ s0.nextId ∧ s0.nextId ≤ MAXP
    · exact seqAlloc_key_ne s0 ⟨hg.1, hg.2, hpz⟩ i j hij hd p q hp hq
    · have hb : s0.nextId = 0 ∨ MAXP < s0.nextId := by omega
      obtain ⟨j', rfl⟩ : ∃ j', j = j' + 1 := ⟨j - 1, by omega⟩
      rw [seqAlloc_shift] at hq
      rcases alloc_bad s0 hpz hb with hpois | ⟨hgood, hid⟩
      · rw [seqAlloc_poisoned _ hpois] at hq; cases hq
      · cases i with
        | zero =>
          -- the first pid carries the out-of-range id, all later ones an id in `1 .. MAXP`
          have := hid p hp
          rw [seqAlloc_ok _ hgood j' q hq]
          simp only [MAXP_eq] at hb
          simp only [ne_eq, Prod.mk.injEq, MAXP_eq]
          omega
        | succ i' =>
          rw [seqAlloc_shift] at hp
          exact seqAlloc_key_ne _ hgood i' j' (by omega) (by omega) p q hp hq

theorem mapC_mapC (c d : Nat) (x : Res × Sh) : mapC c (mapC d x) = mapC c x := by
  obtain ⟨r, s⟩ := x
  cases r <;> rfl

theorem alloc_erase_congr (s s' : Sh) (h : s.setCreation 0 = s'.setCreation 0) :
    mapC 0 (alloc s) = mapC 0 (alloc s') := by
  rw [← alloc_setC, ← alloc_setC, h]

theorem eq_range_map_of_take {α : Type} {l q : List α} {f : Nat → α} {n : Nat} (h : l = q.take n)
    (hq : q = (List.range q.length).map f) : l = (List.range l.length).map f := by
  subst h
  rw [List.length_take]
  conv => lhs; rw [hq]
  rw [← List.map_take, List.take_range]

theorem key_setC (c : Nat) (r : Res) : (r.setC c).key = r.key := by cases r <;> rfl

/-- whatever `set_creation` calls are interleaved, the (id, serial) stream is that of a plain row of allocations -/
theorem seqRun_keys (s0 : Sh) (lin : List Op) :
    (seqRun s0 lin).1.map Res.key = (List.range ((seqRun s0 lin).1.map Res.key).length).map (fun i => (seqAlloc s0 i).key) := by
  -- invariant: after `k` allocations the state is, up to the creation, the `k`-th state of the row
  obtain ⟨k, h, _⟩ := List.foldlRecOn (motive := fun acc : List Res × Sh =>
    ∃ k, acc.1.map Res.key = (List.range k).map (fun i => (seqAlloc s0 i).key) ∧
      acc.2.setCreation 0 = (seqState s0 k).setCreation 0) lin seqStep (b := ([], s0)) ⟨0, rfl, rfl⟩ (by
    rintro acc ⟨k, h1, h2⟩ op _
    cases op with
    | setCreation c => exact ⟨k, h1, h2⟩
    | alloc =>
      have hm := alloc_erase_congr _ _ h2
      have hm1 : (alloc acc.2).1.setC 0 = (seqAlloc s0 k).setC 0 := congrArg Prod.fst hm
      refine ⟨k + 1, ?_, congrArg Prod.snd hm⟩
      simp only [seqStep, List.map_append, List.map_cons, List.map_nil, List.range_succ]
      rw [h1, ← key_setC 0 (alloc acc.2).1, hm1, key_setC])
  have hl : ((seqRun s0 lin).1.map Res.key).length = k := by
    have := congrArg List.length h
    simpa [seqRun] using this
  rw [hl]; exact h

def Op.creations : List Op → List Nat
  | [] => []
  | .alloc :: l => Op.creations l
  | .setCreation c :: l => c :: Op.creations l

theorem Op.creations_append (l l' : List Op) : Op.creations (l ++ l') = Op.creations l ++ Op.creations l' := by
  induction l with
  | nil => rfl
  | cons op l ih => cases op <;> simp [Op.creations, ih]

theorem Op.mem_creations (l : List Op) (c : Nat) : c ∈ Op.creations l ↔ Op.setCreation c ∈ l := by
  induction l with
  | nil => simp [Op.creations]
  | cons op l ih => cases op <;> simp [Op.creations, ih]

theorem seqRun_allocs (s0 : Sh) (lin : List Op) (h : Op.creations lin = []) :
    (seqRun s0 lin).1 = (List.range (seqRun s0 lin).1.length).map (seqAlloc s0) := by
  refine (List.foldlRecOn (motive := fun acc : List Res × Sh =>
    acc.1 = (List.range acc.1.length).map (seqAlloc s0) ∧ acc.2 = seqState s0 acc.1.length)
    lin seqStep (b := ([], s0)) ⟨rfl, rfl⟩ ?_).1
  rintro acc ⟨h1, h2⟩ op hop
  cases op with
  | setCreation c => rw [← Op.mem_creations, h] at hop; cases hop
  | alloc =>
    simp only [seqStep, List.length_append, List.length_singleton, List.range_succ, List.map_append, List.map_cons,
      List.map_nil]
    rw [← h1, h2]
    exact ⟨rfl, rfl⟩

/-- every pid made by a sequential history carries the initial creation or one that was set -/
theorem seqRun_creations (s0 : Sh) (lin : List Op) (p : Pid) (h : .ok p ∈ (seqRun s0 lin).1) :
    p.creation = s0.creation ∨ p.creation ∈ Op.creations lin := by
  -- invariant: the allocator's creation and that of every pid made so far is such a one
  refine (List.foldlRecOn (motive := fun acc : List Res × Sh =>
    (∀ p, Res.ok p ∈ acc.1 → p.creation = s0.creation ∨ p.creation ∈ Op.creations lin) ∧
      (acc.2.creation = s0.creation ∨ acc.2.creation ∈ Op.creations lin))
    lin seqStep (b := ([], s0)) ⟨nofun, .inl rfl⟩ ?_).1 p h
  rintro acc ⟨h1, h2⟩ op hop
  cases op with
  | setCreation c => exact ⟨h1, .inr ((Op.mem_creations lin c).mpr hop)⟩
  | alloc =>
    refine ⟨fun q hq => ?_, (alloc_creation acc.2).1 ▸ h2⟩
    rcases List.mem_append.mp hq with hq | hq
    · exact h1 q hq
    · rw [(alloc_creation acc.2).2 q (List.mem_singleton.mp hq).symm]; exact h2

def Ev.creations : List Ev → List Nat
  | [] => []
  | .task _ :: l => Ev.creations l
  | .setCreation c :: l => c :: Ev.creations l

theorem Ev.creations_tasks (σ : List Nat) : Ev.creations (σ.map .task) = [] := by
  induction σ with
  | nil => rfl
  | cons t σ ih => exact ih

theorem Ev.mem_creations (evs : List Ev) (c : Nat) : c ∈ Ev.creations evs ↔ Ev.setCreation c ∈ evs := by
  induction evs with
  | nil => simp [Ev.creations]
  | cons e evs ih => cases e <;> simp [Ev.creations, ih]

theorem step_lin {st st' : St} (t : Nat) (h : step st t = some st') :
    st'.lin = st.lin ∨ st'.lin = st.lin ++ [.alloc] := by
  by_cases hpc : st.pc t = .idle
  · simp only [step, hpc] at h
    (repeat' split at h) <;> cases h <;> simp
  · rw [step_of_ne_idle hpc] at h
    split at h <;> cases h <;> dsimp only <;> split <;> simp

theorem run_lin_creations (evs : List Ev) : ∀ (st : St),
    Op.creations (run st evs).lin = Op.creations st.lin ++ Ev.creations evs := by
  induction evs with
  | nil => intro st; simp [run, Ev.creations]
  | cons e evs ih =>
    intro st
    show Op.creations (run ((stepEv st e).getD st) evs).lin = _
    rw [ih]
    cases e with
    | setCreation c => simp [stepEv, Ev.creations, Op.creations_append, Op.creations]
    | task t =>
      simp only [stepEv, Ev.creations]
      cases hs : step st t with
      | none => rfl
      | some st' =>
        rcases step_lin t hs with h | h
        · simp [h]
        · simp [h, Op.creations_append, Op.creations]

theorem getLast?_cons_getD (c x : Nat) (l : List Nat) : ((c :: l).getLast?).getD x = (l.getLast?).getD c := by
  cases l with
  | nil => rfl
  | cons a t => simp [List.getLast?_cons_cons, List.getLast?_eq_some_getLast (l := a :: t) (by simp)]

theorem foldl_state_creation (pre : List Op) : ∀ (acc : List Res × Sh),
    (pre.foldl seqStep acc).2.creation = ((Op.creations pre).getLast?).getD acc.2.creation := by
  induction pre with
  | nil => intro acc; rfl
  | cons op r ih =>
    intro acc
    simp only [List.foldl_cons]
    rw [ih]
    cases op with
    | alloc => simp [seqStep, Op.creations, (alloc_creation _).1]
    | setCreation c => simp only [seqStep, Op.creations, Sh.setCreation, getLast?_cons_getD]

/-- sequential histories of `allocate` and `set_creation`: the allocator's creation is the one stored last -/
theorem seqRun_state_creation (s0 : Sh) (pre : List Op) :
    (seqRun s0 pre).2.creation = ((Op.creations pre).getLast?).getD s0.creation :=
  foldl_state_creation pre ([], s0)

theorem seqState_setCreation (s : Sh) (c : Nat) (i : Nat) :
    seqState (s.setCreation c) i = (seqState s i).setCreation c := by
  induction i with
  | zero => rfl
  | succ i ih => simp only [seqState, ih, alloc_setC, mapC]

/-- changing the creation never changes which numbers are handed out -/
theorem seqAlloc_setCreation_key (s : Sh) (c : Nat) (i : Nat) :
    (seqAlloc (s.setCreation c) i).key = (seqAlloc s i).key := by
  simp only [seqAlloc, seqState_setCreation, alloc_setC, mapC, key_setC]

theorem key_eq_some {r : Res} {b : Nat × Nat} (h : r.key = some b) : ∃ p, r = .ok p ∧ (p.id, p.serial) = b := by
  cases r <;> cases h
  exact ⟨_, rfl, rfl⟩

/-- the (id, serial) pairs of a row of allocations are pairwise distinct inside the window -/
theorem seq_keys_nodup (s0 : Sh) (n : Nat) (hn : n ≤ MAXP * U32) :
    (((List.range n).map (fun i => (seqAlloc s0 i).key)).filterMap id).Nodup := by
  rw [List.filterMap_map, List.Nodup, List.pairwise_filterMap]
  refine List.Pairwise.imp_of_mem ?_ (List.pairwise_lt_range (n := n))
  intro i j _ hj hij b hb b' hb'
  have hj' : j < n := List.mem_range.mp hj
  obtain ⟨p, hp, rfl⟩ := key_eq_some hb
  obtain ⟨q, hq, rfl⟩ := key_eq_some hb'
  exact seqAlloc_key_ne_any s0 i j hij (by omega) p q hp hq

end Edp.Impl.PidAlloc
