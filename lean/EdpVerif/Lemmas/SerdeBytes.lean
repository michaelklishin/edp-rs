import EdpVerif.Lemmas.SerdeWire
import EdpVerif.Lemmas.RoundTrip
import EdpVerif.Lemmas.EncErr
/-!
C15: the link between the closed form `Serde.wireT` and the codec models.

`Edp.wire` is the wire form for which the codec round trip `decode (encode t) = wire t` is proved (Lemmas/RoundTrip.lean,
`dec_enc`); on the serialiser's term fragment within the decoder's limits (`Spec.Serde.wireFits`) the two closed forms are
the same function, the fragment is well-formed in the codec's sense, and so `from_bytes (to_bytes v)` is
`de ty (wireT (ser v))`.
-/
namespace Edp.SerdeBytes
open Edp

theorem insertAll_eq (l : List (Term × Term)) : Serde.insertAll l = Edp.insertAll [] l := by
  unfold Serde.insertAll
  rw [foldl_mapInsert_eq_insertAll (fun kv : Term × Term => kv.1) (·.2), show (l.map fun e => (e.1, e.2)) = l from List.map_id' l]

mutual
/-- on the serialiser's fragment the two closed forms of `decode ∘ encode` agree -/
theorem wire_eq : ∀ t : Term, Spec.Serde.wireFits t = true → Edp.wire t = Serde.wireT t
  | .atom _, _ | .float _, _ | .bin _, _ | .str _, _ | .big _ _, _ | .nil, _ => by simp [Edp.wire, Serde.wireT]
  | .int i, _ => by
    simp only [Edp.wire, Serde.wireT, Serde.inI32, Serde.intDigits]
    by_cases h : -2147483648 ≤ i ∧ i ≤ 2147483647 <;> simp [h]
  | .list l, h => by
    simp only [Spec.Serde.wireFits, Bool.and_eq_true] at h
    cases l with
    | nil => simp [Edp.wire, Serde.wireT]
    | cons a r => simp [Edp.wire, Serde.wireT, wireL_eq (a :: r) h.2]
  | .tuple l, h => by
    simp only [Spec.Serde.wireFits, Bool.and_eq_true] at h
    simp [Edp.wire, Serde.wireT, wireL_eq l h.2]
  | .map kvs, h => by
    simp only [Spec.Serde.wireFits, Bool.and_eq_true] at h
    simp [Edp.wire, Serde.wireT, wireKV_eq kvs h.2, insertAll_eq]
  | .pid _, h | .port _ _ _ _, h | .ref _ _ _ _, h | .bits _ _, h | .ilist _ _, h | .xfun _ _ _, h
  | .ifun _ _ _ _ _ _ _ _ _, h => by cases h
theorem wireL_eq : ∀ l : List Term, Spec.Serde.wireFitsL l = true → Edp.wireL l = Serde.wireL l
  | [], _ => by simp [Edp.wireL, Serde.wireL]
  | t :: ts, h => by
    simp only [Spec.Serde.wireFitsL, Bool.and_eq_true] at h
    simp [Edp.wireL, Serde.wireL, wire_eq t h.1, wireL_eq ts h.2]
theorem wireKV_eq : ∀ l : List (Term × Term), Spec.Serde.wireFitsKV l = true → Edp.wireKV l = Serde.wireKV l
  | [], _ => by simp [Edp.wireKV, Serde.wireKV]
  | (k, v) :: r, h => by
    simp only [Spec.Serde.wireFitsKV, Bool.and_eq_true] at h
    simp [Edp.wireKV, Serde.wireKV, wire_eq k h.1.1, wire_eq v h.1.2, wireKV_eq r h.2]
end

mutual
/-- the fragment within the decoder's limits is well-formed for the codec round trip -/
theorem wfT_of_fits : ∀ t : Term, Spec.Serde.wireFits t = true → Edp.wfT t = true
  | .atom _, h => by simp only [Spec.Serde.wireFits, Bool.and_eq_true] at h; simp [Edp.wfT, h.1]
  | .int i, h => by
    simp only [Spec.Serde.wireFits, Bool.and_eq_true, Serde.i64Min, Serde.i64Max] at h
    simp only [Edp.wfT, decide_eq_true_eq]
    exact ⟨of_decide_eq_true h.1, of_decide_eq_true h.2⟩
  | .float _, h | .big _ _, h => by
    simp only [Spec.Serde.wireFits, decide_eq_true_eq] at h
    simp only [Edp.wfT, decide_eq_true_eq]; omega
  | .bin _, h | .str _, h => by simpa [Spec.Serde.wireFits, Edp.wfT] using h
  | .nil, _ => by simp [Edp.wfT]
  | .list l, h | .tuple l, h => by
    simp only [Spec.Serde.wireFits, Bool.and_eq_true] at h
    simp only [Edp.wfT, Bool.and_eq_true]; exact ⟨h.1, wfL_of_fits l h.2⟩
  | .map kvs, h => by
    simp only [Spec.Serde.wireFits, Bool.and_eq_true] at h
    simp only [Edp.wfT, Bool.and_eq_true]; exact ⟨h.1, wfKV_of_fits kvs h.2⟩
  | .pid _, h | .port _ _ _ _, h | .ref _ _ _ _, h | .bits _ _, h | .ilist _ _, h | .xfun _ _ _, h
  | .ifun _ _ _ _ _ _ _ _ _, h => by cases h
theorem wfL_of_fits : ∀ l : List Term, Spec.Serde.wireFitsL l = true → Edp.wfL l = true
  | [], _ => by simp [Edp.wfL]
  | t :: ts, h => by
    simp only [Spec.Serde.wireFitsL, Bool.and_eq_true] at h
    simp only [Edp.wfL, Bool.and_eq_true]; exact ⟨wfT_of_fits t h.1, wfL_of_fits ts h.2⟩
theorem wfKV_of_fits : ∀ l : List (Term × Term), Spec.Serde.wireFitsKV l = true → Edp.wfKV l = true
  | [], _ => by simp [Edp.wfKV]
  | (k, v) :: r, h => by
    simp only [Spec.Serde.wireFitsKV, Bool.and_eq_true] at h
    simp only [Edp.wfKV, Bool.and_eq_true]; exact ⟨⟨wfT_of_fits k h.1.1, wfT_of_fits v h.1.2⟩, wfKV_of_fits r h.2⟩
end

/-- a length within one of the decoder's limits is below the encoder's limit `lim'` for that kind of node -/
theorem notTooLong (p : Prop) [Decidable p] (lim' : Nat) {n lim : Nat} (h : n ≤ lim) (hl : lim ≤ lim') :
    (decide p && decide (n > lim')) = false := by
  simp only [Bool.and_eq_false_iff, decide_eq_false_iff_not]
  exact .inr (by omega)

mutual
/-- within the decoder's limits no encoder limit is exceeded -/
theorem not_over_of_fits (e : EncErr) : ∀ t : Term, Spec.Serde.wireFits t = true → over e t = false
  | .atom a, h => by
    simp only [Spec.Serde.wireFits, Bool.and_eq_true, decide_eq_true_eq] at h
    exact notTooLong _ _ h.2 (Nat.le_refl _)
  | .int _, _ | .float _, _ | .big _ _, _ | .nil, _ => by simp [over]
  | .bin b, h | .str b, h => by
    simp only [Spec.Serde.wireFits, decide_eq_true_eq] at h
    exact notTooLong _ _ h (by decide)
  | .list l, h | .tuple l, h => by
    simp only [Spec.Serde.wireFits, Bool.and_eq_true, decide_eq_true_eq] at h
    simp only [over, notTooLong _ 4294967295 h.1 (by decide), notOverL_of_fits e l h.2, Bool.or_false]
  | .map kvs, h => by
    simp only [Spec.Serde.wireFits, Bool.and_eq_true, decide_eq_true_eq] at h
    simp only [over, notTooLong _ 4294967295 h.1 (by decide), notOverKV_of_fits e kvs h.2, Bool.or_false]
  | .pid _, h | .port _ _ _ _, h | .ref _ _ _ _, h | .bits _ _, h | .ilist _ _, h | .xfun _ _ _, h
  | .ifun _ _ _ _ _ _ _ _ _, h => by cases h
theorem notOverL_of_fits (e : EncErr) : ∀ l : List Term, Spec.Serde.wireFitsL l = true → overL e l = false
  | [], _ => by simp [overL]
  | t :: ts, h => by
    simp only [Spec.Serde.wireFitsL, Bool.and_eq_true] at h
    simp [overL, not_over_of_fits e t h.1, notOverL_of_fits e ts h.2]
theorem notOverKV_of_fits (e : EncErr) : ∀ l : List (Term × Term), Spec.Serde.wireFitsKV l = true → overKV e l = false
  | [], _ => by simp [overKV]
  | (k, v) :: r, h => by
    simp only [Spec.Serde.wireFitsKV, Bool.and_eq_true] at h
    simp [overKV, not_over_of_fits e k h.1.1, not_over_of_fits e v h.1.2, notOverKV_of_fits e r h.2]
end

mutual
theorem dep_eq : ∀ t : Term, Spec.Serde.wireFits t = true → dep t = Spec.Serde.nesting t
  | .atom _, _ | .int _, _ | .float _, _ | .bin _, _ | .str _, _ | .big _ _, _ | .nil, _ => by
    simp [dep, Spec.Serde.nesting]
  | .list l, h | .tuple l, h => by
    simp only [Spec.Serde.wireFits, Bool.and_eq_true] at h
    simp [dep, Spec.Serde.nesting, depL_eq l h.2]
  | .map kvs, h => by
    simp only [Spec.Serde.wireFits, Bool.and_eq_true] at h
    simp [dep, Spec.Serde.nesting, depKV_eq kvs h.2]
  | .pid _, h | .port _ _ _ _, h | .ref _ _ _ _, h | .bits _ _, h | .ilist _ _, h | .xfun _ _ _, h
  | .ifun _ _ _ _ _ _ _ _ _, h => by cases h
theorem depL_eq : ∀ l : List Term, Spec.Serde.wireFitsL l = true → depL l = Spec.Serde.nestingL l
  | [], _ => by simp [depL, Spec.Serde.nestingL]
  | t :: ts, h => by
    simp only [Spec.Serde.wireFitsL, Bool.and_eq_true] at h
    simp [depL, Spec.Serde.nestingL, dep_eq t h.1, depL_eq ts h.2]
theorem depKV_eq : ∀ l : List (Term × Term), Spec.Serde.wireFitsKV l = true → depKV l = Spec.Serde.nestingKV l
  | [], _ => by simp [depKV, Spec.Serde.nestingKV]
  | (k, v) :: r, h => by
    simp only [Spec.Serde.wireFitsKV, Bool.and_eq_true] at h
    simp [depKV, Spec.Serde.nestingKV, dep_eq k h.1.1, dep_eq v h.1.2, depKV_eq r h.2]
end

/-- the codec round trip (Lemmas/RoundTrip.lean) on the serialiser's fragment, in terms of `Serde.wireT` -/
theorem decode_encode (x : Ext) (t : Term) (bs : Bytes) (hf : Spec.Serde.wireFits t = true)
    (hd : dep t ≤ MAX_NESTING_DEPTH) (he : encode t = .ok bs) : decode x bs = .ok (Serde.wireT t) := by
  have hw := wfT_of_fits t hf
  rw [← wire_eq t hf]
  unfold encode at he
  cases h : enc [] t with
  | error e => simp [h] at he
  | ok b =>
    simp [h] at he; subst he
    have hl := tsz_le_length [] t b hw h
    have := dec_enc x {} [] (cfgFor_nil _) (by simp) t b [] (b.length + 1 + x.extra) 0 hw (by omega) h (by omega)
    simp only [List.append_nil] at this
    simp [decode, decodeWith, this]

theorem encode_err (t : Term) (e : EncErr) (h : encode t = .error e) : over e t = true := by
  unfold encode at h
  split at h
  · cases h
  · cases h; exact enc_err [] t e ‹_›

/-- within the limits `to_bytes` succeeds -/
theorem encode_ok (t : Term) (hf : Spec.Serde.wireFits t = true) : ∃ bs, encode t = .ok bs := by
  cases h : encode t with
  | ok b => exact ⟨b, rfl⟩
  | error e =>
    have := encode_err t e h
    rw [not_over_of_fits e t hf] at this; cases this

end Edp.SerdeBytes
