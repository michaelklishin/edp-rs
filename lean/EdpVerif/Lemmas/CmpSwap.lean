import EdpVerif.Lemmas.Order
/-!
Everything the files after this one (transitivity, `==`, Erlang's order, the wire order) use of `cmpN`: its value per pair
of constructors as equations, and `cmpN_ind`, induction on pairs of terms along its recursion.
First use, at the end: `cmpN a b = (cmpN b a).swap` for ALL terms (no well-formedness needed).
-/
open Edp Edp.Term

namespace Edp.Term
@[simp] theorem rank_int (i) : rank (.int i) = 0 := rfl
@[simp] theorem rank_big (n d) : rank (.big n d) = 0 := rfl
@[simp] theorem rank_float (b) : rank (.float b) = 0 := rfl
@[simp] theorem rank_atom (b) : rank (.atom b) = 1 := rfl
@[simp] theorem rank_ref (a b c d) : rank (.ref a b c d) = 2 := rfl
@[simp] theorem rank_xfun (a b c) : rank (.xfun a b c) = 3 := rfl
@[simp] theorem rank_ifun (a b c d e f g h i) : rank (.ifun a b c d e f g h i) = 3 := rfl
@[simp] theorem rank_port (a b c d) : rank (.port a b c d) = 4 := rfl
@[simp] theorem rank_pid (p) : rank (.pid p) = 5 := rfl
@[simp] theorem rank_tuple (l) : rank (.tuple l) = 6 := rfl
@[simp] theorem rank_map (l) : rank (.map l) = 7 := rfl
@[simp] theorem rank_nil : rank .nil = 8 := rfl
@[simp] theorem rank_list (l) : rank (.list l) = 8 := rfl
@[simp] theorem rank_ilist (l t) : rank (.ilist l t) = 8 := rfl
@[simp] theorem rank_bin (b) : rank (.bin b) = 9 := rfl
@[simp] theorem rank_bits (b n) : rank (.bits b n) = 9 := rfl
@[simp] theorem rank_str (b) : rank (.str b) = 9 := rfl

theorem cmpN_of_rank_ne (a b : Term) (h : rank a ≠ rank b) : cmpN a b = compare (rank a) (rank b) :=
  (cmpN.eq_def a b).trans (if_pos h)
end Edp.Term

namespace Edp

theorem rank_le_9 (a : Term) : rank a ≤ 9 := by cases a <;> simp

theorem rank_eq_0 {a : Term} (h : rank a = 0) : (∃ i, a = .int i) ∨ (∃ n d, a = .big n d) ∨ (∃ f, a = .float f) := by
  cases a <;> simp at h
  · exact .inl ⟨_, rfl⟩
  · exact .inr (.inr ⟨_, rfl⟩)
  · exact .inr (.inl ⟨_, _, rfl⟩)
theorem rank_eq_1 {a : Term} (h : rank a = 1) : ∃ x, a = .atom x := by cases a <;> simp at h; exact ⟨_, rfl⟩
theorem rank_eq_2 {a : Term} (h : rank a = 2) : ∃ n c i l, a = .ref n c i l := by
  cases a <;> simp at h; exact ⟨_, _, _, _, rfl⟩
theorem rank_eq_3 {a : Term} (h : rank a = 3) :
    (∃ m f ar, a = .xfun m f ar) ∨ (∃ ar u i nf m oi ou p fr, a = .ifun ar u i nf m oi ou p fr) := by
  cases a <;> simp at h
  · exact .inl ⟨_, _, _, rfl⟩
  · exact .inr ⟨_, _, _, _, _, _, _, _, _, rfl⟩
theorem rank_eq_4 {a : Term} (h : rank a = 4) : ∃ n i c l, a = .port n i c l := by
  cases a <;> simp at h; exact ⟨_, _, _, _, rfl⟩
theorem rank_eq_5 {a : Term} (h : rank a = 5) : ∃ p, a = .pid p := by cases a <;> simp at h; exact ⟨_, rfl⟩
theorem rank_eq_6 {a : Term} (h : rank a = 6) : ∃ l, a = .tuple l := by cases a <;> simp at h; exact ⟨_, rfl⟩
theorem rank_eq_7 {a : Term} (h : rank a = 7) : ∃ l, a = .map l := by cases a <;> simp at h; exact ⟨_, rfl⟩
theorem rank_eq_8 {a : Term} (h : rank a = 8) : a = .nil ∨ (∃ x, a = .list x) ∨ (∃ x t, a = .ilist x t) := by
  cases a <;> simp at h
  · exact .inr (.inl ⟨_, rfl⟩)
  · exact .inr (.inr ⟨_, _, rfl⟩)
  · exact .inl rfl
theorem rank_eq_9 {a : Term} (h : rank a = 9) : (∃ x, a = .bin x) ∨ (∃ x n, a = .bits x n) ∨ (∃ x, a = .str x) := by
  cases a <;> simp at h
  · exact .inl ⟨_, rfl⟩
  · exact .inr (.inl ⟨_, _, rfl⟩)
  · exact .inr (.inr ⟨_, rfl⟩)

/-- what `norm` makes of an improper list whose parts are already normalised -/
def mkIlist (l : List Term) (t : Term) : Term :=
  match l, t with
  | [], t' => t'
  | l', .nil => .list l'
  | l', .list l2 => .list (l' ++ l2)
  | l', .ilist l2 t2 => .ilist (l' ++ l2) t2
  | l', t' => .ilist l' t'

theorem norm_ilist (l : List Term) (t : Term) : norm (.ilist l t) = mkIlist (normL l) (norm t) := rfl

theorem mkIlist_cons_nonlist (a : Term) (l : List Term) {t : Term} (h : rank t ≠ 8) :
    mkIlist (a :: l) t = .ilist (a :: l) t := by
  cases t <;> first | rfl | exact absurd rfl h

def mkList (l : List Term) : Term :=
  match l with
  | [] => .nil
  | l' => .list l'

theorem norm_list (l : List Term) : norm (.list l) = mkList (normL l) := rfl

theorem isListLike_iff (t : Term) : isListLike t = true ↔ rank t = 8 := by cases t <;> simp [isListLike]

-- `simp [cmpN]` here, `cmpN.eq_def` below: `simp` makes Lean derive the equations `cmpN.eq_1 …` of all arms (slow, the arms
-- overlap) and keeps them with this file, where the later files that unfold `cmpN` by `simp` find them.
theorem cmpN_int_int (x y : Int) : cmpN (.int x) (.int y) = compare x y := by simp [cmpN]
theorem cmpN_int_big (x n d) : cmpN (.int x) (.big n d) = cmpIntBig x n d := (cmpN.eq_def _ _).trans rfl
theorem cmpN_big_int (n d y) : cmpN (.big n d) (.int y) = (cmpIntBig y n d).swap := (cmpN.eq_def _ _).trans rfl
theorem cmpN_big_big (n d n2 d2) : cmpN (.big n d) (.big n2 d2) = cmpSignedMag n d n2 d2 := (cmpN.eq_def _ _).trans rfl
theorem cmpN_int_float (x f) : cmpN (.int x) (.float f) = cmpIntFloat x f := (cmpN.eq_def _ _).trans rfl
theorem cmpN_float_int (f y) : cmpN (.float f) (.int y) = (cmpIntFloat y f).swap := (cmpN.eq_def _ _).trans rfl
theorem cmpN_big_float (n d f) : cmpN (.big n d) (.float f) = cmpSignedMagFloat n d f := (cmpN.eq_def _ _).trans rfl
theorem cmpN_float_big (f n d) : cmpN (.float f) (.big n d) = (cmpSignedMagFloat n d f).swap :=
  (cmpN.eq_def _ _).trans rfl
theorem cmpN_float_float (x y : Nat) : cmpN (.float x) (.float y) = cmpFloat x y := (cmpN.eq_def _ _).trans rfl
theorem cmpN_atom (x y : Bytes) : cmpN (.atom x) (.atom y) = bytesCmp x y := (cmpN.eq_def _ _).trans rfl
theorem cmpN_ref (n c ids l n2 c2 ids2 l2) :
    cmpN (.ref n c ids l) (.ref n2 c2 ids2 l2) = (bytesCmp n n2).then ((compare c c2).then (lexCmp ids ids2)) :=
  (cmpN.eq_def _ _).trans rfl
theorem cmpN_xfun (m f a m2 f2 a2) :
    cmpN (.xfun m f a) (.xfun m2 f2 a2) = (bytesCmp m m2).then ((bytesCmp f f2).then (compare a a2)) :=
  (cmpN.eq_def _ _).trans rfl
theorem cmpN_xfun_ifun (m f a a2 u i nf m2 oi ou p fr) :
    cmpN (.xfun m f a) (.ifun a2 u i nf m2 oi ou p fr) = .lt := (cmpN.eq_def _ _).trans rfl
theorem cmpN_ifun_xfun (a u i nf m oi ou p fr m2 f a2) :
    cmpN (.ifun a u i nf m oi ou p fr) (.xfun m2 f a2) = .gt := (cmpN.eq_def _ _).trans rfl
theorem cmpN_ifun (a u i nf m oi ou p fr a2 u2 i2 nf2 m2 oi2 ou2 p2 fr2) :
    cmpN (.ifun a u i nf m oi ou p fr) (.ifun a2 u2 i2 nf2 m2 oi2 ou2 p2 fr2) =
      (bytesCmp m m2).then ((compare oi oi2).then ((compare ou ou2).then ((compare i i2).then
        ((bytesCmp u u2).then ((pidCmp p p2).then (cmpZip fr fr2 .eq .lt .gt)))))) := (cmpN.eq_def _ _).trans rfl
theorem cmpN_port (n i c l n2 i2 c2 l2) :
    cmpN (.port n i c l) (.port n2 i2 c2 l2) = (bytesCmp n n2).then ((compare i i2).then (compare c c2)) :=
  (cmpN.eq_def _ _).trans rfl
theorem cmpN_pid (p q : PidF) : cmpN (.pid p) (.pid q) = pidCmp p q := (cmpN.eq_def _ _).trans rfl
theorem cmpN_tuple (x y : List Term) :
    cmpN (.tuple x) (.tuple y) = (compare x.length y.length).then (cmpZip x y .eq .eq .eq) := (cmpN.eq_def _ _).trans rfl

/-- keys and values of two maps are compared like the elements of two tuples -/
theorem cmpKeys_zip : ∀ (xs ys : List (Term × Term)), cmpKeys xs ys = cmpZip (xs.map (·.1)) (ys.map (·.1)) .eq .eq .eq
  | [], [] | [], _ :: _ | _ :: _, [] => by simp [cmpKeys, cmpZip]
  | (k, _) :: r, (k2, _) :: r2 => by simp only [cmpKeys, List.map_cons, cmpZip, cmpKeys_zip r r2]
theorem cmpVals_zip : ∀ (xs ys : List (Term × Term)), cmpVals xs ys = cmpZip (xs.map (·.2)) (ys.map (·.2)) .eq .eq .eq
  | [], [] | [], _ :: _ | _ :: _, [] => by simp [cmpVals, cmpZip]
  | (_, v) :: r, (_, v2) :: r2 => by simp only [cmpVals, List.map_cons, cmpZip, cmpVals_zip r r2]

theorem cmpN_map (x y : List (Term × Term)) :
    cmpN (.map x) (.map y) = (compare x.length y.length).then
      ((cmpZip (x.map (·.1)) (y.map (·.1)) .eq .eq .eq).then (cmpZip (x.map (·.2)) (y.map (·.2)) .eq .eq .eq)) := by
  rw [← cmpKeys_zip, ← cmpVals_zip]; exact (cmpN.eq_def _ _).trans rfl

/-- elements and final tail (`none` = nil) of a list-like term -/
def cells : Term → List Term × Option Term
  | .list x => (x, none)
  | .ilist x t => (x, some t)
  | _ => ([], none)

def cmpTail : Option Term → Option Term → Ordering
  | none, none => .eq
  | none, some t => compare listRank (rank t)
  | some t, none => compare (rank t) listRank
  | some t, some u => cmpN t u
def aOutOf : Option Term → Ordering
  | none => .lt
  | some t => compare (rank t) listRank
def bOutOf : Option Term → Ordering
  | none => .gt
  | some t => compare listRank (rank t)

theorem cmpZip_nil_left (ys : List Term) (b ao bo : Ordering) : cmpZip [] ys b ao bo = if ys.isEmpty then b else ao := by
  cases ys <;> simp [cmpZip]
theorem cmpZip_nil_right (xs : List Term) (b ao bo : Ordering) : cmpZip xs [] b ao bo = if xs.isEmpty then b else bo := by
  cases xs <;> simp [cmpZip]

theorem cmpN_cells (a b : Term) (ha : rank a = 8) (hb : rank b = 8) :
    cmpN a b = cmpZip (cells a).1 (cells b).1 (cmpTail (cells a).2 (cells b).2) (aOutOf (cells a).2) (bOutOf (cells b).2) := by
  rcases rank_eq_8 ha with rfl | ⟨x, rfl⟩ | ⟨x, t, rfl⟩ <;> rcases rank_eq_8 hb with rfl | ⟨y, rfl⟩ | ⟨y, u, rfl⟩ <;>
    refine (cmpN.eq_def _ _).trans ?_ <;> simp only [cells, cmpZip_nil_left, cmpZip_nil_right] <;> rfl

/-- bytes and used bits of the last byte -/
def bp (a : Term) : Bytes × Nat := (bitParts a).getD ([], 0)

theorem cmpN_bits (a b : Term) (ha : rank a = 9) (hb : rank b = 9) :
    cmpN a b = (bytesCmp (bp a).1 (bp b).1).then (compare (bp a).2 (bp b).2) := by
  rcases rank_eq_9 ha with ⟨x, rfl⟩ | ⟨x, n, rfl⟩ | ⟨x, rfl⟩ <;> rcases rank_eq_9 hb with ⟨y, rfl⟩ | ⟨y, m, rfl⟩ | ⟨y, rfl⟩ <;>
    exact (cmpN.eq_def _ _).trans rfl

theorem cells_size {a : Term} (ha : rank a = 8) :
    (∀ x ∈ (cells a).1, sizeOf x < sizeOf a) ∧ (∀ t, (cells a).2 = some t → sizeOf t < sizeOf a) := by
  rcases rank_eq_8 ha with rfl | ⟨x, rfl⟩ | ⟨x, t, rfl⟩
  · simp [cells]
  · refine ⟨fun e me => ?_, by simp [cells]⟩
    have := List.sizeOf_lt_of_mem (show e ∈ x from me)
    simp only [Term.list.sizeOf_spec]; omega
  · refine ⟨fun e me => ?_, fun t' ht => ?_⟩
    · have := List.sizeOf_lt_of_mem (show e ∈ x from me)
      simp only [Term.ilist.sizeOf_spec]; omega
    · simp only [cells, Option.some.injEq] at ht; subst ht
      simp only [Term.ilist.sizeOf_spec]; omega

/-- Induction on pairs of terms along the recursion of `cmpN`: terms of different rank; two numbers; the pairs of equal
constructors, with the hypothesis for the elements pairwise (free variables, tuple elements, map keys, map values); two
lists, with the hypothesis for their cells and tails; two bit-strings. -/
theorem cmpN_ind {P : Term → Term → Prop}
    (ne : ∀ a b, rank a ≠ rank b → P a b)
    (num : ∀ a b, rank a = 0 → rank b = 0 → P a b)
    (atom : ∀ x y, P (.atom x) (.atom y))
    (ref : ∀ n c ids l n2 c2 ids2 l2, P (.ref n c ids l) (.ref n2 c2 ids2 l2))
    (xfun : ∀ m f a m2 f2 a2, P (.xfun m f a) (.xfun m2 f2 a2))
    (xfun_ifun : ∀ m f a a2 u i nf m2 oi ou p fr, P (.xfun m f a) (.ifun a2 u i nf m2 oi ou p fr))
    (ifun_xfun : ∀ a u i nf m oi ou p fr m2 f a2, P (.ifun a u i nf m oi ou p fr) (.xfun m2 f a2))
    (ifun : ∀ a u i nf m oi ou p fr a2 u2 i2 nf2 m2 oi2 ou2 p2 fr2, (∀ x ∈ fr, ∀ y ∈ fr2, P x y) →
      P (.ifun a u i nf m oi ou p fr) (.ifun a2 u2 i2 nf2 m2 oi2 ou2 p2 fr2))
    (port : ∀ n i c l n2 i2 c2 l2, P (.port n i c l) (.port n2 i2 c2 l2))
    (pid : ∀ p q, P (.pid p) (.pid q))
    (tuple : ∀ x y, (∀ a ∈ x, ∀ b ∈ y, P a b) → P (.tuple x) (.tuple y))
    (map : ∀ x y, (∀ k ∈ x.map (·.1), ∀ k2 ∈ y.map (·.1), P k k2) → (∀ v ∈ x.map (·.2), ∀ v2 ∈ y.map (·.2), P v v2) →
      P (.map x) (.map y))
    (list : ∀ a b, rank a = 8 → rank b = 8 → (∀ x ∈ (cells a).1, ∀ y ∈ (cells b).1, P x y) →
      (∀ t u, (cells a).2 = some t → (cells b).2 = some u → P t u) → P a b)
    (bits : ∀ a b, rank a = 9 → rank b = 9 → P a b) (a b : Term) : P a b := by
  refine (measure sizeOf).wf.induction (C := fun a => ∀ b, P a b) a (fun a ih b => ?_) b
  replace ih : ∀ x, sizeOf x < sizeOf a → ∀ y, P x y := ih
  by_cases h : rank a = rank b
  · have hb := h.symm
    cases a with
    | int _ | big _ _ | float _ => exact num _ _ rfl hb
    | atom x => obtain ⟨y, rfl⟩ := rank_eq_1 hb; exact atom x y
    | ref => obtain ⟨_, _, _, _, rfl⟩ := rank_eq_2 hb; exact ref ..
    | xfun =>
      rcases rank_eq_3 hb with ⟨_, _, _, rfl⟩ | ⟨_, _, _, _, _, _, _, _, _, rfl⟩
      · exact xfun ..
      · exact xfun_ifun ..
    | ifun _ _ _ _ _ _ _ _ fr =>
      rcases rank_eq_3 hb with ⟨_, _, _, rfl⟩ | ⟨_, _, _, _, _, _, _, _, _, rfl⟩
      · exact ifun_xfun ..
      · refine ifun _ _ _ _ _ _ _ _ _ _ _ _ _ _ _ _ _ _ (fun x hx y _ => ih x ?_ y)
        have := List.sizeOf_lt_of_mem hx
        simp only [Term.ifun.sizeOf_spec]; omega
    | port => obtain ⟨_, _, _, _, rfl⟩ := rank_eq_4 hb; exact port ..
    | pid p => obtain ⟨q, rfl⟩ := rank_eq_5 hb; exact pid p q
    | tuple x =>
      obtain ⟨y, rfl⟩ := rank_eq_6 hb
      refine tuple x y (fun a ha b _ => ih a ?_ b)
      have := List.sizeOf_lt_of_mem ha
      simp only [Term.tuple.sizeOf_spec]; omega
    | map x =>
      obtain ⟨y, rfl⟩ := rank_eq_7 hb
      have sz : ∀ p ∈ x, sizeOf p.1 < sizeOf (Term.map x) ∧ sizeOf p.2 < sizeOf (Term.map x) := by
        intro p mp
        have := List.sizeOf_lt_of_mem mp
        obtain ⟨k, v⟩ := p
        simp only [Term.map.sizeOf_spec, Prod.mk.sizeOf_spec] at this ⊢; omega
      refine map x y (fun k hk k2 _ => ?_) (fun v hv v2 _ => ?_)
      · obtain ⟨p, hp, rfl⟩ := List.mem_map.mp hk; exact ih _ (sz p hp).1 k2
      · obtain ⟨p, hp, rfl⟩ := List.mem_map.mp hv; exact ih _ (sz p hp).2 v2
    | nil | list _ | ilist _ _ =>
      exact list _ _ rfl hb (fun x hx y _ => ih x ((cells_size rfl).1 x hx) y)
        (fun t u ht _ => ih t ((cells_size rfl).2 t ht) u)
    | bin _ | bits _ _ | str _ => exact bits _ _ rfl hb
  · exact ne a b h

theorem cmpZip_swap_of : ∀ (xs ys : List Term) (both aOut bOut : Ordering),
    (∀ x ∈ xs, ∀ y ∈ ys, cmpN x y = (cmpN y x).swap) →
    cmpZip xs ys both aOut bOut = (cmpZip ys xs both.swap bOut.swap aOut.swap).swap
  | [], [], _, _, _, _ | [], _ :: _, _, _, _, _ | _ :: _, [], _, _, _, _ => by simp [cmpZip]
  | x :: xs, y :: ys, _, _, _, ih => by
    simp only [cmpZip, thenO, Ordering.swap_then]
    rw [ih x (by simp) y (by simp), cmpZip_swap_of xs ys _ _ _ (fun x hx y hy =>
      ih x (List.mem_cons_of_mem _ hx) y (List.mem_cons_of_mem _ hy))]

theorem cmpTail_swap (t u : Option Term) (ih : ∀ x y, t = some x → u = some y → cmpN x y = (cmpN y x).swap) :
    cmpTail t u = (cmpTail u t).swap := by
  cases t <;> cases u <;> simp only [cmpTail]
  · rfl
  · exact compare_nat_rev _ _
  · exact compare_nat_rev _ _
  · exact ih _ _ rfl rfl

theorem aOutOf_swap (t : Option Term) : aOutOf t = (bOutOf t).swap := by
  cases t
  · rfl
  · exact compare_nat_rev _ _

end Edp

theorem cmpN_swap (a b : Term) : cmpN a b = (cmpN b a).swap := by
  induction a, b using cmpN_ind with
  | ne a b h => rw [cmpN_of_rank_ne a b h, cmpN_of_rank_ne b a (Ne.symm h), ← compare_nat_rev]
  | num a b ha hb =>
    rcases rank_eq_0 ha with ⟨x, rfl⟩ | ⟨n, d, rfl⟩ | ⟨f, rfl⟩ <;> rcases rank_eq_0 hb with ⟨y, rfl⟩ | ⟨n2, d2, rfl⟩ | ⟨g, rfl⟩ <;>
      simp only [cmpN_int_int, cmpN_int_big, cmpN_big_int, cmpN_big_big, cmpN_int_float, cmpN_float_int, cmpN_big_float,
        cmpN_float_big, cmpN_float_float, Ordering.swap_swap, ← compare_int_rev, ← cmpSignedMag_rev, ← cmpFloat_rev]
  | atom x y => rw [cmpN_atom, cmpN_atom, ← bytesCmp_rev]
  | ref => simp only [cmpN_ref, Ordering.swap_then, ← bytesCmp_rev, ← compare_nat_rev, ← lexCmp_rev]
  | xfun => simp only [cmpN_xfun, Ordering.swap_then, ← bytesCmp_rev, ← compare_nat_rev]
  | xfun_ifun | ifun_xfun => rw [cmpN_xfun_ifun, cmpN_ifun_xfun]; rfl
  | ifun _ _ _ _ _ _ _ _ fr _ _ _ _ _ _ _ _ fr2 ih =>
    simp only [cmpN_ifun, Ordering.swap_then, ← bytesCmp_rev, ← compare_nat_rev, ← pidCmp_rev]
    rw [cmpZip_swap_of fr fr2 _ _ _ ih]; rfl
  | port => simp only [cmpN_port, Ordering.swap_then, ← bytesCmp_rev, ← compare_nat_rev]
  | pid p q => rw [cmpN_pid, cmpN_pid, ← pidCmp_rev]
  | tuple x y ih => rw [cmpN_tuple, cmpN_tuple, Ordering.swap_then, ← compare_nat_rev, cmpZip_swap_of x y _ _ _ ih]; rfl
  | map x y ihk ihv =>
    rw [cmpN_map, cmpN_map, Ordering.swap_then, Ordering.swap_then, ← compare_nat_rev, cmpZip_swap_of _ _ _ _ _ ihk,
      cmpZip_swap_of _ _ _ _ _ ihv]; rfl
  | list a b ha hb ihe iht =>
    rw [cmpN_cells a b ha hb, cmpN_cells b a hb ha, cmpZip_swap_of _ _ _ _ _ ihe, cmpTail_swap _ _ iht,
      aOutOf_swap (cells a).2, aOutOf_swap (cells b).2]
    simp only [Ordering.swap_swap]
  | bits a b ha hb =>
    rw [cmpN_bits a b ha hb, cmpN_bits b a hb ha, Ordering.swap_then, ← bytesCmp_rev, ← compare_nat_rev]

theorem cmpN_self (t : Term) : cmpN t t = .eq := by
  have h := cmpN_swap t t
  cases h' : cmpN t t <;> rw [h'] at h <;> first | rfl | cases h

theorem cmpZip_swap (xs ys : List Term) (both aOut bOut : Ordering) :
    cmpZip xs ys both aOut bOut = (cmpZip ys xs both.swap bOut.swap aOut.swap).swap :=
  cmpZip_swap_of xs ys both aOut bOut (fun x _ y _ => cmpN_swap x y)
theorem cmpKeys_swap (xs ys : List (Term × Term)) : cmpKeys xs ys = (cmpKeys ys xs).swap := by
  rw [cmpKeys_zip, cmpKeys_zip, cmpZip_swap]; rfl
theorem cmpVals_swap (xs ys : List (Term × Term)) : cmpVals xs ys = (cmpVals ys xs).swap := by
  rw [cmpVals_zip, cmpVals_zip, cmpZip_swap]; rfl

namespace Edp.Term
theorem cmp_swap (a b : Term) : cmp a b = (cmp b a).swap := cmpN_swap _ _
theorem cmp_refl (a : Term) : cmp a a = .eq := cmpN_self _
theorem cmp_atom (a b : Bytes) : cmp (.atom a) (.atom b) = bytesCmp a b := cmpN_atom a b
end Edp.Term
