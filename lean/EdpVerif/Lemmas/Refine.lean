import EdpVerif.Lemmas.SpecValid
import EdpVerif.Lemmas.DecArms
import EdpVerif.Lemmas.Utf8
/-! The decoder model against the independent spec reader, for ALL byte strings: whenever both accept, they agree
(C03).  The two are the same recursive-descent program over the same primitive readers; `Rel` relates a computation of
the one to a computation of the other, with one rule per way of reading a field, and the agreement of a tag is the list
of its fields (`dec_agrees`).  Lemmas/RefineEx.lean and Lemmas/DecComplete.lean use the same rules for their relations. -/
namespace Edp
open Term

mutual
/-- every map of the term re-inserted entry by entry into the ordered map, in stored order — what the decoder does to
the pairs as they arrive (`BTreeMap::insert`: reorders, and merges keys that compare equal) -/
def reins : Term → Term
  | .list l => .list (reinsL l)
  | .ilist l t => .ilist (reinsL l) (reins t)
  | .map kvs => .map (insertAll [] (reinsKV kvs))
  | .tuple l => .tuple (reinsL l)
  | .ifun a u i nf m oi ou p fr => .ifun a u i nf m oi ou p (reinsL fr)
  | t => t
def reinsL : List Term → List Term
  | [] => []
  | t :: ts => reins t :: reinsL ts
def reinsKV : List (Term × Term) → List (Term × Term)
  | [] => []
  | (k, v) :: r => (reins k, reins v) :: reinsKV r
end

/-- `v ≈ den t`: `v` is the value of a term `t₀` (maps in arrival order) of which `t` is the re-inserted form -/
def arrivalOf (v : Value) (t : Term) : Prop := ∃ t₀, v = den t₀ ∧ t = reins t₀

theorem reins_leaf {t t₀ : Term} (h : t = reins t₀) (hl : t.isLeaf = true) : t₀ = t := by
  subst h; cases t₀ <;> simp_all [reins, Term.isLeaf]

theorem leaf {t : Term} {v : Value} (hv : v = den t) (h : t = reins t := by rfl) : arrivalOf v t := ⟨t, hv, h⟩

/-- only a non-empty input read with fuel left gives a result -/
theorem dec_ok_cons {x : Ext} {cfg : DecCfg} {f d : Nat} {bs : Bytes} {p : Term × Bytes} (h : dec x cfg f d bs = .ok p) :
    ∃ f' tag tl, f = f' + 1 ∧ bs = tag :: tl := by
  cases f with
  | zero => simp [dec] at h
  | succ f => cases bs with
    | nil => simp [dec] at h
    | cons tag tl => exact ⟨f, tag, tl, rfl, rfl⟩

theorem parse_some_cons {env : Spec.Env} {f : Nat} {bs : Bytes} {q : Value × Bytes} (h : Spec.parse env f bs = some q) :
    ∃ f' tag tl, f = f' + 1 ∧ bs = tag :: tl := by
  cases f with
  | zero => simp [Spec.parse] at h
  | succ f => cases bs with
    | nil => simp [Spec.parse] at h
    | cons tag tl => exact ⟨f, tag, tl, rfl, rfl⟩

/-- `open_dec h`: in `h : dec x cfg (fuel + 1) d (T :: bs) = .ok p`, `T` a literal, drop the two guards and leave the
arm of tag `T`.  (`whnf` picks the arm without looking at the other thirty; `simp` would walk through all of them.) -/
macro "open_dec " h:ident : tactic => `(tactic| (
  replace $h := (guardTag_ok ((dec.eq_3 ..).symm.trans $h)).2.2
  conv at $h => lhs; whnf))

/-- the tags `Spec.parse` has an arm for, in the order of its arms -/
def specTags : List Nat :=
  [97, 98, 110, 111, 70, 99, 119, 118, 115, 100, 82, 104, 105, 106, 107, 108, 109, 77, 116, 88, 103, 120, 89, 102, 90, 114,
    101, 113, 112, 121]

theorem parse_some_tag {env : Spec.Env} {f : Nat} {tag : UInt8} {bs : Bytes} {q : Value × Bytes}
    (h : Spec.parse env (f + 1) (tag :: bs) = some q) : tag ∈ specTags.map UInt8.ofNat := by
  refine List.mem_map.mpr ⟨tag.toNat, ?_, UInt8.ofNat_toNat⟩
  rw [Spec.parse.eq_3] at h
  split at h
  all_goals first
    | (rename_i heq; rw [heq]; decide)
    | cases h

theorem rdWords_spec (n : Nat) (bs : Bytes) :
    rdWords n bs = (match Spec.rdWords n bs with | some p => .ok p | none => .error .err) := by
  induction n generalizing bs with
  | zero => rfl
  | succ n ih =>
    simp only [rdWords, Spec.rdWords, rdU]
    cases rdN 4 bs with
    | none => rfl
    | some p => obtain ⟨w, r⟩ := p; simp only [ih r]; cases Spec.rdWords n r <;> rfl

theorem i32_eq (n : Nat) : Spec.i32 n = i32OfU32 n := by simp [Spec.i32, i32OfU32]

/-- Latin-1 atom text (ATOM_EXT / SMALL_ATOM_EXT): the characters stored are the bytes received, one per byte -/
theorem latin1_decode (b : Bytes) : utf8Decode (latin1ToUtf8 b) = some (Spec.latin1 b) := by
  unfold latin1ToUtf8 utf8Encode Spec.latin1
  induction b with
  | nil => rfl
  | cons c cs ih =>
    have hc := c.toNat_lt
    rw [List.map_cons, List.flatMap_cons, utf8Decode_encodeCp_append _ (by omega), ih]
    rfl

theorem latin1_cps (b : Bytes) : cps (latin1ToUtf8 b) = Spec.latin1 b := by simp [cps, latin1_decode]

theorem denL_ints (s : Bytes) : denL (s.map fun b => Term.int b.toNat) = s.map fun b => Value.int b.toNat := by
  induction s with
  | nil => rfl
  | cons a s ih => simp [denL, den, ih]

theorem reinsL_ints (s : Bytes) : reinsL (s.map fun b => Term.int b.toNat) = s.map fun b => Term.int b.toNat := by
  induction s with
  | nil => rfl
  | cons a s ih => simp [reinsL, reins, ih]

/-- The decoder's computation `a` and the reader's computation `b` side by side.  When both succeed and the decoder's
result passes `G`, they stop at the same byte and the results are related by `S`; `L` is what is claimed when only the
decoder succeeds (with a result passing `G`), `T` when only the reader does; nothing when both fail.
The rules below follow the shapes of `match` that `dec` and `Spec.parse` are written with (`B`: read a field and go on;
`M`: read the last field and build the result), so that a fact about a tag is the list of its fields. -/
def Rel {α β : Type} (G : α → Prop) (S : β → α → Prop) (L T : Prop) :
    Except DErr (α × Bytes) → Option (β × Bytes) → Prop
  | .ok (x, r), some (y, r') => G x → r' = r ∧ S y x
  | .ok (x, _), none => G x → L
  | .error _, some _ => T
  | .error _, none => True

/-- whenever both succeed, they stop at the same byte and their results are related by `P` -/
abbrev Agr {α β : Type} (P : β → α → Prop) := Rel (fun _ : α => True) P True True

namespace Rel
variable {α β δ : Type} {G : α → Prop} {S : β → α → Prop} {L T : Prop}

theorem errL {e : DErr} {b : Option (β × Bytes)} (h : T := by trivial) : Rel G S L T (.error e) b := by
  cases b with
  | none => trivial
  | some q => exact h

theorem noneR {a : Except DErr (α × Bytes)} (h : L := by trivial) : Rel G S L T a none := by
  rcases a with e | ⟨x, r⟩
  · trivial
  · exact fun _ => h

theorem pure {x : α} {y : β} {r : Bytes} (h : S y x := by first | rfl | trivial) :
    Rel G S L T (.ok (x, r)) (some (y, r)) := fun _ => ⟨rfl, h⟩

/-- a limit that only the decoder checks -/
theorem guardL {a : Except DErr (α × Bytes)} {b : Option (β × Bytes)} {c : Prop} [Decidable c] (h : Rel G S L T a b)
    (hc : c → T := by intros; trivial) : Rel G S L T (if c then .error .err else a) b := by
  split
  · exact errL (hc ‹c›)
  · exact h

/-- a condition that only the reader checks -/
theorem guardR {a : Except DErr (α × Bytes)} {b : Option (β × Bytes)} {c : Prop} [Decidable c] (h : Rel G S L T a b)
    (hc : c → L := by intros; trivial) : Rel G S L T a (if c then none else b) := by
  split
  · exact noneR (hc ‹c›)
  · exact h

theorem guardB {a : Except DErr (α × Bytes)} {b : Option (β × Bytes)} {c : Prop} [Decidable c] (h : Rel G S L T a b) :
    Rel G S L T (if c then a else .error .err) (if c then b else none) := by
  split
  · exact h
  · trivial

/-- the decoder's two checks together are the reader's one -/
theorem guard2 {a : Except DErr (α × Bytes)} {b : Option (β × Bytes)} {c c1 c2 : Prop} [Decidable c] [Decidable c1]
    [Decidable c2] (hc : c ↔ c1 ∨ c2) (h : Rel G S L T a b) :
    Rel G S L T (if c1 then .error .err else if c2 then .error .err else a) (if c then none else b) := by
  by_cases h1 : c1
  · rw [if_pos h1, if_pos (hc.mpr (.inl h1))]; trivial
  · by_cases h2 : c2
    · rw [if_neg h1, if_pos h2, if_pos (hc.mpr (.inr h2))]; trivial
    · rw [if_neg h1, if_neg h2, if_neg fun h => (hc.mp h).elim h1 h2]; exact h

section
variable (k : Nat) {bs : Bytes}

section
variable {K : Nat → Bytes → Except DErr (α × Bytes)} {K' : Nat → Bytes → Option (β × Bytes)}
  (h : ∀ a r, Rel G S L T (K a r) (K' a r))
include h

theorem rdB : Rel G S L T (match rdU k bs with | .error e => .error e | .ok (a, r) => K a r)
    (match rdN k bs with | some (a, r) => K' a r | none => none) := by
  unfold rdU; cases rdN k bs with
  | none => trivial
  | some p => exact h p.1 p.2

/-- the primed rules: the same with the arms of the decoder's `match` in the other order -/
theorem rdB' : Rel G S L T (match rdU k bs with | .ok (a, r) => K a r | .error e => .error e)
    (match rdN k bs with | some (a, r) => K' a r | none => none) := by
  unfold rdU; cases rdN k bs with
  | none => trivial
  | some p => exact h p.1 p.2

end

variable {g : Nat → α} {F : Nat × Bytes → β × Bytes}
  (h : ∀ a r, S (F (a, r)).1 (g a) := by intros; first | rfl | trivial) (hr : ∀ p, (F p).2 = p.2 := by intro; rfl)
include h hr

/-- `M` rules.  The reader's last step is `Option.map F`; `F` is kept a variable (`hr`: it passes the rest on), since a
pattern `fun (a, r) => (g' a, r)` would be solved only after the side conditions have been elaborated. -/
theorem rdM : Rel G S L T (match rdU k bs with | .error e => .error e | .ok (a, r) => .ok (g a, r))
    ((rdN k bs).map F) := by
  unfold rdU; cases rdN k bs with
  | none => trivial
  | some p => exact fun _ => ⟨hr p, h p.1 p.2⟩

theorem rdM' : Rel G S L T (match rdU k bs with | .ok (a, r) => .ok (g a, r) | .error e => .error e)
    ((rdN k bs).map F) := by
  unfold rdU; cases rdN k bs with
  | none => trivial
  | some p => exact fun _ => ⟨hr p, h p.1 p.2⟩

end

theorem takeB (n : Nat) {bs : Bytes} {K : Bytes → Bytes → Except DErr (α × Bytes)}
    {K' : Bytes → Bytes → Option (β × Bytes)} (h : ∀ a r, Rel G S L T (K a r) (K' a r)) :
    Rel G S L T (match takeE n bs with | .error e => .error e | .ok (a, r) => K a r)
      (match takeN n bs with | some (a, r) => K' a r | none => none) := by
  unfold takeE; cases takeN n bs with
  | none => trivial
  | some p => exact h p.1 p.2

theorem takeM (n : Nat) {bs : Bytes} {g : Bytes → α} {F : Bytes × Bytes → β × Bytes}
    (h : ∀ a r, S (F (a, r)).1 (g a) := by intros; first | rfl | trivial) (hr : ∀ p, (F p).2 = p.2 := by intro; rfl) :
    Rel G S L T (match takeE n bs with | .error e => .error e | .ok (a, r) => .ok (g a, r)) ((takeN n bs).map F) := by
  unfold takeE; cases takeN n bs with
  | none => trivial
  | some p => exact fun _ => ⟨hr p, h p.1 p.2⟩

theorem wordsM (n : Nat) {bs : Bytes} {g : List Nat → α} {F : List Nat × Bytes → β × Bytes}
    (h : ∀ a r, S (F (a, r)).1 (g a) := by intros; first | rfl | trivial) (hr : ∀ p, (F p).2 = p.2 := by intro; rfl) :
    Rel G S L T (match rdWords n bs with | .error e => .error e | .ok (a, r) => .ok (g a, r))
      ((Spec.rdWords n bs).map F) := by
  rw [rdWords_spec]; cases Spec.rdWords n bs with
  | none => trivial
  | some p => exact fun _ => ⟨hr p, h p.1 p.2⟩

/-- a sub-term, then more fields.  (The rules about sub-results are stated per type of sub-result and per order of arms:
`exact` has to find the very `match` of the definitions in them.) -/
theorem subB {a : Except DErr (Term × Bytes)} {b : Option (Value × Bytes)}
    {K : Term → Bytes → Except DErr (α × Bytes)} {K' : Value → Bytes → Option (β × Bytes)} {Q : Value → Term → Prop}
    (hab : Rel (fun _ => True) Q L T a b) (h : ∀ t v r, Q v t → Rel G S L T (K t r) (K' v r)) :
    Rel G S L T (match (generalizing := false) a with | .error e => .error e | .ok (t, r) => K t r)
      (match (generalizing := false) b with | some (v, r) => K' v r | none => none) := by
  rcases a with e | ⟨t, r⟩ <;> rcases b with _ | ⟨v, r'⟩
  · trivial
  · exact errL hab
  · exact noneR (hab trivial)
  · obtain ⟨rfl, hq⟩ := hab trivial; exact h _ _ _ hq

section
variable {a : Except DErr (List Term × Bytes)} {b : Option (List Value × Bytes)}

section
variable {K : List Term → Bytes → Except DErr (α × Bytes)} {K' : List Value → Bytes → Option (β × Bytes)}
  {Q : List Value → List Term → Prop} (hab : Rel (fun _ => True) Q L T a b)
  (h : ∀ t v r, Q v t → Rel G S L T (K t r) (K' v r))
include hab h

/-- an element sequence, then more fields -/
theorem seqB : Rel G S L T (match (generalizing := false) a with | .error e => .error e | .ok (t, r) => K t r)
    (match (generalizing := false) b with | some (v, r) => K' v r | none => none) := by
  rcases a with e | ⟨t, r⟩ <;> rcases b with _ | ⟨v, r'⟩
  · trivial
  · exact errL hab
  · exact noneR (hab trivial)
  · obtain ⟨rfl, hq⟩ := hab trivial; exact h _ _ _ hq

theorem seqB' : Rel G S L T (match (generalizing := false) a with | .ok (t, r) => K t r | .error e => .error e)
    (match (generalizing := false) b with | some (v, r) => K' v r | none => none) := by
  rcases a with e | ⟨t, r⟩ <;> rcases b with _ | ⟨v, r'⟩
  · trivial
  · exact errL hab
  · exact noneR (hab trivial)
  · obtain ⟨rfl, hq⟩ := hab trivial; exact h _ _ _ hq

end

variable {g : List Term → α} {F : List Value × Bytes → β × Bytes} {G₁ : List Term → Prop}
  {Q : List Value → List Term → Prop} (hab : Rel G₁ Q L T a b)
  (h : ∀ v t r, Q v t → S (F (v, r)).1 (g t) := by intros; trivial) (hg : ∀ t, G (g t) → G₁ t := by intros; trivial)
  (hr : ∀ p, (F p).2 = p.2 := by intro; rfl)
include hab h hg hr

/-- an element sequence as the last field; `hg`: what the guard on the result says about the elements -/
theorem seqM : Rel G S L T (match (generalizing := false) a with | .error e => .error e | .ok (t, r) => .ok (g t, r))
    (b.map F) := by
  rcases a with e | ⟨t, r⟩ <;> rcases b with _ | ⟨v, r'⟩
  · trivial
  · exact hab
  · exact fun hx => hab (hg t hx)
  · exact fun hx => ⟨(hr _).trans (hab (hg t hx)).1, h _ _ _ (hab (hg t hx)).2⟩

theorem seqM' : Rel G S L T (match (generalizing := false) a with | .ok (t, r) => .ok (g t, r) | .error e => .error e)
    (b.map F) := by
  rcases a with e | ⟨t, r⟩ <;> rcases b with _ | ⟨v, r'⟩
  · trivial
  · exact hab
  · exact fun hx => hab (hg t hx)
  · exact fun hx => ⟨(hr _).trans (hab (hg t hx)).1, h _ _ _ (hab (hg t hx)).2⟩

end

theorem kvM' {a : Except DErr (List (Term × Term) × Bytes)} {b : Option (List (Value × Value) × Bytes)}
    {g : List (Term × Term) → α} {F : List (Value × Value) × Bytes → β × Bytes} {G₁ : List (Term × Term) → Prop}
    {Q : List (Value × Value) → List (Term × Term) → Prop} (hab : Rel G₁ Q L T a b)
    (h : ∀ v t r, Q v t → S (F (v, r)).1 (g t) := by intros; trivial) (hg : ∀ t, G (g t) → G₁ t := by intros; trivial)
    (hr : ∀ p, (F p).2 = p.2 := by intro; rfl) :
    Rel G S L T (match (generalizing := false) a with | .ok (t, r) => .ok (g t, r) | .error e => .error e) (b.map F) := by
  rcases a with e | ⟨t, r⟩ <;> rcases b with _ | ⟨v, r'⟩
  · trivial
  · exact hab
  · exact fun hx => hab (hg t hx)
  · exact fun hx => ⟨(hr _).trans (hab (hg t hx)).1, h _ _ _ (hab (hg t hx)).2⟩

/-- the reader builds its result from that of a sub-reader; the decoder's computation is the sub-decoder's -/
theorem mapR {a : Except DErr (α × Bytes)} {b : Option (δ × Bytes)} {Q : δ → α → Prop} {g' : δ → β} (hab : Rel G Q L T a b)
    (h : ∀ y x, Q y x → S (g' y) x) : Rel G S L T a (b.map fun (y, r) => (g' y, r)) := by
  rcases a with e | ⟨x, r⟩ <;> rcases b with _ | ⟨y, r'⟩
  · trivial
  · exact hab
  · exact hab
  · exact fun hx => ⟨(hab hx).1, h _ _ (hab hx).2⟩

end Rel

namespace Agr
variable {α β : Type} {P : β → α → Prop} {a : Except DErr (α × Bytes)} {b : Option (β × Bytes)}

theorem intro (h : ∀ x r y r', a = .ok (x, r) → b = some (y, r') → r' = r ∧ P y x) : Agr P a b := by
  rcases a with e | ⟨x, r⟩ <;> rcases b with _ | ⟨y, r'⟩
  · trivial
  · trivial
  · exact fun _ => trivial
  · exact fun _ => h _ _ _ _ rfl rfl

theorem elim {x r y r'} (h1 : a = .ok (x, r)) (h2 : b = some (y, r')) (h : Agr P a b) : r' = r ∧ P y x := by
  subst h1 h2; exact h trivial

end Agr

/-- the relation on element lists / map entries that `arrivalOf` induces -/
def arrL (vs : List Value) (ts : List Term) : Prop := ∃ ts₀, vs = denL ts₀ ∧ ts = reinsL ts₀
def arrKV (acc : List (Term × Term)) (ps : List (Value × Value)) (m : List (Term × Term)) : Prop :=
  ∃ kvs₀, ps = denKV kvs₀ ∧ m = insertAll acc (reinsKV kvs₀)

/-- the induction hypothesis at one fuel level -/
def AgreeT (x : Ext) (cfg : DecCfg) (env : Spec.Env) (fuel : Nat) : Prop :=
  ∀ d bs f', Agr arrivalOf (dec x cfg fuel d bs) (Spec.parse env f' bs)
def AgreeN (x : Ext) (cfg : DecCfg) (env : Spec.Env) (fuel : Nat) : Prop :=
  ∀ d n bs f', Agr arrL (decN x cfg fuel d n bs) (Spec.parseN env f' n bs)
def AgreeKV (x : Ext) (cfg : DecCfg) (env : Spec.Env) (fuel : Nat) : Prop :=
  ∀ d n bs acc f', Agr (arrKV acc) (decKV x cfg fuel d n bs acc) (Spec.parseKV env f' n bs)

variable {x : Ext} {cfg : DecCfg} {env : Spec.Env} {fuel : Nat}

theorem agree_leaf (ih : AgreeT x cfg env fuel) {d bs t r f' v r'} (hl : t.isLeaf = true)
    (h1 : dec x cfg fuel d bs = .ok (t, r)) (h2 : Spec.parse env f' bs = some (v, r')) : r' = r ∧ v = den t := by
  obtain ⟨hr, t₀, hv, ht⟩ := (ih d bs f').elim h1 h2
  obtain rfl := reins_leaf ht hl
  exact ⟨hr, hv⟩

namespace Agr
variable {α β : Type} {P : β → α → Prop} (ih : AgreeT x cfg env fuel) {d f' : Nat} {bs : Bytes}
include ih

/-- a sub-term that must be an atom (node of an identifier, module and function of a fun) -/
theorem node {F : Bytes → Bytes → Except DErr (α × Bytes)} {G : List Nat → Bytes → Option (β × Bytes)}
    (h : ∀ n r, Agr P (F n r) (G (cps n) r)) :
    Agr P (match dec x cfg fuel d bs with | .ok (.atom n, r) => F n r | .ok _ => .error .err | .error e => .error e)
      (match Spec.parse env f' bs with | some (.atom n, r) => G n r | _ => none) := by
  refine .intro fun _ _ _ _ h1 h2 => ?_
  split at h1
  · rename_i n r0 heq1
    split at h2
    · rename_i n' r0' heq2
      obtain ⟨rfl, hv⟩ := agree_leaf ih rfl heq1 heq2
      cases hv
      exact (h _ _).elim h1 h2
    · cases h2
  · cases h1
  · cases h1

/-- a sub-term that must be an integer (arity, old index, old uniq) -/
theorem int {F : Int → Bytes → Except DErr (α × Bytes)} {G : Int → Bytes → Option (β × Bytes)}
    (h : ∀ n r, Agr P (F n r) (G n r)) :
    Agr P (match dec x cfg fuel d bs with | .ok (.int n, r) => F n r | .ok _ => .error .err | .error e => .error e)
      (match Spec.parse env f' bs with | some (.int n, r) => G n r | _ => none) := by
  refine .intro fun _ _ _ _ h1 h2 => ?_
  split at h1
  · rename_i n r0 heq1
    split at h2
    · rename_i n' r0' heq2
      obtain ⟨rfl, hv⟩ := agree_leaf ih rfl heq1 heq2
      cases hv
      exact (h _ _).elim h1 h2
    · cases h2
  · cases h1
  · cases h1

/-- a sub-term that must be a pid (the creator of a fun) -/
theorem pid {F : PidF → Bytes → Except DErr (α × Bytes)} {G : List Nat → Nat → Nat → Nat → Bytes → Option (β × Bytes)}
    (h : ∀ p r, Agr P (F p r) (G (cps p.node) p.id p.serial p.creation r)) :
    Agr P (match dec x cfg fuel d bs with | .ok (.pid p, r) => F p r | .ok _ => .error .err | .error e => .error e)
      (match Spec.parse env f' bs with | some (.pid n i s c, r) => G n i s c r | _ => none) := by
  refine .intro fun _ _ _ _ h1 h2 => ?_
  split at h1
  · rename_i p r0 heq1
    split at h2
    · rename_i n i s c r0' heq2
      obtain ⟨rfl, hv⟩ := agree_leaf ih rfl heq1 heq2
      cases hv
      exact (h _ _).elim h1 h2
    · cases h2
  · cases h1
  · cases h1

/-- the tail of LIST_EXT: a NIL tail gives a proper list -/
theorem tail {vs : List Value} {ts : List Term} (hl : arrL vs ts) :
    Agr arrivalOf (match dec x cfg fuel d bs with
        | .error e => .error e
        | .ok (.nil, r) => .ok (.list ts, r)
        | .ok (t, r) => .ok (.ilist ts t, r))
      ((Spec.parse env f' bs).map fun (t, r) => (Value.mkList vs t, r)) := by
  obtain ⟨ts₀, rfl, rfl⟩ := hl
  refine .intro fun _ _ _ _ h1 h2 => ?_
  cases hp : Spec.parse env f' bs with
  | none => rw [hp] at h2; cases h2
  | some q =>
    obtain ⟨v, r'⟩ := q
    rw [hp] at h2; cases h2
    split at h1
    · cases h1
    · rename_i r0 heq
      obtain ⟨hr, t₀, rfl, ht⟩ := (ih _ _ _).elim heq hp
      obtain rfl := reins_leaf ht rfl
      cases h1; exact ⟨hr, .list ts₀, rfl, rfl⟩
    · rename_i t r0 _ heq
      obtain ⟨hr, t₀, rfl, rfl⟩ := (ih _ _ _).elim heq hp
      cases h1; exact ⟨hr, .ilist ts₀ t₀, rfl, rfl⟩

/-- LOCAL_EXT: the wrapped term with the raw bytes attached to an identifier; the value is that of the term -/
theorem localExt {L : Bytes → Bytes} :
    Agr arrivalOf (match dec x cfg fuel d bs with
        | .error e => .error e
        | .ok (t, r) => match t with
          | .pid p => .ok (.pid { p with loc := some (L r) }, r)
          | .port n i c _ => .ok (.port n i c (some (L r)), r)
          | .ref n c ids _ => .ok (.ref n c ids (some (L r)), r)
          | t => .ok (t, r))
      (Spec.parse env f' bs) := by
  refine .intro fun _ _ _ _ h1 h2 => ?_
  split at h1
  · cases h1
  · rename_i t r0 heq
    obtain ⟨hr, t₀, rfl, ht⟩ := (ih _ _ _).elim heq h2
    split at h1 <;> cases h1
    · obtain rfl := reins_leaf ht rfl; exact ⟨hr, leaf rfl⟩
    · obtain rfl := reins_leaf ht rfl; exact ⟨hr, leaf rfl⟩
    · obtain rfl := reins_leaf ht rfl; exact ⟨hr, leaf rfl⟩
    · exact ⟨hr, t₀, rfl, ht⟩

end Agr

theorem arr_tuple {vs ts} (h : arrL vs ts) : arrivalOf (.tuple vs) (.tuple ts) := by
  obtain ⟨ts₀, rfl, rfl⟩ := h; exact ⟨.tuple ts₀, rfl, rfl⟩
theorem arr_map {ps m} (h : arrKV [] ps m) : arrivalOf (.map ps) (.map m) := by
  obtain ⟨kvs₀, rfl, rfl⟩ := h; exact ⟨.map kvs₀, rfl, rfl⟩


theorem arr_ifun {vs ts} (a u i nf m oi ou) (p : PidF) (h : arrL vs ts) :
    arrivalOf (.ifun a u i nf (cps m) oi ou (.pid (cps p.node) p.id p.serial p.creation) vs) (.ifun a u i nf m oi ou p ts) := by
  obtain ⟨ts₀, rfl, rfl⟩ := h; exact ⟨.ifun a u i nf m oi ou p ts₀, rfl, rfl⟩

theorem den_string (s : Bytes) :
    Value.mkList (s.map fun b => .int b.toNat) .nil = den (.list (s.map fun b => .int b.toNat)) := by
  rw [den, denL_ints]

theorem arr_string (s : Bytes) :
    arrivalOf (Value.mkList (s.map fun b => .int b.toNat) .nil) (.list (s.map fun b => .int b.toNat)) :=
  leaf (den_string s) (by rw [reins, reinsL_ints])

theorem den_i32 (a : Nat) : Value.int (Spec.i32 a) = den (.int (i32OfU32 a)) := congrArg Value.int (i32_eq a)
theorem arr_i32 (a : Nat) : arrivalOf (.int (Spec.i32 a)) (.int (i32OfU32 a)) := leaf (den_i32 a)

theorem den_latin1 (a : Bytes) : Value.atom (Spec.latin1 a) = den (.atom (latin1ToUtf8 a)) :=
  congrArg Value.atom (latin1_cps a).symm
theorem arr_latin1 (a : Bytes) : arrivalOf (.atom (Spec.latin1 a)) (.atom (latin1ToUtf8 a)) := leaf (den_latin1 a)

theorem den_big (s : Nat) (d : Bytes) :
    Value.int (if s != 0 then -(Spec.leVal d : Int) else Spec.leVal d) = den (.big (s != 0) d) := by
  simp only [den, bigVal, leVal_eq_magVal]

theorem arr_big (s : Nat) (d : Bytes) :
    arrivalOf (.int (if s != 0 then -(Spec.leVal d : Int) else Spec.leVal d)) (.big (s != 0) d) := leaf (den_big s d)

namespace Agr

theorem utf8 (a r : Bytes) :
    Agr arrivalOf (if validUtf8 a then .ok (.atom a, r) else .error .err)
      ((utf8Decode a).map fun c => (Value.atom c, r)) := by
  refine .intro fun _ _ _ _ h1 h2 => ?_
  split at h1
  · rename_i hu; rw [utf8_cps a hu] at h2; cases h1; cases h2; exact ⟨rfl, leaf rfl⟩
  · cases h1

theorem floatText {x : Ext} (hpf : ∀ f b b', x.parseFloat f = some b → Spec.parseFloatText f = some b' → b' = b)
    (f r : Bytes) :
    Agr arrivalOf (match x.parseFloat f with | some b => .ok (.float b, r) | none => .error .err)
      ((Spec.parseFloatText f).map fun b => (Value.float b, r)) := by
  refine .intro fun _ _ _ _ h1 h2 => ?_
  cases hp : x.parseFloat f with
  | none => rw [hp] at h1; cases h1
  | some b => cases hq : Spec.parseFloatText f with
    | none => rw [hq] at h2; cases h2
    | some b' =>
      rw [hp] at h1; rw [hq] at h2; cases h1; cases h2
      exact ⟨rfl, leaf (congrArg Value.float (hpf f b b' hp hq))⟩

theorem cacheRef {cfg : DecCfg} {env : Spec.Env}
    (hcache : ∀ i a c, cfg.cache.lookup i = some a → env.refs[i]? = some c → c = cps a) (i : Nat) (r : Bytes) :
    Agr arrivalOf (match cfg.cache.lookup i with | some a => .ok (.atom a, r) | none => .error .err)
      (match env.refs[i]? with | some a => some (.atom a, r) | none => none) := by
  refine .intro fun _ _ _ _ h1 h2 => ?_
  cases hl : cfg.cache.lookup i with
  | none => rw [hl] at h1; cases h1
  | some a => cases hg : env.refs[i]? with
    | none => rw [hg] at h2; cases h2
    | some c =>
      rw [hl] at h1; rw [hg] at h2; cases h1; cases h2
      exact ⟨rfl, leaf (congrArg Value.atom (hcache i a c hl hg))⟩

end Agr

/-- whenever the decoder model and the spec reader both accept a byte string, they consumed the same bytes and the
decoder's term is the re-inserted form of a term that denotes the reader's value — for ALL byte strings, every tag,
every depth and fuel, any atom cache that agrees with the reader's reference table.
`hpf`: the two float-text parsers agree where both are defined (FLOAT_EXT, tag 99). -/
theorem dec_agrees (x : Ext) (cfg : DecCfg) (env : Spec.Env)
    (hpf : ∀ f b b', x.parseFloat f = some b → Spec.parseFloatText f = some b' → b' = b)
    (hcache : ∀ i a c, cfg.cache.lookup i = some a → env.refs[i]? = some c → c = cps a) :
    ∀ fuel, AgreeT x cfg env fuel ∧ AgreeN x cfg env fuel ∧ AgreeKV x cfg env fuel := by
  intro fuel
  induction fuel with
  | zero =>
    refine ⟨fun d bs f' => by rw [dec.eq_1]; exact .errL, fun d n bs f' => ?_, fun d n bs acc f' => ?_⟩
    · cases n with
      | zero => simp only [decN, Spec.parseN]; exact .pure ⟨[], rfl, rfl⟩
      | succ n => rw [decN]; exact .errL
    · cases n with
      | zero => simp only [decKV, Spec.parseKV]; exact .pure ⟨[], rfl, rfl⟩
      | succ n => rw [decKV]; exact .errL
  | succ fuel ihh =>
    obtain ⟨ih, ihN, ihKV⟩ := ihh
    refine ⟨fun d bs f' => .intro fun t r v r' h1 h2 => ?_, fun d n bs f' => ?_, fun d n bs acc f' => ?_⟩
    · obtain ⟨f', tag, bs, rfl, rfl⟩ := parse_some_cons h2
      induction tag using decTags_cases
      case other hn => rw [dec_other x cfg fuel d bs hn] at h1; cases h1
      all_goals (open_dec h1; (conv at h2 => lhs; whnf); refine Agr.elim h1 h2 ?_)
      -- each tag is the list of its fields
      · -- 97 SMALL_INTEGER_EXT
        exact .rdM' 1 fun _ _ => leaf rfl
      · -- 98 INTEGER_EXT
        exact .rdM' 4 fun a _ => arr_i32 a
      · -- 99 FLOAT_EXT
        exact .takeB 31 fun f r => .guardL (Agr.floatText hpf f r)
      · -- 70 NEW_FLOAT_EXT: the reader refuses NaN and the infinities
        exact .rdB' 8 fun _ _ => .guardR (.pure (leaf rfl))
      · -- 100 ATOM_EXT
        exact .rdB 2 fun n _ => .guardL (.takeM n fun a _ => arr_latin1 a)
      · -- 118 ATOM_UTF8_EXT
        exact .rdB 2 fun n _ => .guardL (.takeB n Agr.utf8)
      · -- 119 SMALL_ATOM_UTF8_EXT
        exact .rdB 1 fun n _ => .guardL (.takeB n Agr.utf8)
      · -- 115 SMALL_ATOM_EXT
        exact .rdB 1 fun n _ => .guardL (.takeM n fun a _ => arr_latin1 a)
      · -- 104 SMALL_TUPLE_EXT
        exact .rdB 1 fun n r => .seqM' (ihN _ _ _ _) fun _ _ _ => arr_tuple
      · -- 105 LARGE_TUPLE_EXT
        exact .rdB 4 fun n r => .guardL (.seqM' (ihN _ _ _ _) fun _ _ _ => arr_tuple)
      · -- 106 NIL_EXT
        exact .pure (leaf rfl)
      · -- 107 STRING_EXT
        exact .rdB 2 fun n r => .takeM n fun s _ => arr_string s
      · -- 108 LIST_EXT
        exact .rdB 4 fun n r => .guardL (.seqB (ihN _ _ _ _) fun _ _ _ hl => Agr.tail ih hl)
      · -- 109 BINARY_EXT
        exact .rdB 4 fun n r => .guardL (.takeM n fun _ _ => leaf rfl)
      · -- 77 BIT_BINARY_EXT
        exact .rdB 4 fun n r => .guardL (.rdB 1 fun _ _ => .guard2 (by simp) (.takeM n fun _ _ => leaf rfl))
      · -- 110 SMALL_BIG_EXT
        exact .rdB 1 fun n _ => .rdB 1 fun s _ => .takeM n fun d _ => arr_big s d
      · -- 111 LARGE_BIG_EXT
        exact .rdB 4 fun n _ => .rdB 1 fun s _ => .takeM n fun d _ => arr_big s d
      · -- 116 MAP_EXT
        exact .rdB 4 fun n r => .guardL (.kvM' (ihKV _ _ _ _ _) fun _ _ _ => arr_map)
      · -- 88 NEW_PID_EXT
        exact Agr.node ih fun _ _ => .rdB 4 fun _ _ => .rdB 4 fun _ _ => .rdM 4 fun _ _ => leaf rfl
      · -- 103 PID_EXT
        exact Agr.node ih fun _ _ => .rdB 4 fun _ _ => .rdB 4 fun _ _ => .rdM 1 fun _ _ => leaf rfl
      · -- 120 V4_PORT_EXT
        exact Agr.node ih fun _ _ => .rdB 8 fun _ _ => .rdM 4 fun _ _ => leaf rfl
      · -- 89 NEW_PORT_EXT
        exact Agr.node ih fun _ _ => .rdB 4 fun _ _ => .rdM 4 fun _ _ => leaf rfl
      · -- 102 PORT_EXT
        exact Agr.node ih fun _ _ => .rdB 4 fun _ _ => .rdM 1 fun _ _ => leaf rfl
      · -- 90 NEWER_REFERENCE_EXT
        exact .rdB 2 fun n _ => Agr.node ih fun _ _ => .rdB 4 fun _ _ => .wordsM n fun _ _ => leaf rfl
      · -- 114 NEW_REFERENCE_EXT
        exact .rdB 2 fun n _ => Agr.node ih fun _ _ => .rdB 1 fun _ _ => .wordsM n fun _ _ => leaf rfl
      · -- 101 REFERENCE_EXT
        exact Agr.node ih fun _ _ => .rdB 4 fun _ _ => .rdM 1 fun _ _ => leaf rfl
      · -- 113 EXPORT_EXT
        exact Agr.node ih fun _ _ => Agr.node ih fun _ _ => Agr.int ih fun _ _ => .guardB (.pure (leaf rfl))
      · -- 112 NEW_FUN_EXT: the Size field, and the signs behind the free variables, are checks of the reader only
        exact .rdB 4 fun _ _ => .guardR (.rdB 1 fun _ _ => .takeB 16 fun _ _ => .rdB 4 fun _ _ => .rdB 4 fun _ _ =>
          Agr.node ih fun _ _ => Agr.int ih fun _ _ => .guardL (Agr.int ih fun _ _ => .guardL (Agr.pid ih fun _ _ =>
            .seqB' (ihN _ _ _ _) fun _ _ _ hl => .guardR (.pure (arr_ifun _ _ _ _ _ _ _ _ hl)))))
      · -- 121 LOCAL_EXT
        exact .rdB 8 fun _ _ => Agr.localExt ih
      · -- 80 COMPRESSED: the reader has none below the top
        exact .noneR
      · -- 82 ATOM_CACHE_REF
        exact .rdB 1 (Agr.cacheRef hcache)
    · cases n with
      | zero => simp only [decN, Spec.parseN]; exact .pure ⟨[], rfl, rfl⟩
      | succ n =>
        cases f' with
        | zero => exact .noneR
        | succ f' =>
          simp only [decN, Spec.parseN]
          exact .subB (ih _ _ _) fun _ _ _ ⟨t₀, ht, ht'⟩ => .seqM (ihN _ _ _ _) fun _ _ _ ⟨ts₀, hts, hts'⟩ =>
            ⟨t₀ :: ts₀, by rw [ht, hts]; rfl, by rw [ht', hts']; rfl⟩
    · cases n with
      | zero => simp only [decKV, Spec.parseKV]; exact .pure ⟨[], rfl, rfl⟩
      | succ n =>
        cases f' with
        | zero => exact .noneR
        | succ f' =>
          simp only [decKV, Spec.parseKV]
          exact .subB (ih _ _ _) fun _ _ _ ⟨k₀, hk, hk'⟩ => .subB (ih _ _ _) fun _ _ _ ⟨v₀, hv, hv'⟩ =>
            .mapR (ihKV _ _ _ _ _) fun _ _ ⟨kvs₀, hps, hm⟩ =>
              ⟨(k₀, v₀) :: kvs₀, by rw [hk, hv, hps]; rfl, by rw [hm, hk', hv']; rfl⟩


mutual
/-- no map anywhere in the term -/
def noMaps : Term → Bool
  | .list l => noMapsL l
  | .ilist l t => noMapsL l && noMaps t
  | .map _ => false
  | .tuple l => noMapsL l
  | .ifun _ _ _ _ _ _ _ _ fr => noMapsL fr
  | _ => true
def noMapsL : List Term → Bool
  | [] => true
  | t :: ts => noMaps t && noMapsL ts
end

mutual
/-- every map's entries arrived in strictly increasing key order (so that insertion neither reorders nor merges) -/
def arrivalSorted : Term → Bool
  | .list l => arrivalSortedL l
  | .ilist l t => arrivalSortedL l && arrivalSorted t
  | .map kvs => arrivalSortedKV kvs && pairwiseLt (reinsKV kvs)
  | .tuple l => arrivalSortedL l
  | .ifun _ _ _ _ _ _ _ _ fr => arrivalSortedL fr
  | _ => true
def arrivalSortedL : List Term → Bool
  | [] => true
  | t :: ts => arrivalSorted t && arrivalSortedL ts
def arrivalSortedKV : List (Term × Term) → Bool
  | [] => true
  | (k, v) :: r => arrivalSorted k && arrivalSorted v && arrivalSortedKV r
end

mutual
theorem reins_sorted (t : Term) (h : arrivalSorted t = true) : reins t = t := by
  match t with
  | .atom _ | .int _ | .float _ | .bin _ | .str _ | .bits .. | .big .. | .nil | .pid _ | .port .. | .ref .. | .xfun .. => rfl
  | .tuple l => simp only [arrivalSorted] at h; simp [reins, reinsL_sorted l h]
  | .list l => simp only [arrivalSorted] at h; simp [reins, reinsL_sorted l h]
  | .ilist l tl =>
    simp only [arrivalSorted, Bool.and_eq_true] at h; simp [reins, reinsL_sorted l h.1, reins_sorted tl h.2]
  | .map kvs =>
    simp only [arrivalSorted, Bool.and_eq_true] at h
    have e := reinsKV_sorted kvs h.1
    have h2 := h.2
    rw [e] at h2
    simp only [reins, e, insertAll_sorted _ h2]
  | .ifun a u i nf m oi ou p fr => simp only [arrivalSorted] at h; simp [reins, reinsL_sorted fr h]
theorem reinsL_sorted (l : List Term) (h : arrivalSortedL l = true) : reinsL l = l := by
  match l with
  | [] => simp [reinsL]
  | t :: ts =>
    simp only [arrivalSortedL, Bool.and_eq_true] at h
    simp [reinsL, reins_sorted t h.1, reinsL_sorted ts h.2]
theorem reinsKV_sorted (kvs : List (Term × Term)) (h : arrivalSortedKV kvs = true) : reinsKV kvs = kvs := by
  match kvs with
  | [] => simp [reinsKV]
  | (k, v) :: ts =>
    simp only [arrivalSortedKV, Bool.and_eq_true] at h
    simp [reinsKV, reins_sorted k h.1.1, reins_sorted v h.1.2, reinsKV_sorted ts h.2]
end

mutual
theorem reins_noMaps (t : Term) (h : noMaps (reins t) = true) : reins t = t := by
  match t with
  | .atom _ | .int _ | .float _ | .bin _ | .str _ | .bits .. | .big .. | .nil | .pid _ | .port .. | .ref .. | .xfun .. => rfl
  | .tuple l => simp only [reins, noMaps] at h; simp [reins, reinsL_noMaps l h]
  | .list l => simp only [reins, noMaps] at h; simp [reins, reinsL_noMaps l h]
  | .ilist l tl =>
    simp only [reins, noMaps, Bool.and_eq_true] at h; simp [reins, reinsL_noMaps l h.1, reins_noMaps tl h.2]
  | .map kvs => simp [reins, noMaps] at h
  | .ifun a u i nf m oi ou p fr => simp only [reins, noMaps] at h; simp [reins, reinsL_noMaps fr h]
theorem reinsL_noMaps (l : List Term) (h : noMapsL (reinsL l) = true) : reinsL l = l := by
  match l with
  | [] => simp [reinsL]
  | t :: ts =>
    simp only [reinsL, noMapsL, Bool.and_eq_true] at h
    simp [reinsL, reins_noMaps t h.1, reinsL_noMaps ts h.2]
end

/-- `decode` has no atom cache: there is nothing for the reader's reference table to disagree with -/
theorem noCache_agrees (env : Spec.Env) :
    ∀ i a c, ({} : DecCfg).cache.lookup i = some a → env.refs[i]? = some c → c = cps a := by
  intro i a c h; simp [List.lookup] at h

/-- the whole-message level: version byte, optional top-level COMPRESSED section (through the shared inflate
function), nothing left over.
Route: behind the version byte `decodeWith` is one call of `dec` (`heq`), `Spec.parseTop` one of `Spec.parse` with a case
for tag 80 in front.  On tag 80 both read the size, run the same `inflate` (`hinf`) and parse its output: `dec_agrees` for
the inner calls.  On any other tag `dec_agrees` for the outer ones.  The other branches are refusals of one side. -/
theorem top_agrees (x : Ext) (cfg : DecCfg) (env : Spec.Env) (hinf : env.inflate = x.inflate)
    (hpf : ∀ f b b', x.parseFloat f = some b → Spec.parseFloatText f = some b' → b' = b)
    (hcache : ∀ i a c, cfg.cache.lookup i = some a → env.refs[i]? = some c → c = cps a)
    (bs : Bytes) (t : Term) (v : Value) (rest : Bytes)
    (h1 : decodeWith x cfg bs = .ok t) (h2 : Spec.parseTop env bs = some (v, rest)) :
    arrivalOf v t := by
  unfold decodeWith at h1
  cases bs with
  | nil => simp at h1
  | cons ver r =>
    simp only at h1
    split at h1
    · simp at h1
    rename_i hver
    have hv : ver = 131 := by simpa using hver
    subst hv
    generalize hF : r.length + 1 + x.extra = F at h1
    split at h1
    · simp at h1
    · rename_i t' heq
      simp at h1; subst h1
      unfold Spec.parseTop at h2
      split at h2
      · -- tag 80
        rename_i z heqz
        simp at heqz; subst heqz
        cases F with
        | zero => simp [dec] at heq
        | succ F =>
          open_dec heq
          simp only [rdU] at heq
          cases hl : rdN 4 z with
          | none => simp [hl] at heq
          | some pl =>
            obtain ⟨usize, z'⟩ := pl
            simp only [hl] at heq h2
            split at heq
            · simp at heq
            rw [hinf] at h2
            cases hi : x.inflate z' with
            | none => simp [hi] at heq
            | some po =>
              obtain ⟨out, consumed⟩ := po
              simp only [hi] at heq h2
              split at heq
              · simp at heq
              split at h2
              · simp at h2
              split at heq
              · rename_i t'' heq1
                split at h2
                · rename_i v' heq2
                  obtain ⟨_, ha⟩ := ((dec_agrees x cfg env hpf hcache F).1 _ _ _).elim heq1 heq2
                  split at heq
                  · simp at heq
                  · simp at heq h2
                    obtain ⟨rfl, _⟩ := heq
                    obtain ⟨rfl, _⟩ := h2
                    exact ha
                · simp at h2
              · simp at heq
      · -- any other tag
        rename_i r' _ heqr
        simp at heqr; subst heqr
        exact (((dec_agrees x cfg env hpf hcache F).1 _ _ _).elim heq h2).2
      · rename_i hne1 hne2
        exact absurd rfl (hne2 _)
    · simp at h1

end Edp
