import EdpVerif.Lemmas.Framing
/-! Lemmas for C05: the caller that retries after `Error::Timeout`. Its fuel is enough because a timeout consumes its
`stall`; what a cut-off read leaves behind is `readFramed_cut` in Lemmas/Framing.lean. -/
namespace Edp.Framing
open Edp

/-- every read leaves a script that is not heavier; a timeout leaves a lighter one (it consumes its `stall`) -/
theorem readExact_weight (evs : List Ev) (n : Nat) :
    weight (readExact n evs).2 ≤ weight evs ∧
    ((readExact n evs).1 = .error .timeout → weight (readExact n evs).2 < weight evs) := by
  fun_induction readExact n evs with
  | case6 n r ih => exact ⟨by simp only [weight]; omega, fun h => by have := ih.2 h; simp only [weight]; omega⟩
  | case8 n bs r _ _ t r' hr ih =>
    simp only [hr] at ih
    exact ⟨by simp only [weight]; omega, nofun⟩
  | case9 n bs r _ _ e r' hr ih =>
    simp only [hr] at ih
    exact ⟨by simp only [weight]; omega, fun h => by have := ih.2 h; simp only [weight]; omega⟩
  | case10 => exact ⟨by simp only [weight, List.length_drop]; omega, nofun⟩
  | _ => simp [weight]

theorem readFramed_weight (cap : Nat) (mode : Mode) (evs : List Ev) :
    (readFramed cap mode evs).res = .error .timeout → weight (readFramed cap mode evs).rest < weight evs := by
  have a := readExact_weight evs mode.prefixSize
  fun_cases readFramed cap mode evs with
  | case1 e r h1 => rw [h1] at a; exact a.2
  | case2 | case3 => nofun
  | case4 lb r h1 len _ _ res r2 h2 =>
    have b := readExact_weight r len
    rw [h1] at a
    rw [h2] at b
    exact fun h => Nat.lt_of_lt_of_le (b.2 h) a.1
theorem iterRetryF_unfold (step : List Ev → RdOut)
    (hstep : ∀ evs m, (step evs).res = .ok m → weight (step evs).rest < weight evs)
    (hto : ∀ evs, (step evs).res = .error .timeout → weight (step evs).rest < weight evs) (evs : List Ev) :
    iterRetryF step (weight evs + 1) evs =
      match (step evs).res with
      | .error .timeout => .error .timeout :: iterRetryF step (weight (step evs).rest + 1) (step evs).rest
      | .error e => [.error e]
      | .ok m => .ok m :: iterRetryF step (weight (step evs).rest + 1) (step evs).rest := by
  refine fuelRec (iterRetryF step) weight (fun evs k => match (step evs).res with
    | .error .timeout => .error .timeout :: k (step evs).rest
    | .error e => [.error e]
    | .ok m => .ok m :: k (step evs).rest) (fun evs g g' hg => ?_) (fun _ _ => rfl) _ evs (Nat.lt_succ_self _)
  cases hr : (step evs).res with
  | error e =>
    cases e with
    | timeout => rw [hg _ (hto evs hr)]
    | eof => rfl
    | io => rfl
    | tooLarge n => rfl
  | ok m => rw [hg _ (hstep evs m hr)]

/-- the fuel of `readRetry` is adequate: one step of the retrying caller -/
theorem readRetry_unfold (cap : Nat) (mode : Mode) (evs : List Ev) :
    readRetry cap mode evs =
      match (readFramed cap mode evs).res with
      | .error .timeout => .error .timeout :: readRetry cap mode (readFramed cap mode evs).rest
      | .error e => [.error e]
      | .ok m => .ok m :: readRetry cap mode (readFramed cap mode evs).rest :=
  iterRetryF_unfold _ (readFramed_step cap mode) (readFramed_weight cap mode) evs

/-- whole frames delivered cleanly come out in order, whatever follows is seen by the reads that follow -/
theorem readRetry_clean (cap : Nat) (mode : Mode) (tail : List Ev) (msgs : List Bytes) (c : List Ev)
    (hm : ∀ m ∈ msgs, fits mode m ∧ m.length ≤ cap) (hc : Clean c) (hp : payload c = (msgs.map (frame mode)).flatten) :
    readRetry cap mode (c ++ tail) = msgs.map .ok ++ readRetry cap mode tail := by
  have := frames_clean cap mode (fun _ => true) (readRetry cap mode)
    (fun r => by rw [readRetry_unfold, readFramed_pending, ← readRetry_unfold]) (fun c m rest tail hc hp hf hcap => by
    obtain ⟨c', k1, k2, k4⟩ := readFramed_clean cap mode c m rest tail hc hp hf hcap
    exact ⟨c', k1, k2, by rw [readRetry_unfold, k4]; rfl⟩) tail msgs c hm hc hp
  rwa [List.filter_eq_self.mpr fun _ _ => rfl] at this

theorem readRetry_nil (cap : Nat) (mode : Mode) : readRetry cap mode [] = [.error .eof] := by
  rw [readRetry_unfold, readFramed_at_cut cap mode rfl]

theorem recvBodyF_weight (cap : Nat) : ∀ (f : Nat) (evs : List Ev),
    (recvBodyF cap f evs).res = .error .timeout → weight (recvBodyF cap f evs).rest < weight evs :=
  recvBodyF_ind cap (fun evs o => o.res = .error .timeout → weight o.rest < weight evs) (fun _ h => nomatch h)
    (fun evs _ => readFramed_weight cap .distribution evs)
    (fun evs _ ht ih h => Nat.lt_trans (ih h) (readFramed_step cap .distribution evs [] ht))

theorem recvRetry_unfold (cap : Nat) (evs : List Ev) :
    recvRetry cap evs =
      match (recvBody cap evs).res with
      | .error .timeout => .error .timeout :: recvRetry cap (recvBody cap evs).rest
      | .error e => [.error e]
      | .ok m => .ok m :: recvRetry cap (recvBody cap evs).rest :=
  iterRetryF_unfold _ (recvBody_step cap) (fun evs => recvBodyF_weight cap _ evs) evs

end Edp.Framing
