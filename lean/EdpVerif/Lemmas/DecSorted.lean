import EdpVerif.Lemmas.SortedInsert
import EdpVerif.Lemmas.Convert
import EdpVerif.Lemmas.DecSuffix
/-!
Decoded maps satisfy the `BTreeMap` invariant.

The decoder model builds every map by `mapInsert` (the model of `BTreeMap::insert`), so every map of a term it returns
has its keys pairwise strictly ascending under `Term.cmp` — at every nesting level, for every configuration, cache, fuel
and depth, for every behaviour of the external calls — PROVIDED the keys of that map carry big integers with minimal
digits only (`WFo`; on non-minimal digits the order is not transitive, C11's recorded finding, and an insertion into a
sorted list need not give a pairwise sorted list).  `btInv` states exactly that, map node by map node, as one structural
predicate; `dec_btInv` has it of every result of `dec` without any hypothesis (it is closed under the ways the decoder
builds terms: `btInv_closed`, used through `dec_parsed`, Lemmas/DecSuffix.lean).  The corollaries discharge the guards
`btreeSorted` (C10, C13) and — Lemmas/DecSortedErl.lean — `mapsSorted` (C12) for decoder results.
-/
namespace Edp
open Term

/-- every key of the entry list carries big integers with minimal digits only -/
def keysWFo (m : List (Term × Term)) : Bool := m.all (fun p => WFo p.1)

theorem keysWFo_iff (m : List (Term × Term)) : keysWFo m = true ↔ ∀ p ∈ m, WFo p.1 = true := by
  simp [keysWFo]

mutual
/-- the `BTreeMap` invariant as the decoder establishes it: every map node whose keys are `WFo` has them pairwise
strictly ascending (free variables of funs included) -/
def btInv : Term → Bool
  | .list l => btInvL l
  | .ilist l t => btInvL l && btInv t
  | .map kvs => (!keysWFo kvs || pairwiseLt kvs) && btInvKV kvs
  | .tuple l => btInvL l
  | .ifun _ _ _ _ _ _ _ _ fr => btInvL fr
  | _ => true
def btInvL : List Term → Bool
  | [] => true
  | t :: ts => btInv t && btInvL ts
def btInvKV : List (Term × Term) → Bool
  | [] => true
  | (k, v) :: r => btInv k && btInv v && btInvKV r
end

mutual
/-- every map node of the term has its keys pairwise strictly ascending (free variables of funs included) -/
def mapsStrict : Term → Bool
  | .list l => mapsStrictL l
  | .ilist l t => mapsStrictL l && mapsStrict t
  | .map kvs => pairwiseLt kvs && mapsStrictKV kvs
  | .tuple l => mapsStrictL l
  | .ifun _ _ _ _ _ _ _ _ fr => mapsStrictL fr
  | _ => true
def mapsStrictL : List Term → Bool
  | [] => true
  | t :: ts => mapsStrict t && mapsStrictL ts
def mapsStrictKV : List (Term × Term) → Bool
  | [] => true
  | (k, v) :: r => mapsStrict k && mapsStrict v && mapsStrictKV r
end

mutual
/-- every map KEY (at any level) carries big integers with minimal digits only; nothing is asked of values, list or
tuple elements outside keys -/
def mapKeysMin : Term → Bool
  | .list l => mapKeysMinL l
  | .ilist l t => mapKeysMinL l && mapKeysMin t
  | .map kvs => keysWFo kvs && mapKeysMinKV kvs
  | .tuple l => mapKeysMinL l
  | .ifun _ _ _ _ _ _ _ _ fr => mapKeysMinL fr
  | _ => true
def mapKeysMinL : List Term → Bool
  | [] => true
  | t :: ts => mapKeysMin t && mapKeysMinL ts
def mapKeysMinKV : List (Term × Term) → Bool
  | [] => true
  | (k, v) :: r => mapKeysMin k && mapKeysMin v && mapKeysMinKV r
end

theorem pairwiseLt_iff : ∀ (m : List (Term × Term)), pairwiseLt m = true ↔ keysSorted m
  | [] => by simp [pairwiseLt, keysSorted]
  | (k, v) :: r => by
    unfold keysSorted
    rw [List.pairwise_cons]
    simp only [pairwiseLt, Bool.and_eq_true, allLt, List.all_eq_true, beq_iff_eq]
    constructor
    · rintro ⟨h1, h2⟩; exact ⟨fun q hq => h1 q hq, (pairwiseLt_iff r).mp h2⟩
    · rintro ⟨h1, h2⟩; exact ⟨fun q hq => h1 q hq, (pairwiseLt_iff r).mpr h2⟩

/-- every key and every value of the result of an insertion was a key / value before or is the inserted one -/
theorem mapInsert_parts_ks (m : List (Term × Term)) (k v : Term) :
    ∀ q ∈ mapInsert m k v, (q.1 = k ∨ ∃ p ∈ m, q.1 = p.1) ∧ (q.2 = v ∨ ∃ p ∈ m, q.2 = p.2) := by
  intro q hq
  rcases mapInsert_entries m k v q hq with h | rfl | ⟨p, hp, _, rfl⟩
  · exact ⟨.inr ⟨q, h, rfl⟩, .inr ⟨q, h, rfl⟩⟩
  · exact ⟨.inl rfl, .inl rfl⟩
  · exact ⟨.inr ⟨p, hp, rfl⟩, .inl rfl⟩

/-- `WFo` is asked of the keys of the RESULT only: a key that compares `Equal` to a stored one is dropped, so nothing may be
asked of it -/
theorem mapInsert_sorted_res (m : List (Term × Term)) (k v : Term) (hs : keysSorted m)
    (hw : ∀ q ∈ mapInsert m k v, WFo q.1 = true) : keysSorted (mapInsert m k v) := by
  induction m with
  | nil => simp [mapInsert, keysSorted]
  | cons p0 r ih =>
    obtain ⟨k', v'⟩ := p0
    unfold keysSorted at hs ⊢
    rw [List.pairwise_cons] at hs
    simp only [mapInsert] at hw ⊢
    cases h : Term.cmp k k' <;> simp only [h] at hw ⊢
    · have hk : WFo k = true := hw (k, v) (by simp)
      have hk' : WFo k' = true := hw (k', v') (by simp)
      refine List.pairwise_cons.mpr ⟨?_, List.pairwise_cons.mpr hs⟩
      intro q hq
      rcases List.mem_cons.mp hq with rfl | hq
      · exact h
      · exact cmp_trans_lt_lt hk hk' (hw q (by simp [hq])) h (hs.1 q hq)
    · exact List.pairwise_cons.mpr ⟨hs.1, hs.2⟩
    · refine List.pairwise_cons.mpr ⟨?_, ih hs.2 (fun q hq => hw q (List.mem_cons_of_mem _ hq))⟩
      intro q hq
      rcases (mapInsert_parts_ks r k v q hq).1 with e | ⟨p, hp, e⟩
      · rw [e]; exact (cmp_gt_iff k k').mp h
      · rw [e]; exact hs.1 p hp

theorem btInvKV_iff : ∀ (m : List (Term × Term)),
    btInvKV m = true ↔ ∀ p ∈ m, btInv p.1 = true ∧ btInv p.2 = true
  | [] => by simp [btInvKV]
  | (k, v) :: r => by
    simp only [btInvKV, Bool.and_eq_true, List.mem_cons, forall_eq_or_imp, btInvKV_iff r, and_assoc]

theorem btInvL_iff : ∀ (l : List Term), btInvL l = true ↔ ∀ t ∈ l, btInv t = true
  | [] => by simp [btInvL]
  | t :: ts => by simp only [btInvL, Bool.and_eq_true, List.mem_cons, forall_eq_or_imp, btInvL_iff ts]

/-- what `parse_map` keeps true of the map it is filling -/
def KVInv (m : List (Term × Term)) : Prop :=
  (keysWFo m = true → keysSorted m) ∧ ∀ p ∈ m, btInv p.1 = true ∧ btInv p.2 = true

theorem KVInv_nil : KVInv [] := ⟨fun _ => by simp [keysSorted], by simp⟩

theorem KVInv_insert (m : List (Term × Term)) (k v : Term) (hm : KVInv m) (hk : btInv k = true) (hv : btInv v = true) :
    KVInv (mapInsert m k v) := by
  refine ⟨?_, ?_⟩
  · intro hw
    have hw' := (keysWFo_iff _).mp hw
    have hm' : keysWFo m = true := (keysWFo_iff _).mpr (fun p hp => by
      obtain ⟨q, hq, e⟩ := mapInsert_keeps m k v p hp
      rw [← e]; exact hw' q hq)
    exact mapInsert_sorted_res m k v (hm.1 hm') hw'
  · intro q hq
    obtain ⟨h1, h2⟩ := mapInsert_parts_ks m k v q hq
    constructor
    · rcases h1 with e | ⟨p, hp, e⟩
      · rw [e]; exact hk
      · rw [e]; exact (hm.2 p hp).1
    · rcases h2 with e | ⟨p, hp, e⟩
      · rw [e]; exact hv
      · rw [e]; exact (hm.2 p hp).2

theorem btInv_map_of_KVInv (m : List (Term × Term)) (h : KVInv m) : btInv (.map m) = true := by
  simp only [btInv, Bool.and_eq_true, Bool.or_eq_true, Bool.not_eq_true']
  refine ⟨?_, (btInvKV_iff m).mpr h.2⟩
  cases hw : keysWFo m with
  | false => exact .inl rfl
  | true => exact .inr ((pairwiseLt_iff m).mpr (h.1 hw))

theorem btInvL_ints (s : Bytes) : btInvL (s.map fun b => Term.int b.toNat) = true := by
  induction s with
  | nil => rfl
  | cons b s ih => simp [btInvL, btInv, ih]

theorem btInv_closed : DecClosed (fun _ t => btInv t = true) (fun _ l => btInvL l = true) (fun _ m => KVInv m) where
  leaf {_ t} _ h := by cases t <;> first | rfl | cases h
  str s _ := btInvL_ints s
  tuple _ h := h
  list _ h := h
  ilist _ h ht := by simp only [btInv, h, ht, Bool.and_self]
  map _ h := btInv_map_of_KVInv _ h
  ifun _ h := h
  up _ h := h
  loc {_ t} l h := by cases t <;> exact h
  nil := rfl
  cons h hl := by simp only [btInvL, h, hl, Bool.and_self]
  kvnil := KVInv_nil
  insert hm hk hv := KVInv_insert _ _ _ hm hk hv

/-- every term the decoder model returns satisfies the `BTreeMap` invariant at every map node whose keys carry
minimal big integers — any configuration, cache, fuel, depth, input, behaviour of the external calls -/
theorem dec_btInv (x : Ext) (cfg : DecCfg) (fuel d : Nat) (bs : Bytes) (t : Term) (r : Bytes)
    (h : dec x cfg fuel d bs = .ok (t, r)) : btInv t = true := ((dec_parsed x cfg btInv_closed fuel).1 d bs).val h

theorem decodeWith_btInv (x : Ext) (cfg : DecCfg) (bs : Bytes) (t : Term) (h : decodeWith x cfg bs = .ok t) :
    btInv t = true := by
  unfold decodeWith at h
  split at h
  · cases h
  split at h
  · cases h
  split at h <;> cases h
  exact dec_btInv _ _ _ _ _ _ _ ‹_›

mutual
theorem mapKeysMin_of_WFo : ∀ (t : Term), WFo t = true → mapKeysMin t = true
  | .atom _, _ | .int _, _ | .float _, _ | .pid _, _ | .port _ _ _ _, _ | .ref _ _ _ _, _ | .bin _, _
  | .bits _ _, _ | .str _, _ | .xfun _ _ _, _ | .nil, _ | .big _ _, _ => rfl
  | .tuple l, h | .list l, h | .ifun _ _ _ _ _ _ _ _ l, h => mapKeysMinL_of_WFoL l h
  | .ilist l t, h => by
    simp only [WFo, mapKeysMin, Bool.and_eq_true] at h ⊢
    exact ⟨mapKeysMinL_of_WFoL l h.1, mapKeysMin_of_WFo t h.2⟩
  | .map kvs, h => by
    simp only [mapKeysMin, Bool.and_eq_true]
    exact mapKeysMinKV_of_WFoKV kvs h
theorem mapKeysMinL_of_WFoL : ∀ (l : List Term), WFoL l = true → mapKeysMinL l = true
  | [], _ => rfl
  | t :: ts, h => by
    simp only [WFoL, mapKeysMinL, Bool.and_eq_true] at h ⊢
    exact ⟨mapKeysMin_of_WFo t h.1, mapKeysMinL_of_WFoL ts h.2⟩
theorem mapKeysMinKV_of_WFoKV : ∀ (l : List (Term × Term)), WFoKV l = true → keysWFo l = true ∧ mapKeysMinKV l = true
  | [], _ => ⟨rfl, rfl⟩
  | (k, v) :: r, h => by
    simp only [WFoKV, Bool.and_eq_true] at h
    have ih := mapKeysMinKV_of_WFoKV r h.2
    simp only [keysWFo, List.all_cons, Bool.and_eq_true, mapKeysMinKV] at ih ⊢
    exact ⟨⟨h.1.1, ih.1⟩, ⟨mapKeysMin_of_WFo k h.1.1, mapKeysMin_of_WFo v h.1.2⟩, ih.2⟩
end

mutual
/-- under minimal digits in map keys the decoder's invariant is the plain `BTreeMap` invariant -/
theorem mapsStrict_of_btInv : ∀ (t : Term), btInv t = true → mapKeysMin t = true → mapsStrict t = true
  | .atom _, _, _ | .int _, _, _ | .float _, _, _ | .pid _, _, _ | .port _ _ _ _, _, _ | .ref _ _ _ _, _, _ | .bin _, _, _
  | .bits _ _, _, _ | .str _, _, _ | .xfun _ _ _, _, _ | .nil, _, _ | .big _ _, _, _ => rfl
  | .tuple l, h, w | .list l, h, w | .ifun _ _ _ _ _ _ _ _ l, h, w => mapsStrictL_of_btInvL l h w
  | .ilist l t, h, w => by
    simp only [btInv, mapKeysMin, mapsStrict, Bool.and_eq_true] at h w ⊢
    exact ⟨mapsStrictL_of_btInvL l h.1 w.1, mapsStrict_of_btInv t h.2 w.2⟩
  | .map kvs, h, w => by
    simp only [btInv, mapKeysMin, mapsStrict, Bool.and_eq_true, Bool.or_eq_true, Bool.not_eq_true'] at h w ⊢
    exact ⟨h.1.resolve_left (by simp [w.1]), mapsStrictKV_of_btInvKV kvs h.2 w.2⟩
theorem mapsStrictL_of_btInvL : ∀ (l : List Term), btInvL l = true → mapKeysMinL l = true → mapsStrictL l = true
  | [], _, _ => rfl
  | t :: ts, h, w => by
    simp only [btInvL, mapKeysMinL, mapsStrictL, Bool.and_eq_true] at h w ⊢
    exact ⟨mapsStrict_of_btInv t h.1 w.1, mapsStrictL_of_btInvL ts h.2 w.2⟩
theorem mapsStrictKV_of_btInvKV : ∀ (l : List (Term × Term)), btInvKV l = true → mapKeysMinKV l = true →
    mapsStrictKV l = true
  | [], _, _ => rfl
  | (k, v) :: r, h, w => by
    simp only [btInvKV, mapKeysMinKV, mapsStrictKV, Bool.and_eq_true] at h w ⊢
    exact ⟨⟨mapsStrict_of_btInv k h.1.1 w.1.1, mapsStrict_of_btInv v h.1.2 w.1.2⟩, mapsStrictKV_of_btInvKV r h.2 w.2⟩
end

mutual
/-- the guard of the conversion theorems (C10, C13) follows -/
theorem btreeSorted_of_mapsStrict : ∀ (t : Term), mapsStrict t = true → btreeSorted t = true
  | .atom _, _ | .int _, _ | .float _, _ | .pid _, _ | .port _ _ _ _, _ | .ref _ _ _ _, _ | .bin _, _
  | .bits _ _, _ | .str _, _ | .xfun _ _ _, _ | .nil, _ | .big _ _, _ | .ifun _ _ _ _ _ _ _ _ _, _ => rfl
  | .tuple l, h | .list l, h => btreeSortedL_of_mapsStrictL l h
  | .ilist l t, h => by
    simp only [mapsStrict, btreeSorted, Bool.and_eq_true] at h ⊢
    exact ⟨btreeSortedL_of_mapsStrictL l h.1, btreeSorted_of_mapsStrict t h.2⟩
  | .map kvs, h => by
    simp only [mapsStrict, btreeSorted, Bool.and_eq_true] at h ⊢
    exact ⟨btreeSortedKV_of_mapsStrictKV kvs h.2, h.1⟩
theorem btreeSortedL_of_mapsStrictL : ∀ (l : List Term), mapsStrictL l = true → btreeSortedL l = true
  | [], _ => rfl
  | t :: ts, h => by
    simp only [mapsStrictL, btreeSortedL, Bool.and_eq_true] at h ⊢
    exact ⟨btreeSorted_of_mapsStrict t h.1, btreeSortedL_of_mapsStrictL ts h.2⟩
theorem btreeSortedKV_of_mapsStrictKV : ∀ (l : List (Term × Term)), mapsStrictKV l = true → btreeSortedKV l = true
  | [], _ => rfl
  | (k, v) :: r, h => by
    simp only [mapsStrictKV, btreeSortedKV, Bool.and_eq_true] at h ⊢
    exact ⟨⟨btreeSorted_of_mapsStrict k h.1.1, btreeSorted_of_mapsStrict v h.1.2⟩, btreeSortedKV_of_mapsStrictKV r h.2⟩
end

/-- every decoded term whose map keys carry minimal big integers has all its maps strictly sorted -/
theorem dec_mapsStrict (x : Ext) (cfg : DecCfg) (fuel d : Nat) (bs : Bytes) (t : Term) (r : Bytes)
    (h : dec x cfg fuel d bs = .ok (t, r)) (hk : mapKeysMin t = true) : mapsStrict t = true :=
  mapsStrict_of_btInv t (dec_btInv x cfg fuel d bs t r h) hk

end Edp
