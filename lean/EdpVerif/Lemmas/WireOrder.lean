import EdpVerif.Lemmas.DecSorted
import EdpVerif.Lemmas.EqCmp
/-!
The term order is invariant under what `decode ∘ encode` does to a term.  `wire t` (Lemmas/RoundTrip.lean) differs from
`t` in four ways: an `i64` outside 32 bits comes back as a big integer (with the minimal digits of its magnitude), a
string as the binary of the same bytes, an empty list / an improper list with a nil tail as `nil` / a proper list, and
the entries of every map are re-inserted.  None of the first three is visible to `Term.cmp` (`cmp_wire0`: for ALL terms,
no guard); when the maps of the term satisfy the `BTreeMap` invariant (`mapsStrict`) the re-insertion is the identity
(`wire_eq_wire0`).  Hence `cmp_wire`; C01's guard `sortedKeys`, stated on the keys as they come back from the wire,
follows from the invariant of the INPUT term (`sortedKeys_of_mapsStrict`); and `wire` keeps the invariant
(`mapsStrict_wire`).  The only other hypothesis is the type invariant `i64T` (integers are `i64`s): the encoder takes
the low 8 bytes of the magnitude.
-/
namespace Edp
open Term

/-- an integer as `wire` (Lemmas/RoundTrip.lean) returns it: `wire_int_eq` -/
def wint (i : Int) : Term :=
  if -2147483648 ≤ i ∧ i ≤ 2147483647 then .int i else .big (decide (i < 0)) (natDigits i.natAbs)

theorem wire_int_eq (i : Int) (h : -9223372036854775808 ≤ i ∧ i ≤ 9223372036854775807) : wire (.int i) = wint i := by
  unfold wire wint
  by_cases h2 : -2147483648 ≤ i ∧ i ≤ 2147483647
  · simp [h2]
  · simp only [h2, if_false]
    rw [wd_digits_eq i.natAbs (by omega) (by omega)]

/-- an integer and the big integer of the same value compare alike with everything -/
theorem cmpN_wint_left (i : Int) (y : Term) : cmpN (wint i) y = cmpN (.int i) y := by
  unfold wint; split
  · rfl
  by_cases h : rank y = 0
  · rcases rank_eq_0 h with ⟨j, rfl⟩ | ⟨_, _, rfl⟩ | ⟨_, rfl⟩
    · rw [cmpN_big_int, cmpN_int_int, cmpIntBig_eq _ _ _ (minDigits_natDigits _), bigVal_natDigits, ← compare_int_rev]
    · rw [cmpN_big_big, cmpN_int_big]; rfl
    · rw [cmpN_big_float, cmpN_int_float]; rfl
  · rw [cmpN_of_rank_ne _ _ (Ne.symm h), cmpN_of_rank_ne _ _ (Ne.symm h)]; rfl

theorem cmpN_wint_right (i : Int) (y : Term) : cmpN y (wint i) = cmpN y (.int i) := by
  rw [cmpN_swap, cmpN_wint_left, ← cmpN_swap]

theorem rank_wint (i : Int) : rank (wint i) = 0 := by unfold wint; split <;> rfl
theorem norm_wint (i : Int) : norm (wint i) = wint i := by unfold wint; split <;> rfl
theorem mapsStrict_wint (i : Int) : mapsStrict (wint i) = true := by unfold wint; split <;> rfl

mutual
/-- integers and strings as they come back from the wire, nothing else changed -/
def wleaf : Term → Term
  | .int i => wint i
  | .str s => .bin s
  | .list l => .list (wleafL l)
  | .ilist l t => .ilist (wleafL l) (wleaf t)
  | .map kvs => .map (wleafKV kvs)
  | .tuple l => .tuple (wleafL l)
  | .ifun a u i nf m oi ou p fr => .ifun a u i nf m oi ou p (wleafL fr)
  | t => t
def wleafL : List Term → List Term
  | [] => []
  | t :: ts => wleaf t :: wleafL ts
def wleafKV : List (Term × Term) → List (Term × Term)
  | [] => []
  | (k, v) :: r => (wleaf k, wleaf v) :: wleafKV r
end

mutual
/-- `wire` (Lemmas/RoundTrip.lean) without the re-insertion of map entries, on mathematical integers -/
def wire0 : Term → Term
  | .int i => wint i
  | .str s => .bin s
  | .list l => match l with
    | [] => .nil
    | _ => .list (wire0L l)
  | .ilist l t => match wire0 t with
    | .nil => .list (wire0L l)
    | t' => .ilist (wire0L l) t'
  | .map kvs => .map (wire0KV kvs)
  | .tuple l => .tuple (wire0L l)
  | .ifun a u i nf m oi ou p fr => .ifun a u i nf m oi ou p (wire0L fr)
  | t => t
def wire0L : List Term → List Term
  | [] => []
  | t :: ts => wire0 t :: wire0L ts
def wire0KV : List (Term × Term) → List (Term × Term)
  | [] => []
  | (k, v) :: r => (wire0 k, wire0 v) :: wire0KV r
end

theorem wleafL_length : ∀ (l : List Term), (wleafL l).length = l.length
  | [] => rfl
  | _ :: ts => by simp [wleafL, wleafL_length ts]

theorem wleafKV_length : ∀ (l : List (Term × Term)), (wleafKV l).length = l.length
  | [] => rfl
  | (_, _) :: r => by simp [wleafKV, wleafKV_length r]

theorem wleafL_append : ∀ (a b : List Term), wleafL (a ++ b) = wleafL a ++ wleafL b
  | [], b => by simp [wleafL]
  | x :: a, b => by simp [wleafL, wleafL_append a b]

theorem rank_wleaf (t : Term) : rank (wleaf t) = rank t := by
  cases t <;> simp [wleaf, rank_wint]

theorem cmpZip_wleaf_of : ∀ (xs ys : List Term) (both aOut bOut : Ordering),
    (∀ x ∈ xs, ∀ y ∈ ys, cmpN (wleaf x) (wleaf y) = cmpN x y) →
    cmpZip (wleafL xs) (wleafL ys) both aOut bOut = cmpZip xs ys both aOut bOut
  | [], [], _, _, _, _ | [], _ :: _, _, _, _, _ | _ :: _, [], _, _, _, _ => by simp [wleafL, cmpZip]
  | x :: xs, y :: ys, _, _, _, ih => by
    simp only [wleafL, cmpZip]
    rw [ih x (by simp) y (by simp), cmpZip_wleaf_of xs ys _ _ _ (fun x hx y hy =>
      ih x (List.mem_cons_of_mem _ hx) y (List.mem_cons_of_mem _ hy))]

theorem wleafKV_fst : ∀ (l : List (Term × Term)), (wleafKV l).map (·.1) = wleafL (l.map (·.1))
  | [] => rfl
  | (_, _) :: r => by simp [wleafKV, wleafL, wleafKV_fst r]

theorem wleafKV_snd : ∀ (l : List (Term × Term)), (wleafKV l).map (·.2) = wleafL (l.map (·.2))
  | [] => rfl
  | (_, _) :: r => by simp [wleafKV, wleafL, wleafKV_snd r]

theorem cells_wleaf {a : Term} (h : rank a = 8) : cells (wleaf a) = (wleafL (cells a).1, (cells a).2.map wleaf) := by
  rcases rank_eq_8 h with rfl | ⟨_, rfl⟩ | ⟨_, _, rfl⟩ <;> simp [wleaf, cells, wleafL]

theorem bp_wleaf {a : Term} (h : rank a = 9) : bp (wleaf a) = bp a := by
  rcases rank_eq_9 h with ⟨_, rfl⟩ | ⟨_, _, rfl⟩ | ⟨_, rfl⟩ <;> simp [wleaf, bp, bitParts]

theorem cmpN_wleaf (a b : Term) : cmpN (wleaf a) (wleaf b) = cmpN a b := by
  induction a, b using cmpN_ind with
  | ne a b h =>
    rw [cmpN_of_rank_ne _ _ (by rwa [rank_wleaf, rank_wleaf]), rank_wleaf, rank_wleaf, cmpN_of_rank_ne _ _ h]
  | num a b ha hb =>
    rcases rank_eq_0 ha with ⟨_, rfl⟩ | ⟨_, _, rfl⟩ | ⟨_, rfl⟩ <;> rcases rank_eq_0 hb with ⟨_, rfl⟩ | ⟨_, _, rfl⟩ | ⟨_, rfl⟩ <;>
      simp only [wleaf, cmpN_wint_left, cmpN_wint_right]
  | atom | ref | xfun | port | pid => rfl
  | xfun_ifun | ifun_xfun => simp only [wleaf, cmpN_xfun_ifun, cmpN_ifun_xfun]
  | ifun _ _ _ _ _ _ _ _ fr _ _ _ _ _ _ _ _ fr2 ih => simp only [wleaf, cmpN_ifun, cmpZip_wleaf_of fr fr2 _ _ _ ih]
  | tuple x y ih => simp only [wleaf, cmpN_tuple, wleafL_length, cmpZip_wleaf_of x y _ _ _ ih]
  | map x y ihk ihv =>
    simp only [wleaf, cmpN_map, wleafKV_length, wleafKV_fst, wleafKV_snd, cmpZip_wleaf_of _ _ _ _ _ ihk,
      cmpZip_wleaf_of _ _ _ _ _ ihv]
  | list a b ha hb ihe iht =>
    rw [cmpN_cells _ _ (by rwa [rank_wleaf]) (by rwa [rank_wleaf]), cmpN_cells a b ha hb, cells_wleaf ha, cells_wleaf hb,
      cmpZip_wleaf_of _ _ _ _ _ ihe]
    have e1 : ∀ t, aOutOf (Option.map wleaf t) = aOutOf t := by intro t; cases t <;> simp [aOutOf, rank_wleaf]
    have e2 : ∀ t, bOutOf (Option.map wleaf t) = bOutOf t := by intro t; cases t <;> simp [bOutOf, rank_wleaf]
    rw [e1, e2]
    congr 1
    cases ht : (cells a).2 <;> cases hu : (cells b).2 <;> simp only [Option.map, cmpTail, rank_wleaf]
    exact iht _ _ ht hu
  | bits a b ha hb =>
    rw [cmpN_bits _ _ (by rwa [rank_wleaf]) (by rwa [rank_wleaf]), cmpN_bits a b ha hb, bp_wleaf ha, bp_wleaf hb]

theorem cmpZip_wleaf (xs ys : List Term) (both aOut bOut : Ordering) :
    cmpZip (wleafL xs) (wleafL ys) both aOut bOut = cmpZip xs ys both aOut bOut :=
  cmpZip_wleaf_of xs ys both aOut bOut (fun x _ y _ => cmpN_wleaf x y)
theorem cmpKeys_wleaf (xs ys : List (Term × Term)) : cmpKeys (wleafKV xs) (wleafKV ys) = cmpKeys xs ys := by
  rw [cmpKeys_zip, cmpKeys_zip, wleafKV_fst, wleafKV_fst, cmpZip_wleaf]
theorem cmpVals_wleaf (xs ys : List (Term × Term)) : cmpVals (wleafKV xs) (wleafKV ys) = cmpVals xs ys := by
  rw [cmpVals_zip, cmpVals_zip, wleafKV_snd, wleafKV_snd, cmpZip_wleaf]

theorem mkIlist_nil (l : List Term) : mkIlist l .nil = mkList l := by
  cases l <;> rfl

theorem wleaf_mkList (l : List Term) : wleaf (mkList l) = mkList (wleafL l) := by
  cases l <;> simp [mkList, wleaf, wleafL]

theorem wleaf_mkIlist (l : List Term) (t : Term) : wleaf (mkIlist l t) = mkIlist (wleafL l) (wleaf t) := by
  cases l with
  | nil => simp [mkIlist, wleafL]
  | cons x l =>
    cases t with
    | int i => exact (mkIlist_cons_nonlist _ _ (by rw [rank_wleaf]; exact Nat.zero_ne_add_one 7)).symm
    | _ => simp [mkIlist, wleaf, wleafL, wleafL_append]

theorem wleaf_eq_nil (t : Term) (h : wleaf t = .nil) : t = .nil := by
  cases t <;> simp [wleaf] at h ⊢
  case int i => have := congrArg rank h; rw [rank_wint] at this; cases this

mutual
theorem norm_wire0 : ∀ (t : Term), norm (wire0 t) = wleaf (norm t)
  | .atom _ | .float _ | .pid _ | .port _ _ _ _ | .ref _ _ _ _ | .bin _ | .bits _ _ | .xfun _ _ _ | .nil | .big _ _
  | .str _ => rfl
  | .int i => norm_wint i
  | .tuple l | .ifun _ _ _ _ _ _ _ _ l => by simp [wire0, norm, wleaf, normL_wire0L l]
  | .map kvs => by simp [wire0, norm, wleaf, normKV_wire0KV kvs]
  | .list [] => rfl
  | .list (a :: l) => (congrArg mkList (normL_wire0L (a :: l))).trans (wleaf_mkList _).symm
  | .ilist l t => by
    have ih := norm_wire0 t
    have ihl := normL_wire0L l
    rw [norm_ilist l t, wleaf_mkIlist, ← ih, ← ihl]
    simp only [wire0]
    split
    · rename_i h
      rw [norm_list, h]
      simp [norm, mkIlist_nil]
    · rw [norm_ilist]
theorem normL_wire0L : ∀ (l : List Term), normL (wire0L l) = wleafL (normL l)
  | [] => rfl
  | t :: ts => by simp [wire0L, normL, wleafL, norm_wire0 t, normL_wire0L ts]
theorem normKV_wire0KV : ∀ (l : List (Term × Term)), normKV (wire0KV l) = wleafKV (normKV l)
  | [] => rfl
  | (k, v) :: r => by simp [wire0KV, normKV, wleafKV, norm_wire0 k, norm_wire0 v, normKV_wire0KV r]
end

theorem cmp_wire0 (a b : Term) : Term.cmp (wire0 a) (wire0 b) = Term.cmp a b := by
  unfold Term.cmp
  rw [norm_wire0, norm_wire0, cmpN_wleaf]

theorem allLt_wire0 (k : Term) (r : List (Term × Term)) : allLt (wire0 k) (wire0KV r) = allLt k r := by
  induction r with
  | nil => rfl
  | cons p r ih =>
    obtain ⟨k2, v2⟩ := p
    simp only [wire0KV, allLt, List.all_cons, cmp_wire0] at ih ⊢
    rw [ih]

theorem pairwiseLt_wire0KV : ∀ (m : List (Term × Term)), pairwiseLt (wire0KV m) = pairwiseLt m
  | [] => rfl
  | (k, v) :: r => by simp only [wire0KV, pairwiseLt, allLt_wire0, pairwiseLt_wire0KV r]

mutual
theorem mapsStrict_wire0 : ∀ (t : Term), mapsStrict t = true → mapsStrict (wire0 t) = true
  | .atom _, _ | .float _, _ | .pid _, _ | .port _ _ _ _, _ | .ref _ _ _ _, _ | .bin _, _ | .bits _ _, _ | .xfun _ _ _, _
  | .nil, _ | .big _ _, _ | .str _, _ => rfl
  | .int i, _ => mapsStrict_wint i
  | .tuple l, s | .ifun _ _ _ _ _ _ _ _ l, s => mapsStrictL_wire0L l s
  | .list [], _ => rfl
  | .list (a :: l), s => mapsStrictL_wire0L (a :: l) s
  | .ilist l t, s => by
    simp only [mapsStrict, Bool.and_eq_true] at s
    have h1 := mapsStrictL_wire0L l s.1
    have h2 := mapsStrict_wire0 t s.2
    simp only [wire0]
    split
    · simp only [mapsStrict]; exact h1
    · simp only [mapsStrict, Bool.and_eq_true]; exact ⟨h1, h2⟩
  | .map kvs, s => by
    simp only [mapsStrict, Bool.and_eq_true] at s
    simp only [wire0, mapsStrict, Bool.and_eq_true, pairwiseLt_wire0KV]
    exact ⟨s.1, mapsStrictKV_wire0KV kvs s.2⟩
theorem mapsStrictL_wire0L : ∀ (l : List Term), mapsStrictL l = true → mapsStrictL (wire0L l) = true
  | [], _ => rfl
  | t :: ts, s => by
    simp only [mapsStrictL, Bool.and_eq_true] at s
    simp only [wire0L, mapsStrictL, Bool.and_eq_true]
    exact ⟨mapsStrict_wire0 t s.1, mapsStrictL_wire0L ts s.2⟩
theorem mapsStrictKV_wire0KV : ∀ (l : List (Term × Term)), mapsStrictKV l = true → mapsStrictKV (wire0KV l) = true
  | [], _ => rfl
  | (k, v) :: r, s => by
    simp only [mapsStrictKV, Bool.and_eq_true] at s
    simp only [wire0KV, mapsStrictKV, Bool.and_eq_true]
    exact ⟨⟨mapsStrict_wire0 k s.1.1, mapsStrict_wire0 v s.1.2⟩, mapsStrictKV_wire0KV r s.2⟩
end

mutual
/-- every integer of the term is an `i64` (the type `OwnedTerm::Integer(i64)` enforces it; the model's `Int` does not) -/
def i64T : Term → Bool
  | .int i => decide (-9223372036854775808 ≤ i ∧ i ≤ 9223372036854775807)
  | .list l => i64L l
  | .ilist l t => i64L l && i64T t
  | .map kvs => i64KV kvs
  | .tuple l => i64L l
  | .ifun _ _ _ _ _ _ _ _ fr => i64L fr
  | _ => true
def i64L : List Term → Bool
  | [] => true
  | t :: ts => i64T t && i64L ts
def i64KV : List (Term × Term) → Bool
  | [] => true
  | (k, v) :: r => i64T k && i64T v && i64KV r
end

mutual
theorem i64T_of_wfT : ∀ (t : Term), wfT t = true → i64T t = true
  | .atom _, _ | .float _, _ | .pid _, _ | .port _ _ _ _, _ | .ref _ _ _ _, _ | .bin _, _ | .bits _ _, _ | .xfun _ _ _, _
  | .nil, _ | .big _ _, _ | .str _, _ => rfl
  | .int i, h => by simpa [wfT, i64T] using h
  | .tuple l, h | .list l, h | .ifun _ _ _ _ _ _ _ _ l, h => by
    simp only [wfT, Bool.and_eq_true] at h; exact i64L_of_wfL l h.2
  | .ilist l t, h => by
    simp only [wfT, Bool.and_eq_true] at h
    simp only [i64T, Bool.and_eq_true]; exact ⟨i64L_of_wfL l h.1.2, i64T_of_wfT t h.2⟩
  | .map kvs, h => by simp only [wfT, Bool.and_eq_true] at h; exact i64KV_of_wfKV kvs h.2
theorem i64L_of_wfL : ∀ (l : List Term), wfL l = true → i64L l = true
  | [], _ => rfl
  | t :: ts, h => by
    simp only [wfL, Bool.and_eq_true] at h
    simp only [i64L, Bool.and_eq_true]; exact ⟨i64T_of_wfT t h.1, i64L_of_wfL ts h.2⟩
theorem i64KV_of_wfKV : ∀ (l : List (Term × Term)), wfKV l = true → i64KV l = true
  | [], _ => rfl
  | (k, v) :: r, h => by
    simp only [wfKV, Bool.and_eq_true] at h
    simp only [i64KV, Bool.and_eq_true]; exact ⟨⟨i64T_of_wfT k h.1.1, i64T_of_wfT v h.1.2⟩, i64KV_of_wfKV r h.2⟩
end

mutual
/-- re-inserting the entries of a `BTreeMap` in iteration order gives the same map, at every level -/
theorem wire_eq_wire0 : ∀ (t : Term), i64T t = true → mapsStrict t = true → wire t = wire0 t
  | .atom _, _, _ | .float _, _, _ | .pid _, _, _ | .port _ _ _ _, _, _ | .ref _ _ _ _, _, _ | .bin _, _, _ | .bits _ _, _, _
  | .xfun _ _ _, _, _ | .nil, _, _ | .big _ _, _, _ | .str _, _, _ => rfl
  | .int i, h, _ => wire_int_eq i (of_decide_eq_true h)
  | .tuple l, h, s | .ifun _ _ _ _ _ _ _ _ l, h, s => by simp only [wire, wire0, wireL_eq_wire0L l h s]
  | .list [], _, _ => rfl
  | .list (a :: l), h, s => by simp only [wire, wire0, wireL_eq_wire0L (a :: l) h s]
  | .ilist l t, h, s => by
    simp only [i64T, Bool.and_eq_true] at h; simp only [mapsStrict, Bool.and_eq_true] at s
    simp only [wire, wire0, wireL_eq_wire0L l h.1 s.1, wire_eq_wire0 t h.2 s.2]
    cases wire0 t <;> rfl
  | .map kvs, h, s => by
    simp only [i64T] at h; simp only [mapsStrict, Bool.and_eq_true] at s
    simp only [wire, wire0, wireKV_eq_wire0KV kvs h s.2]
    rw [insertAll_sorted _ (by rw [pairwiseLt_wire0KV]; exact s.1)]
theorem wireL_eq_wire0L : ∀ (l : List Term), i64L l = true → mapsStrictL l = true → wireL l = wire0L l
  | [], _, _ => rfl
  | t :: ts, h, s => by
    simp only [i64L, Bool.and_eq_true] at h; simp only [mapsStrictL, Bool.and_eq_true] at s
    simp only [wireL, wire0L, wire_eq_wire0 t h.1 s.1, wireL_eq_wire0L ts h.2 s.2]
theorem wireKV_eq_wire0KV : ∀ (l : List (Term × Term)), i64KV l = true → mapsStrictKV l = true → wireKV l = wire0KV l
  | [], _, _ => rfl
  | (k, v) :: r, h, s => by
    simp only [i64KV, Bool.and_eq_true] at h; simp only [mapsStrictKV, Bool.and_eq_true] at s
    simp only [wireKV, wire0KV, wire_eq_wire0 k h.1.1 s.1.1, wire_eq_wire0 v h.1.2 s.1.2, wireKV_eq_wire0KV r h.2 s.2]
end

theorem cmp_wire (a b : Term) (ha : i64T a = true) (hb : i64T b = true) (sa : mapsStrict a = true)
    (sb : mapsStrict b = true) : Term.cmp (wire a) (wire b) = Term.cmp a b := by
  rw [wire_eq_wire0 a ha sa, wire_eq_wire0 b hb sb, cmp_wire0]

theorem mapsStrict_wire (t : Term) (h : i64T t = true) (s : mapsStrict t = true) : mapsStrict (wire t) = true := by
  rw [wire_eq_wire0 t h s]; exact mapsStrict_wire0 t s

mutual
/-- C01's guard (keys increasing AFTER the wire) follows from the `BTreeMap` invariant of the term as it is -/
theorem sortedKeys_of_mapsStrict : ∀ (t : Term), i64T t = true → mapsStrict t = true → sortedKeys t = true
  | .atom _, _, _ | .float _, _, _ | .pid _, _, _ | .port _ _ _ _, _, _ | .ref _ _ _ _, _, _ | .bin _, _, _ | .bits _ _, _, _
  | .xfun _ _ _, _, _ | .nil, _, _ | .big _ _, _, _ | .str _, _, _ | .int _, _, _ => rfl
  | .tuple l, h, s | .list l, h, s | .ifun _ _ _ _ _ _ _ _ l, h, s => sortedKeysL_of_mapsStrictL l h s
  | .ilist l t, h, s => by
    simp only [i64T, Bool.and_eq_true] at h; simp only [mapsStrict, Bool.and_eq_true] at s
    simp only [sortedKeys, Bool.and_eq_true]
    exact ⟨sortedKeysL_of_mapsStrictL l h.1 s.1, sortedKeys_of_mapsStrict t h.2 s.2⟩
  | .map kvs, h, s => by
    simp only [i64T] at h; simp only [mapsStrict, Bool.and_eq_true] at s
    simp only [sortedKeys, Bool.and_eq_true]
    refine ⟨sortedKeysKV_of_mapsStrictKV kvs h s.2, ?_⟩
    rw [wireKV_eq_wire0KV kvs h s.2, pairwiseLt_wire0KV]; exact s.1
theorem sortedKeysL_of_mapsStrictL : ∀ (l : List Term), i64L l = true → mapsStrictL l = true → sortedKeysL l = true
  | [], _, _ => rfl
  | t :: ts, h, s => by
    simp only [i64L, Bool.and_eq_true] at h; simp only [mapsStrictL, Bool.and_eq_true] at s
    simp only [sortedKeysL, Bool.and_eq_true]
    exact ⟨sortedKeys_of_mapsStrict t h.1 s.1, sortedKeysL_of_mapsStrictL ts h.2 s.2⟩
theorem sortedKeysKV_of_mapsStrictKV : ∀ (l : List (Term × Term)), i64KV l = true → mapsStrictKV l = true →
    sortedKeysKV l = true
  | [], _, _ => rfl
  | (k, v) :: r, h, s => by
    simp only [i64KV, Bool.and_eq_true] at h; simp only [mapsStrictKV, Bool.and_eq_true] at s
    simp only [sortedKeysKV, Bool.and_eq_true]
    exact ⟨⟨sortedKeys_of_mapsStrict k h.1.1 s.1.1, sortedKeys_of_mapsStrict v h.1.2 s.1.2⟩,
      sortedKeysKV_of_mapsStrictKV r h.2 s.2⟩
end

end Edp
