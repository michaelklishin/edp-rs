import EdpVerif.Impl.SerdeAny
import EdpVerif.Lemmas.SerdeWire
/-! C15, `deserialize_any`: an integer term of either representation is shown as the 64-bit integer it is; the arms of the
model against the arms of the source. -/
namespace Edp.SerdeAny
open Edp Edp.Serde
open Edp.Spec.Serde (intVal)

/-- how a 64-bit integer is shown: `visit_i64` when it fits, `visit_u64` otherwise -/
def rep (i : Int) : Content := if IntTy.i64.inRange i then .i64 i else .u64 i

/-- the `BigInt` arm: a value within 64 bits is shown, as `rep` shows it; anything beyond is an error, not a truncated number -/
theorem content_big (neg : Bool) (d : Bytes) (c : Content) :
    content (.big neg d) = .ok c ↔
      ∃ i, intVal (.big neg d) = some i ∧ (IntTy.i64.inRange i = true ∨ IntTy.u64.inRange i = true) ∧ c = rep i := by
  simp only [content, contentBig, SerdeInt.deInt_eq, intVal, rep, Option.some.injEq, exists_eq_left']
  generalize (if neg = true then -((magVal d : Nat) : Int) else (magVal d : Nat)) = v
  by_cases h1 : IntTy.i64.inRange v = true
  · simp only [h1, if_true, true_or, true_and, Except.ok.injEq]; exact eq_comm
  · rw [Bool.not_eq_true] at h1
    by_cases h2 : IntTy.u64.inRange v = true
    · simp only [h1, h2, Bool.false_eq_true, if_true, if_false, or_true, true_and, Except.ok.injEq]; exact eq_comm
    · simp [h1, h2]

/-- an integer term is shown by `deserialize_any` as the 64-bit integer it denotes (an `Integer` term holds an `i64`, so
for it the value has to be one) -/
theorem content_int (t : Term) (i : Int) (hv : intVal t = some i)
    (hr : IntTy.i64.inRange i = true ∨ IntTy.u64.inRange i = true)
    (h64 : IntTy.i64.inRange i = true ∨ ∃ neg d, t = .big neg d) : content t = .ok (rep i) := by
  cases t with
  | int j =>
    obtain rfl : j = i := by simpa [intVal] using hv
    obtain h64 | ⟨_, _, e⟩ := h64
    · simp [content, rep, h64]
    · cases e
  | big neg d => exact (content_big neg d _).mpr ⟨i, hv, hr, rfl⟩
  | _ => cases hv

/-! ### the arms of the model, computed by evaluation on probe terms -/

def visitOf : SRes Content → String
  | .ok (.bool _) => "visit_bool"
  | .ok (.i64 _) => "visit_i64"
  | .ok (.u64 _) => "visit_u64"
  | .ok (.f64 _) => "visit_f64"
  | .ok (.str _) => "visit_str"
  | .ok (.bytes _) => "visit_bytes"
  | .ok .unit => "visit_unit"
  | .ok .none => "visit_none"
  | .ok (.seq _) => "visit_seq"
  | .ok (.map _) => "visit_map"
  | .error _ => "error"

/-- per constructor of `OwnedTerm`: probe terms that reach every branch of its arm, in the order of the source -/
def probes : List (String × List Term) :=
  [("Atom", [.atom sTrue, .atom sFalse, .atom sNil, .atom sUndefined, .atom [120]]),
   ("Integer", [.int (-5)]),
   ("BigInt", [.big true [0, 0, 0, 0, 0, 0, 0, 128], .big false [255, 255, 255, 255, 255, 255, 255, 255]]),
   ("Float", [.float 0]),
   ("Binary", [.bin [97], .bin [255]]),
   ("String", [.str [97]]),
   ("List", [.list [.int 1]]),
   ("Tuple", [.tuple [.int 1]]),
   ("Map", [.map [(.int 1, .int 2)]]),
   ("Nil", [.nil])]

def modelArms : List (String × List String) := probes.map fun (c, ts) => (c, ts.map fun t => visitOf (content t))

/-- term constructors `deserialize_any` has no arm for -/
def unsupportedProbes : List Term :=
  [.big false [0, 0, 0, 0, 0, 0, 0, 0, 1], .big true [1, 0, 0, 0, 0, 0, 0, 128], .ilist [.int 1] (.int 2), .bits [1] 3,
   .xfun [97] [98] 1, .port [110] 1 1 none, .ref [110] 1 [1] none]

end Edp.SerdeAny
