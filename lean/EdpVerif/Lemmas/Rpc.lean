import EdpVerif.Impl.Rpc
import EdpVerif.Lemmas.PidAlloc
/-! The model of a remote call (`Impl/Rpc.lean`): the table operations, the step function as a relation (`Next`), what a
step does to single fields of the state, the inductive invariants and their preservation by every step. -/
namespace Edp.Impl.Rpc
open Edp.Impl.PidAlloc (Pid Sh Res alloc seqState seqAlloc MAXP U32)

@[simp] theorem upd_same {α : Type} (f : Nat → α) (i : Nat) (v : α) : upd f i v i = v := by simp [upd]
theorem upd_apply {α : Type} (f : Nat → α) (i j : Nat) (v : α) : upd f i v j = if j = i then v else f j := rfl

theorem mem_eraseKey {p : List (Pid × Nat)} {k k' : Pid} {i : Nat} :
    (k', i) ∈ eraseKey p k ↔ (k', i) ∈ p ∧ k' ≠ k := by
  simp [eraseKey]

theorem lookupKey_some {p : List (Pid × Nat)} {k : Pid} {i : Nat} (h : lookupKey p k = some i) : (k, i) ∈ p := by
  unfold lookupKey at h
  obtain ⟨⟨k', i'⟩, hf, hi⟩ := Option.map_eq_some_iff.mp h
  obtain rfl : k' = k := by simpa using List.find?_some hf
  obtain rfl : i' = i := hi
  exact List.mem_of_find?_eq_some hf

theorem lookupKey_none {p : List (Pid × Nat)} {k : Pid} (h : lookupKey p k = none) (i : Nat) : (k, i) ∉ p := by
  intro hm
  have := List.find?_eq_none.mp (Option.map_eq_none_iff.mp h) (k, i) hm
  simp at this

theorem lookupKey_of_mem {p : List (Pid × Nat)} {k : Pid} {i : Nat} (hm : (k, i) ∈ p)
    (hu : ∀ j, (k, j) ∈ p → j = i) : lookupKey p k = some i := by
  cases h : lookupKey p k with
  | none => exact absurd hm (lookupKey_none h i)
  | some j => rw [hu j (lookupKey_some h)]

@[simp] theorem removeKey_pending (s : St) (k : Pid) : (s.removeKey k).pending = eraseKey s.pending k := rfl
@[simp] theorem removeKey_alloc (s : St) (k : Pid) : (s.removeKey k).alloc = s.alloc := rfl
@[simp] theorem removeKey_nalloc (s : St) (k : Pid) : (s.removeKey k).nalloc = s.nalloc := rfl
@[simp] theorem removeKey_recv (s : St) (k : Pid) : (s.removeKey k).recv = s.recv := rfl
@[simp] theorem removeKey_lock (s : St) (k : Pid) : (s.removeKey k).lock = s.lock := rfl
@[simp] theorem removeKey_conns (s : St) (k : Pid) : (s.removeKey k).conns = s.conns := rfl
@[simp] theorem removeKey_procs (s : St) (k : Pid) : (s.removeKey k).procs = s.procs := rfl
@[simp] theorem removeKey_inbox (s : St) (k : Pid) : (s.removeKey k).inbox = s.inbox := rfl
@[simp] theorem removeKey_procLog (s : St) (k : Pid) : (s.removeKey k).procLog = s.procLog := rfl
@[simp] theorem removeKey_localNode (s : St) (k : Pid) : (s.removeKey k).localNode = s.localNode := rfl

theorem removeKey_callers_lock (s : St) (l : Nat → Option Nat) (k : Pid) :
    ({ s with lock := l }.removeKey k).callers = (s.removeKey k).callers := rfl

/-- `removeKey` leaves every call's record as it is, except that the owner of the entry loses its sender -/
theorem removeKey_callers (s : St) (k : Pid) (j : Nat) :
    (s.removeKey k).callers j =
      { s.callers j with txDropped := (s.callers j).txDropped || decide (lookupKey s.pending k = some j) } := by
  unfold St.removeKey
  cases h : lookupKey s.pending k with
  | none => simp
  | some j' =>
    by_cases hj : j = j'
    · subst hj; simp
    · have : j' ≠ j := fun h => hj h.symm
      simp [upd_apply, hj, this]

theorem getElem?_append_some {α : Type} (l : List α) (x y : α) (m : Nat) (h : l[m]? = some y) : (l ++ [x])[m]? = some y := by
  rw [List.getElem?_append_left (List.getElem?_eq_some_iff.mp h).1]; exact h

/-- `step` as a relation: one constructor for each way a step can be taken, with the guard that held and the new state.
Every enabled step is one of these (`Next.of_step`); the proofs below look at steps through this relation only. -/
inductive Next (s : St) : Step → St → Prop
  | beginOk (i : Nat) (p : Pid) (a' : Sh) : (s.callers i).pc = .start → alloc s.alloc = (.ok p, a') →
      Next s (.begin i)
        { s with alloc := a', nalloc := s.nalloc + 1,
                 callers := upd s.callers i { s.callers i with pc := .allocated, key := p, ix := s.nalloc } }
  | beginFail (i : Nat) (r : Res) (a' : Sh) : (s.callers i).pc = .start → alloc s.alloc = (r, a') →
      Next s (.begin i)
        { s with alloc := a', nalloc := s.nalloc + 1,
                 callers := upd s.callers i { s.callers i with pc := .done, out := some .allocFail, ix := s.nalloc } }
  | insert (i : Nat) : (s.callers i).pc = .allocated →
      Next s (.insert i)
        (let s1 := s.removeKey (s.callers i).key
         { s1 with pending := ((s.callers i).key, i) :: s1.pending,
                   callers := upd s1.callers i { s1.callers i with pc := .inserted } })
  | lookupSome (i cid : Nat) : (s.callers i).pc = .inserted ∧ s.conns cid = true →
      Next s (.lookup i (some cid)) (s.setCaller i { s.callers i with pc := .found, conn := cid })
  | lookupNone (i : Nat) : (s.callers i).pc = .inserted →
      Next s (.lookup i none)
        (let s1 := s.removeKey (s.callers i).key
         s1.setCaller i { s1.callers i with pc := .exiting .noConn })
  | lock (i : Nat) : (s.callers i).pc = .found ∧ s.lock (s.callers i).conn = none →
      Next s (.lock i)
        { s with lock := upd s.lock (s.callers i).conn (some i),
                 callers := upd s.callers i { s.callers i with pc := .locked } }
  | sendOk (i : Nat) : (s.callers i).pc = .locked →
      Next s (.send i true) (s.setCaller i { s.callers i with pc := .sent })
  | sendErr (i : Nat) : (s.callers i).pc = .locked →
      Next s (.send i false)
        (let s1 := s.removeKey (s.callers i).key
         { s1 with lock := upd s1.lock (s.callers i).conn none,
                   callers := upd s1.callers i { s1.callers i with pc := .exiting .sendErr } })
  | unlock (i : Nat) : (s.callers i).pc = .sent →
      Next s (.unlock i)
        { s with lock := upd s.lock (s.callers i).conn none,
                 callers := upd s.callers i { s.callers i with pc := .waiting } }
  | recvReply (i m b : Nat) : (s.callers i).pc = .waiting → (s.callers i).val = some (m, b) →
      Next s (.recvReply i)
        (s.setCaller i { s.callers i with pc := .exiting (.reply m b), val := none, rxAlive := false })
  | recvClosed (i : Nat) : (s.callers i).pc = .waiting ∧ (s.callers i).val = none ∧ (s.callers i).txDropped = true →
      Next s (.recvClosed i) (s.setCaller i { s.callers i with pc := .exiting .cancelled, rxAlive := false })
  | timeout (i : Nat) : (s.callers i).pc = .waiting →
      Next s (.timeout i) (s.setCaller i { s.callers i with pc := .timedOut, val := none, rxAlive := false })
  | timeoutRemove (i : Nat) : (s.callers i).pc = .timedOut →
      Next s (.timeoutRemove i)
        (let s1 := s.removeKey (s.callers i).key
         s1.setCaller i { s1.callers i with pc := .exiting .timeout })
  | finish (i : Nat) (o : Outcome) : (s.callers i).pc = .exiting o →
      Next s (.finish i)
        (let s1 := s.removeKey (s.callers i).key
         s1.setCaller i { s1.callers i with pc := .done, out := some o })
  | dropEarly (i : Nat) : (s.callers i).pc = .allocated →
      Next s (.drop i)
        (s.setCaller i { s.callers i with pc := .done, out := some .dropped, val := none, rxAlive := false })
  | dropArmed (i : Nat) : (s.callers i).pc ≠ .start ∧ (s.callers i).pc ≠ .done → (s.callers i).pc.armed = true →
      (s.callers i).pc.holdsLock = false →
      Next s (.drop i)
        (let s1 := s.removeKey (s.callers i).key
         s1.setCaller i { s1.callers i with pc := .done, out := some .dropped, val := none, rxAlive := false })
  | dropHeld (i : Nat) : (s.callers i).pc ≠ .start ∧ (s.callers i).pc ≠ .done → (s.callers i).pc.holdsLock = true →
      Next s (.drop i)
        (let s1 := { s with lock := upd s.lock (s.callers i).conn none }.removeKey (s.callers i).key
         s1.setCaller i { s1.callers i with pc := .done, out := some .dropped, val := none, rxAlive := false })
  | rStartLocal (r : Nat) (msg : Msg) : s.recv r = .idle → msg.node = s.localNode ∧ msg.pid ∈ s.procs →
      Next s (.rStart r msg)
        { s with inbox := s.inbox ++ [msg], procLog := s.procLog ++ [(msg.pid, s.inbox.length)] }
  | rStartRoute (r : Nat) (msg : Msg) : s.recv r = .idle →
      Next s (.rStart r msg)
        { s with inbox := s.inbox ++ [msg], recv := upd s.recv r (.routing msg s.inbox.length) }
  | rRemoveHit (r : Nat) (msg : Msg) (m i : Nat) : s.recv r = .routing msg m → lookupKey s.pending msg.pid = some i →
      Next s (.rRemove r)
        { s with pending := eraseKey s.pending msg.pid, recv := upd s.recv r (.holding i m msg.body) }
  | rRemoveMiss (r : Nat) (msg : Msg) (m : Nat) : s.recv r = .routing msg m → lookupKey s.pending msg.pid = none →
      Next s (.rRemove r) { s with recv := upd s.recv r .idle }
  | rSend (r i m b : Nat) : s.recv r = .holding i m b → (s.callers i).rxAlive = true →
      Next s (.rSend r)
        { s with recv := upd s.recv r .idle, callers := upd s.callers i { s.callers i with val := some (m, b) } }
  | rSendGone (r i m b : Nat) : s.recv r = .holding i m b → ¬(s.callers i).rxAlive = true →
      Next s (.rSend r) { s with recv := upd s.recv r .idle }
  | rStop (r : Nat) : s.recv r = .idle →
      Next s (.rStop r) { s with recv := upd s.recv r .stopped, conns := upd s.conns r false }
  | spawnOk (p : Pid) (a' : Sh) : alloc s.alloc = (.ok p, a') →
      Next s .spawnProc { s with alloc := a', nalloc := s.nalloc + 1, procs := p :: s.procs }
  | spawnFail (r : Res) (a' : Sh) : alloc s.alloc = (r, a') →
      Next s .spawnProc { s with alloc := a', nalloc := s.nalloc + 1 }
  | procExit (p : Pid) : Next s (.procExit p) { s with procs := s.procs.filter (fun q => q ≠ p) }
  | otherAlloc : Next s .otherAlloc { s with alloc := (alloc s.alloc).2, nalloc := s.nalloc + 1 }
  | start (c : Nat) : Next s (.start c) { s with alloc := s.alloc.setCreation c }

theorem Next.of_step {s s' : St} {e : Step} (hs : step s e = some s') : Next s e s' := by
  cases e with
  | lookup i c =>
    cases c <;> simp only [step] at hs <;> split at hs <;> cases hs <;> constructor <;> first | assumption | rfl
  | send i ok =>
    cases ok <;> simp only [step] at hs <;> split at hs <;> cases hs <;> constructor <;> first | assumption | rfl
  | drop i =>
    simp only [step] at hs
    split at hs <;> cases hs
    rename_i h
    cases hpc : (s.callers i).pc <;> simp only [hpc, Pc.suspended, Pc.holdsLock, Pc.armed] at h ⊢
    case start | exiting | done => cases h
    case allocated => exact .dropEarly i hpc
    case locked | sent => exact .dropHeld i (by rw [hpc]; exact ⟨nofun, nofun⟩) (by rw [hpc]; rfl)
    all_goals exact .dropArmed i (by rw [hpc]; exact ⟨nofun, nofun⟩) (by rw [hpc]; rfl) (by rw [hpc]; rfl)
  | _ =>
    simp only [step] at hs <;> (repeat' split at hs) <;> cases hs <;> constructor <;> first | assumption | rfl

variable {s s' : St} {e : Step} {a0 : Sh}

theorem run_cons (s : St) (e : Step) (σ : List Step) : run s (e :: σ) = run ((step s e).getD s) σ := rfl

theorem run_append (s : St) (σ τ : List Step) : run s (σ ++ τ) = run (run s σ) τ := by
  simp [run, List.foldl_append]

theorem run_induct {P : St → Prop} (σ : List Step) (s : St) (h : P s)
    (hstep : ∀ s s' e, e ∈ σ → P s → Next s e s' → P s') : P (run s σ) :=
  List.foldlRecOn (motive := P) σ _ h fun t ht e he => by
    show P ((step t e).getD t)
    cases hs : step t e with
    | none => exact ht
    | some t' => exact hstep t t' e he ht (Next.of_step hs)

/-! The lemmas proved by `cases hn <;> simp only [..]` and `grind`, here and below, all go the same way: the constructors of
`Next` give the new state; `upd_apply`, `removeKey_callers` and the projections turn a field of call `j` after the step
into `if j = i then .. else ..` of fields before it (`i` the call that moves); what is left is propositional. -/

theorem nalloc_step (hn : Next s e s') : s.nalloc ≤ s'.nalloc := by
  cases hn with
  | beginOk | beginFail | spawnOk | spawnFail | otherAlloc => exact Nat.le_succ _
  | _ => exact Nat.le_refl _

theorem inbox_step (hn : Next s e s') :
    s'.inbox = s.inbox ∨ ∃ r msg, e = .rStart r msg ∧ s'.inbox = s.inbox ++ [msg] := by
  cases hn with
  | rStartLocal r msg | rStartRoute r msg => exact Or.inr ⟨r, msg, rfl, rfl⟩
  | _ => exact Or.inl rfl

/-- what a step does to receiver `r`: nothing, or one of the receiver's own moves -/
theorem recv_step (hn : Next s e s') (r : Nat) :
    s'.recv r = s.recv r ∨
    (∃ msg, e = .rStart r msg ∧ s.recv r = .idle ∧ s'.recv r = .routing msg s.inbox.length ∧
      s'.inbox = s.inbox ++ [msg]) ∨
    (∃ msg m i, s.recv r = .routing msg m ∧ lookupKey s.pending msg.pid = some i ∧
      s'.recv r = .holding i m msg.body) ∨
    (s.recv r ≠ .stopped ∧ (s'.recv r = .idle ∨ (e = .rStop r ∧ s'.recv r = .stopped))) := by
  cases hn <;> simp only [upd_apply, St.setCaller, removeKey_recv]
  all_goals grind

theorem recv_routing (hn : Next s e s') {r m : Nat} {msg : Msg} (hr : s'.recv r = .routing msg m) :
    s.recv r = .routing msg m ∨ (e = .rStart r msg ∧ m = s.inbox.length ∧ s'.inbox = s.inbox ++ [msg]) := by
  rcases recv_step hn r with h | ⟨_, he, _, h, hin⟩ | ⟨_, _, _, _, _, h⟩ | ⟨_, h | ⟨_, h⟩⟩ <;> rw [h] at hr
  · exact .inl hr
  · cases hr; exact .inr ⟨he, rfl, hin⟩
  all_goals cases hr

theorem recv_holding (hn : Next s e s') {r i m b : Nat} (hr : s'.recv r = .holding i m b) :
    s.recv r = .holding i m b ∨
      ∃ msg, s.recv r = .routing msg m ∧ lookupKey s.pending msg.pid = some i ∧ b = msg.body := by
  rcases recv_step hn r with h | ⟨_, _, _, h, _⟩ | ⟨msg, _, _, hro, hl, h⟩ | ⟨_, h | ⟨_, h⟩⟩ <;> rw [h] at hr
  · exact .inl hr
  · cases hr
  · cases hr; exact .inr ⟨msg, hro, hl, rfl⟩
  all_goals cases hr

theorem val_step (hn : Next s e s') (j : Nat) :
    (s'.callers j).val = (s.callers j).val ∨ (s'.callers j).val = none ∨
      ∃ r m b, s.recv r = .holding j m b ∧ (s'.callers j).val = some (m, b) := by
  cases hn <;> simp only [upd_apply, St.setCaller, apply_ite Caller.val, removeKey_callers]
  all_goals grind

/-- a step leaves a call's outcome alone and does not end the call, or it is the one step that ends the call, and gives
it its outcome -/
theorem ends_step (hn : Next s e s') (j : Nat) :
    ((s'.callers j).out = (s.callers j).out ∧ ((s'.callers j).pc = .done ↔ (s.callers j).pc = .done)) ∨
    ((s.callers j).pc ≠ .done ∧ (s'.callers j).pc = .done ∧ (s'.callers j).out ≠ none ∧
      (e = .finish j ∨ e = .drop j ∨ (e = .begin j ∧ (s'.callers j).out = some .allocFail))) := by
  cases hn <;> simp only [upd_apply, St.setCaller, apply_ite Caller.pc, apply_ite Caller.out, removeKey_callers]
  all_goals grind

theorem started_step (hn : Next s e s') (j : Nat) (hj : (s.callers j).pc ≠ .start) :
    (s'.callers j).key = (s.callers j).key ∧ (s'.callers j).pc ≠ .start := by
  cases hn <;> simp only [upd_apply, St.setCaller, apply_ite Caller.key, apply_ite Caller.pc, removeKey_callers]
  all_goals grind

/-- a call gets its key and the index of its allocation at `begin` and keeps them -/
theorem begin_or_kept (hn : Next s e s') (j : Nat) (h' : (s'.callers j).pc ≠ .start) :
    ((s.callers j).pc ≠ .start ∧ (s'.callers j).key = (s.callers j).key ∧ (s'.callers j).ix = (s.callers j).ix) ∨
    (e = .begin j ∧ (s'.callers j).ix = s.nalloc ∧ s'.nalloc = s.nalloc + 1 ∧ ∃ r a', alloc s.alloc = (r, a') ∧
      (r = .ok (s'.callers j).key ∨ (s'.callers j).out = some .allocFail)) := by
  revert h'
  cases hn <;>
    simp only [upd_apply, St.setCaller, apply_ite Caller.pc, apply_ite Caller.key, apply_ite Caller.ix,
      apply_ite Caller.out, removeKey_callers]
  all_goals grind

/-- the call whose own step this is -/
def Step.caller? : Step → Option Nat
  | .begin i | .insert i | .lookup i _ | .lock i | .send i _ | .unlock i | .recvReply i | .recvClosed i | .timeout i
  | .timeoutRemove i | .finish i | .drop i => some i
  | _ => none

theorem pc_frame (hn : Next s e s') (i : Nat) (h : Step.caller? e ≠ some i) :
    (s'.callers i).pc = (s.callers i).pc := by
  cases hn <;> simp only [upd_apply, St.setCaller, apply_ite Caller.pc, removeKey_callers, Step.caller?] at h ⊢
  all_goals grind

/-- every entry of the table belongs to a call that is still running and carries that call's key -/
def EntryInv (s : St) : Prop :=
  ∀ k i, (k, i) ∈ s.pending → (s.callers i).key = k ∧ (s.callers i).pc.armed = true

theorem entry_init (a : Sh) (n : Nat) : EntryInv (St.init a n) := by
  intro k i h; simp [St.init] at h

theorem entry_step (h : EntryInv s) (hn : Next s e s') : EntryInv s' := by
  intro k j hm
  have := h k j
  clear h
  cases hn <;>
    simp only [upd_apply, St.setCaller, List.mem_cons, removeKey_pending, mem_eraseKey, Prod.mk.injEq,
      apply_ite Caller.pc, apply_ite Caller.key, removeKey_callers] at hm ⊢
  all_goals grind [Pc.armed]

/-- a call has an outcome exactly when it is finished (and keeps it: `out_step`) -/
def DoneInv (s : St) : Prop := ∀ i, (s.callers i).pc = .done ↔ (s.callers i).out ≠ none

theorem done_init (a : Sh) (n : Nat) : DoneInv (St.init a n) := by
  intro i; simp [St.init]

theorem done_step (h : DoneInv s) (hn : Next s e s') : DoneInv s' := by
  intro j
  rcases ends_step hn j with ⟨ho, hp⟩ | ⟨_, hp, ho, _⟩
  · rw [hp, ho]; exact h j
  · exact ⟨fun _ => ho, fun _ => hp⟩

theorem out_step (h : DoneInv s) (hn : Next s e s') (j : Nat) (o : Outcome)
    (ho : (s.callers j).out = some o) : (s'.callers j).out = some o := by
  rcases ends_step hn j with ⟨ho', _⟩ | ⟨hnd, _⟩
  · rw [ho', ho]
  · exact absurd ((h j).mpr (by rw [ho]; simp)) hnd

/-- a finished call stays finished (its channel may still be written by a receiver that took its sender earlier) -/
theorem done_pc_step {s s' : St} {e : Step} (hs : step s e = some s') (j : Nat)
    (hd : (s.callers j).pc = .done) : (s'.callers j).pc = .done := by
  rcases ends_step (Next.of_step hs) j with ⟨_, hp⟩ | ⟨hnd, _⟩
  · exact hp.mpr hd
  · exact absurd hd hnd

/-- message number `m` of the inbound log was addressed to the numbers `k` and carried `b` -/
def Addr (inbox : List Msg) (m : Nat) (k : Pid) (b : Nat) : Prop :=
  ∃ msg, inbox[m]? = some msg ∧ msg.pid = k ∧ msg.body = b

theorem inbox_getElem?_step (hn : Next s e s') {m : Nat} {x : Msg} (h : s.inbox[m]? = some x) :
    s'.inbox[m]? = some x := by
  rcases inbox_step hn with h' | ⟨_, msg, _, h'⟩ <;> rw [h']
  · exact h
  · exact getElem?_append_some _ _ _ _ h

theorem Addr.mono {inbox : List Msg} {m : Nat} {k : Pid} {b : Nat} (x : Msg) (h : Addr inbox m k b) :
    Addr (inbox ++ [x]) m k b := by
  obtain ⟨msg, h1, h2, h3⟩ := h
  exact ⟨msg, getElem?_append_some _ _ _ _ h1, h2, h3⟩

/-- whatever is in flight towards a call — in its channel, in its hands, in its outcome (`reply`), with a receiver that
took its sender (`hold`) — was addressed to that call's key; a receiver routes a message of the log (`route`); a call
that has not begun has neither value nor outcome (`fresh`) -/
structure AddrInv (s : St) : Prop where
  reply : ∀ i m b, (s.callers i).val = some (m, b) ∨ (s.callers i).pc = .exiting (.reply m b) ∨
      (s.callers i).out = some (.reply m b) → Addr s.inbox m (s.callers i).key b
  hold : ∀ r i m b, s.recv r = .holding i m b → Addr s.inbox m (s.callers i).key b ∧ (s.callers i).pc ≠ .start
  route : ∀ r msg m, s.recv r = .routing msg m → s.inbox[m]? = some msg
  fresh : ∀ i, (s.callers i).pc = .start → (s.callers i).val = none ∧ (s.callers i).out = none

theorem AddrInv.out (h : AddrInv s) (i m b : Nat) (ho : (s.callers i).out = some (.reply m b)) :
    Addr s.inbox m (s.callers i).key b :=
  h.reply i m b (.inr (.inr ho))

theorem AddrInv.started_of_out (h : AddrInv s) {i : Nat} {o : Outcome} (ho : (s.callers i).out = some o) :
    (s.callers i).pc ≠ .start := by
  intro hp; rw [(h.fresh i hp).2] at ho; cases ho

theorem addr_init (a : Sh) (n : Nat) : AddrInv (St.init a n) := by
  constructor <;> simp [St.init]

theorem addr_step (he : EntryInv s) (h : AddrInv s) (hn : Next s e s') : AddrInv s' where
  -- a value enters a channel by `rSend` (`hold`), goes on by `recvReply` and `finish`; a call that takes a key is fresh
  reply := by
    intro j m b
    have h1 := h.reply j m b
    have h2 := fun r => h.hold r j m b
    have h6 := h.fresh j
    clear h
    cases hn <;>
      simp only [upd_apply, St.setCaller, apply_ite Caller.val, apply_ite Caller.pc, apply_ite Caller.out,
        apply_ite Caller.key, removeKey_callers, removeKey_inbox]
    all_goals grind [Addr.mono]
  -- a receiver comes to hold a sender by `rRemove`: the entry it found carries the key of the message it is routing
  hold := by
    intro r j m b hr
    have old : ∀ {m b}, Addr s.inbox m (s.callers j).key b ∧ (s.callers j).pc ≠ .start →
        Addr s'.inbox m (s'.callers j).key b ∧ (s'.callers j).pc ≠ .start := by
      rintro m b ⟨⟨msg, h1, h2⟩, hp⟩
      obtain ⟨hk, hp'⟩ := started_step hn j hp
      exact ⟨⟨msg, inbox_getElem?_step hn h1, hk ▸ h2⟩, hp'⟩
    rcases recv_holding hn hr with hr | ⟨msg, hro, hl, rfl⟩
    · exact old (h.hold r j m b hr)
    · obtain ⟨hk, ha⟩ := he _ _ (lookupKey_some hl)
      exact old ⟨⟨msg, h.route r msg m hro, hk.symm, rfl⟩, fun hp => by rw [hp] at ha; cases ha⟩
  route := by
    intro r msg m hr
    rcases recv_routing hn hr with hr | ⟨_, rfl, hin⟩
    · exact inbox_getElem?_step hn (h.route r msg m hr)
    · rw [hin]; simp
  -- a call at `start` was there before; a value for it would have come from a receiver holding its sender (`hold`)
  fresh := by
    intro j hj'
    have hj : (s.callers j).pc = .start := Classical.byContradiction (fun hne => (started_step hn j hne).2 hj')
    obtain ⟨hv, ho⟩ := h.fresh j hj
    constructor
    · rcases val_step hn j with hv' | hv' | ⟨r, m, b, hr, _⟩
      · rw [hv', hv]
      · exact hv'
      · exact absurd hj (h.hold r j m b hr).2
    · rcases ends_step hn j with ⟨ho', _⟩ | ⟨_, hd, _⟩
      · rw [ho', ho]
      · rw [hj'] at hd; cases hd

/-! Reply pids are the results of distinct allocations of the node's allocator (`AllocInv`).
`Node::start` changes the creation the allocator stamps on new pids (`set_creation`) and nothing else, so the allocator
of the node is, up to that field, the `n`-th state of the row of sequential allocations from its first state, and the
`(id, serial)` of every pid it has issued is the `(id, serial)` of the corresponding element of that row. -/

/-- the allocator state without the creation -/
def core (a : Sh) : Sh := { a with creation := 0 }

@[simp] theorem core_setCreation (a : Sh) (c : Nat) : core (a.setCreation c) = core a := rfl

/-- `r` is a successful allocation with the `(id, serial)` of `k` -/
def SameKey (r : Res) (k : Pid) : Prop := ∃ p, r = .ok p ∧ p.id = k.id ∧ p.serial = k.serial

/-- `allocate` does not look at the creation except to stamp it on the result -/
theorem alloc_congr (a b : Sh) (h : core a = core b) :
    core (alloc a).2 = core (alloc b).2 ∧ ∀ p, (alloc a).1 = .ok p → SameKey (alloc b).1 p := by
  have hab : PidAlloc.mapC 0 (alloc a) = PidAlloc.mapC 0 (alloc b) := PidAlloc.alloc_erase_congr a b h
  refine ⟨congrArg Prod.snd hab, fun p hp => ?_⟩
  have h1 : (alloc a).1.setC 0 = (alloc b).1.setC 0 := congrArg Prod.fst hab
  rw [hp] at h1
  cases hb : (alloc b).1 <;> simp only [hb, Res.setC, Res.ok.injEq, reduceCtorEq, Pid.mk.injEq] at h1
  exact ⟨_, rfl, h1.1.symm, h1.2.1.symm⟩

/-- the allocator is in step with the row of sequential allocations from `a0` (`st`); every call that has begun holds
the result of one element of the row (`ix`), no two the same (`inj`), and the pids of spawned processes are other
elements of it (`procs`) -/
structure AllocInv (a0 : Sh) (s : St) : Prop where
  st : core s.alloc = core (seqState a0 s.nalloc)
  ix : ∀ i, (s.callers i).pc ≠ .start → (s.callers i).ix < s.nalloc ∧
        (SameKey (seqAlloc a0 (s.callers i).ix) (s.callers i).key ∨ (s.callers i).out = some .allocFail)
  inj : ∀ i j, (s.callers i).pc ≠ .start → (s.callers j).pc ≠ .start → (s.callers i).ix = (s.callers j).ix → i = j
  procs : ∀ p, p ∈ s.procs → ∃ n, n < s.nalloc ∧ SameKey (seqAlloc a0 n) p ∧
        ∀ i, (s.callers i).pc ≠ .start → (s.callers i).ix ≠ n

theorem alloc_init (a : Sh) (n : Nat) : AllocInv a (St.init a n) := by
  constructor <;> simp [St.init, seqState]

theorem seqState_succ (a0 : Sh) (n : Nat) : seqState a0 (n + 1) = (alloc (seqState a0 n)).2 := rfl

/-- one more allocation: the allocator stays in step with the row of sequential allocations, and a pid it hands out has
the `(id, serial)` of the row's next element -/
theorem AllocInv.next (h : AllocInv a0 s) {r : Res} {a' : Sh} (ha : alloc s.alloc = (r, a')) :
    core a' = core (seqState a0 (s.nalloc + 1)) ∧ ∀ p, r = .ok p → SameKey (seqAlloc a0 s.nalloc) p := by
  have hc := alloc_congr _ _ h.st
  rw [ha] at hc
  exact hc

theorem alloc_step (hd : DoneInv s) (h : AllocInv a0 s) (hn : Next s e s') :
    AllocInv a0 s' where
  st := by
    cases hn with
    | beginOk _ _ _ _ ha | beginFail _ _ _ _ ha | spawnOk _ _ ha | spawnFail _ _ ha => exact (h.next ha).1
    | otherAlloc => exact (h.next rfl).1
    | _ => exact h.st
  ix := by
    intro j hj'
    rcases begin_or_kept hn j hj' with ⟨hj, hk, hi⟩ | ⟨_, hi, hna, r, a', ha, hr⟩
    · obtain ⟨hlt, hsk⟩ := h.ix j hj
      rw [hk, hi]
      exact ⟨Nat.lt_of_lt_of_le hlt (nalloc_step hn), hsk.imp_right (out_step hd hn j _)⟩
    · rw [hi, hna]
      exact ⟨Nat.lt_succ_self _, hr.imp_left ((h.next ha).2 _)⟩
  -- the index `begin` gives out is larger than those of the calls that have started
  inj := by
    intro i j hi' hj' hij
    rcases begin_or_kept hn i hi' with ⟨hi, _, hii⟩ | ⟨rfl, hii, _⟩ <;>
      rcases begin_or_kept hn j hj' with ⟨hj, _, hjj⟩ | ⟨he, hjj, _⟩
    · exact h.inj i j hi hj (by rw [← hii, ← hjj, hij])
    · have := (h.ix i hi).1; omega
    · have := (h.ix j hj).1; omega
    · cases he; rfl
  -- a process that was there keeps its index (a call that begins now gets `s.nalloc`, which is larger); a process
  -- spawned now gets `s.nalloc`, above the indices of all calls
  procs := by
    have old : ∀ p ∈ s.procs, ∃ n, n < s'.nalloc ∧ SameKey (seqAlloc a0 n) p ∧
        ∀ i, (s'.callers i).pc ≠ .start → (s'.callers i).ix ≠ n := by
      intro p hp
      obtain ⟨n, hn1, hn2, hn3⟩ := h.procs p hp
      refine ⟨n, Nat.lt_of_lt_of_le hn1 (nalloc_step hn), hn2, fun i hi' => ?_⟩
      rcases begin_or_kept hn i hi' with ⟨hi, _, hii⟩ | ⟨_, hii, _⟩
      · rw [hii]; exact hn3 i hi
      · omega
    have hk := begin_or_kept hn
    intro p hp
    cases hn with
    | spawnOk q a' ha =>
      rcases List.mem_cons.mp hp with rfl | hp
      · refine ⟨s.nalloc, Nat.lt_succ_self _, (h.next ha).2 _ rfl, fun i hi' => ?_⟩
        rcases hk i hi' with ⟨hi, _, hii⟩ | ⟨he, _⟩
        · rw [hii]; exact Nat.ne_of_lt (h.ix i hi).1
        · cases he
      · exact old p hp
    | procExit q => exact old p (List.mem_filter.mp hp).1
    | _ => exact old p hp

/-- the connection mutex: a call that is writing holds the mutex of its connection, and whoever holds one is writing on
that connection -/
structure LockInv (s : St) : Prop where
  holder : ∀ i, (s.callers i).pc.holdsLock = true → s.lock (s.callers i).conn = some i
  held : ∀ c i, s.lock c = some i → (s.callers i).pc.holdsLock = true ∧ (s.callers i).conn = c

theorem lock_init (a : Sh) (n : Nat) : LockInv (St.init a n) := by
  constructor <;> simp [St.init, Pc.holdsLock]

/-- a connection's mutex is held by exactly the calls that are writing on that connection -/
theorem lockInv_iff : LockInv s ↔
    ∀ c i, s.lock c = some i ↔ ((s.callers i).pc.holdsLock = true ∧ (s.callers i).conn = c) :=
  ⟨fun h c i => ⟨h.held c i, fun ⟨h1, h2⟩ => h2 ▸ h.holder i h1⟩,
   fun h => ⟨fun i hi => (h _ i).mpr ⟨hi, rfl⟩, fun c i => (h c i).mp⟩⟩

theorem lock_step (h : LockInv s) (hn : Next s e s') : LockInv s' := by
  rw [lockInv_iff] at h ⊢
  intro c j
  have h1 := h c j
  have h2 := fun i => h (s.callers i).conn i
  clear h
  cases hn <;>
    simp only [upd_apply, St.setCaller, apply_ite Caller.pc, apply_ite Caller.conn, removeKey_callers, removeKey_lock]
  all_goals grind [Pc.holdsLock]

theorem nalloc_run (σ : List Step) (s : St) : s.nalloc ≤ (run s σ).nalloc :=
  run_induct (P := fun t => s.nalloc ≤ t.nalloc) σ s (Nat.le_refl _) (fun _ _ _ _ h hn => Nat.le_trans h (nalloc_step hn))

theorem AllocInv.sameKey (h : AllocInv a0 s) {i : Nat} (hi : (s.callers i).pc ≠ .start)
    (ho : (s.callers i).out ≠ some .allocFail) : SameKey (seqAlloc a0 (s.callers i).ix) (s.callers i).key :=
  (h.ix i hi).2.resolve_right ho

/-- within one round of the allocator, different elements of the row have different `(id, serial)` -/
theorem sameKey_ne {m n : Nat} {k l : Pid} (hm : SameKey (seqAlloc a0 m) k) (hn : SameKey (seqAlloc a0 n) l)
    (hmn : m ≠ n) (hb : m < MAXP * U32) (hb' : n < MAXP * U32) : (k.id, k.serial) ≠ (l.id, l.serial) := by
  obtain ⟨p, hp, hp1, hp2⟩ := hm
  obtain ⟨q, hq, hq1, hq2⟩ := hn
  rw [← hp1, ← hp2, ← hq1, ← hq2]
  rcases Nat.lt_or_gt_of_ne hmn with hlt | hgt
  · exact PidAlloc.seqAlloc_key_ne_any a0 _ _ hlt (by omega) _ _ hp hq
  · exact (PidAlloc.seqAlloc_key_ne_any a0 _ _ hgt (by omega) _ _ hq hp).symm

/-- reply pids of different calls differ while the allocator has not gone round -/
theorem keys_distinct (h : AllocInv a0 s) (hb : s.nalloc ≤ MAXP * U32) {i j : Nat}
    (hi : (s.callers i).pc ≠ .start) (hj : (s.callers j).pc ≠ .start)
    (hoi : (s.callers i).out ≠ some .allocFail) (hoj : (s.callers j).out ≠ some .allocFail)
    (hk : ((s.callers i).key.id, (s.callers i).key.serial) = ((s.callers j).key.id, (s.callers j).key.serial)) : i = j := by
  apply Classical.byContradiction
  intro hij
  have hix : (s.callers i).ix ≠ (s.callers j).ix := fun hix => hij (h.inj i j hi hj hix)
  have li := (h.ix i hi).1
  have lj := (h.ix j hj).1
  exact sameKey_ne (h.sameKey hi hoi) (h.sameKey hj hoj) hix (by omega) (by omega) hk

/-- while the allocator has not gone round, the only call an entry under call `i`'s key can belong to is `i` -/
theorem entry_owner (he : EntryInv s) (hd : DoneInv s) (ha : AllocInv a0 s)
    (hb : s.nalloc ≤ MAXP * U32) {i j : Nat} (hi : (s.callers i).pc ≠ .start) (hid : (s.callers i).pc ≠ .done)
    (hm : ((s.callers i).key, j) ∈ s.pending) : j = i := by
  have running : ∀ {l}, (s.callers l).pc ≠ .done → (s.callers l).out ≠ some .allocFail :=
    fun hl h => hl ((hd _).mpr (by rw [h]; simp))
  obtain ⟨hk, harm⟩ := he _ _ hm
  have hj : (s.callers j).pc ≠ .start := by intro h; rw [h] at harm; cases harm
  have hjd : (s.callers j).pc ≠ .done := by intro h; rw [h] at harm; cases harm
  exact keys_distinct ha hb hj hi (running hjd) (running hid) (by rw [hk])

/-- the call has its outcome in hand or has returned it -/
def Pc.over : Pc → Bool
  | .exiting _ | .done => true
  | _ => false

/-- while the allocator has not gone round, a sender is dropped only by its own call on its way out (`tx`), so no call
ends as cancelled (`nc`) -/
structure TxInv (s : St) : Prop where
  tx : ∀ i, (s.callers i).txDropped = true → (s.callers i).pc.over = true
  nc : ∀ i, (s.callers i).pc ≠ .exiting .cancelled ∧ (s.callers i).out ≠ some .cancelled

theorem tx_init (a : Sh) (n : Nat) : TxInv (St.init a n) := by
  constructor <;> simp [St.init]

theorem tx_step (hb : s.nalloc ≤ MAXP * U32) (he : EntryInv s) (hd : DoneInv s)
    (ha : AllocInv a0 s) (h : TxInv s) (hn : Next s e s') : TxInv s' where
  -- a call removes its own key only, and by `entry_owner` an entry under that key is its own: the sender dropped is
  -- that of a call on its way out (at `insert` the call has no entry yet)
  tx := by
    intro j
    have h1 := h.tx j
    -- the owner `j` of an entry under the key of a running call `i` is `i`, and `i` has registered
    have own : ∀ i, (s.callers i).pc ≠ .start → (s.callers i).pc ≠ .done →
        lookupKey s.pending (s.callers i).key = some j → j = i ∧ (s.callers i).pc ≠ .allocated := by
      intro i hi hid hl
      obtain rfl := entry_owner he hd ha hb hi hid (lookupKey_some hl)
      refine ⟨rfl, fun hp => ?_⟩
      have := (he _ _ (lookupKey_some hl)).2
      rw [hp] at this; cases this
    clear h hd ha he
    cases hn <;>
      simp only [upd_apply, St.setCaller, apply_ite Caller.pc, apply_ite Caller.txDropped, removeKey_callers]
    all_goals grind [Pc.over]
  nc := by
    intro j
    have h1 := h.tx j
    have h2 := h.nc j
    clear h
    cases hn <;>
      simp only [upd_apply, St.setCaller, apply_ite Caller.pc, apply_ite Caller.out, removeKey_callers]
    all_goals grind [Pc.over]

structure Inv (a0 : Sh) (s : St) : Prop where
  entry : EntryInv s
  done : DoneInv s
  addr : AddrInv s
  alloc : AllocInv a0 s
  lock : LockInv s

theorem inv_init (a : Sh) (n : Nat) : Inv a (St.init a n) :=
  ⟨entry_init a n, done_init a n, addr_init a n, alloc_init a n, lock_init a n⟩

theorem inv_step (h : Inv a0 s) (hn : Next s e s') : Inv a0 s' :=
  ⟨entry_step h.entry hn, done_step h.done hn, addr_step h.entry h.addr hn, alloc_step h.done h.alloc hn,
   lock_step h.lock hn⟩

theorem inv_run (σ : List Step) (h : Inv a0 s) : Inv a0 (run s σ) :=
  run_induct (P := Inv a0) σ s h (fun _ _ _ _ h hn => inv_step h hn)

theorem tx_run (σ : List Step) (hi : Inv a0 s) (h : TxInv s) (hb : (run s σ).nalloc ≤ MAXP * U32) :
    TxInv (run s σ) := by
  -- `nalloc` only grows, so a state with `nalloc` below the bound was reached through such states
  refine (run_induct (P := fun t => Inv a0 t ∧ (t.nalloc ≤ MAXP * U32 → TxInv t)) σ s ⟨hi, fun _ => h⟩ ?_).2 hb
  intro t t' e _ ⟨hi, ht⟩ hn
  refine ⟨inv_step hi hn, fun hb' => ?_⟩
  have hb := Nat.le_trans (nalloc_step hn) hb'
  exact tx_step hb hi.entry hi.done hi.alloc (ht hb) hn

theorem out_run (σ : List Step) (hi : Inv a0 s) (j : Nat) (o : Outcome)
    (h : (s.callers j).out = some o) : ((run s σ).callers j).out = some o :=
  (run_induct (P := fun t => Inv a0 t ∧ (t.callers j).out = some o) σ s ⟨hi, h⟩
    (fun _ _ _ _ ⟨hi, h⟩ hn => ⟨inv_step hi hn, out_step hi.done hn j o h⟩)).2

theorem key_run (σ : List Step) (s : St) (j : Nat) (h : (s.callers j).pc ≠ .start) :
    ((run s σ).callers j).key = (s.callers j).key ∧ ((run s σ).callers j).pc ≠ .start :=
  run_induct (P := fun t => (t.callers j).key = (s.callers j).key ∧ (t.callers j).pc ≠ .start) σ s ⟨rfl, h⟩
    (fun _ _ _ _ ⟨hk, hp⟩ hn => ⟨(started_step hn j hp).1.trans hk, (started_step hn j hp).2⟩)

theorem pc_frame_run (σ : List Step) : ∀ (s : St) (i : Nat), (∀ e ∈ σ, Step.caller? e ≠ some i) →
    ((run s σ).callers i).pc = (s.callers i).pc := by
  intro s i h
  exact run_induct (P := fun t => (t.callers i).pc = (s.callers i).pc) σ s rfl
    (fun _ _ e he ht hn => (pc_frame hn i (h e he)).trans ht)

theorem inbox_run (σ : List Step) : ∀ (s : St), ∃ l, (run s σ).inbox = s.inbox ++ l := by
  intro s
  refine run_induct (P := fun t => ∃ l, t.inbox = s.inbox ++ l) σ s ⟨[], (List.append_nil _).symm⟩ ?_
  rintro t t' e _ ⟨l, hl⟩ hn
  rcases inbox_step hn with h | ⟨_, msg, _, h⟩
  · exact ⟨l, h.trans hl⟩
  · exact ⟨l ++ [msg], by rw [h, hl, List.append_assoc]⟩

/-- the receiving half of a call's channel goes away only with the call's result or its timeout -/
def RxInv (s : St) : Prop :=
  ∀ i, (s.callers i).rxAlive = false → (s.callers i).pc.over = true ∨ (s.callers i).pc = .timedOut

theorem rx_init (a : Sh) (n : Nat) : RxInv (St.init a n) := by intro i h; simp [St.init] at h

theorem rx_step (h : RxInv s) (hn : Next s e s') : RxInv s' := by
  intro j
  have := h j
  clear h
  cases hn <;>
    simp only [upd_apply, St.setCaller, apply_ite Caller.pc, apply_ite Caller.rxAlive, removeKey_callers]
  all_goals grind [Pc.over]

theorem rx_run (σ : List Step) (h : RxInv s) : RxInv (run s σ) :=
  run_induct (P := RxInv) σ s h (fun _ _ _ _ h hn => rx_step h hn)

/-- The reply arrives: a call that is waiting with its entry in the table, a message addressed to its key given to an
idle receiver; the receiver's three steps and the call's two give the call exactly that message. -/
theorem reply_delivered (hv : Inv a0 s) (hrx : RxInv s) (hb : s.nalloc ≤ MAXP * U32)
    (i r : Nat) (msg : Msg) (hw : (s.callers i).pc = .waiting) (hm : ((s.callers i).key, i) ∈ s.pending)
    (hr : s.recv r = .idle) (hto : msg.pid = (s.callers i).key)
    (hnp : ¬(msg.node = s.localNode ∧ msg.pid ∈ s.procs)) :
    ((run s [.rStart r msg, .rRemove r, .rSend r, .recvReply i, .finish i]).callers i).out =
      some (.reply s.inbox.length msg.body) := by
  have hl : lookupKey s.pending msg.pid = some i := by
    rw [hto]
    refine lookupKey_of_mem hm (fun j hj => ?_)
    exact entry_owner hv.entry hv.done hv.alloc hb (by rw [hw]; simp) (by rw [hw]; simp) hj
  have hal : (s.callers i).rxAlive = true := by
    cases h : (s.callers i).rxAlive
    · rcases hrx i h with h' | h' <;> rw [hw] at h' <;> cases h'
    · rfl
  -- `simp` runs the five steps; each is enabled by one of the facts: the receiver is idle and the message is not for a
  -- local process (`hr`, `hnp`: `rStart` routes it), the table has the entry (`hl`: `rRemove` takes the sender of `i`),
  -- the receiving half is alive (`hal`: `rSend` puts the value into the channel), the call waits (`hw`: `recvReply`,
  -- then `finish`)
  simp [run, step, hr, hnp, hl, hw, hal, upd, St.setCaller]

theorem dot_not_digit (n : Nat) : '.' ∉ Nat.toDigits 10 n := by
  intro h
  have := Nat.isDigit_of_mem_toDigits (by decide) (by decide) h
  simp [Char.isDigit] at this

theorem split_at_dot (l1 l2 r1 r2 : List Char) (h1 : '.' ∉ l1) (h2 : '.' ∉ l2)
    (h : l1 ++ '.' :: r1 = l2 ++ '.' :: r2) : l1 = l2 ∧ r1 = r2 := by
  -- `l` is what comes before the first dot
  have key : ∀ l r : List Char, '.' ∉ l → (l ++ '.' :: r).takeWhile (· != '.') = l := by
    intro l r hl
    rw [List.takeWhile_append_of_pos (fun a ha => by simp only [bne_iff_ne, ne_eq]; rintro rfl; exact hl ha)]
    simp
  obtain rfl : l1 = l2 := by rw [← key l1 r1 h1, h, key l2 r2 h2]
  exact ⟨rfl, by simpa using h⟩

theorem toDigits_inj {a b : Nat} (h : Nat.toDigits 10 a = Nat.toDigits 10 b) : a = b := by
  have ha := @Nat.ofDigitChars_ten_toDigits a
  have hb := @Nat.ofDigitChars_ten_toDigits b
  rw [h] at ha; rw [← ha, hb]

theorem keyChars_inj {p q : Pid} (h : keyChars p = keyChars q) : p = q := by
  unfold keyChars at h
  obtain ⟨h1, h2⟩ := split_at_dot _ _ _ _ (dot_not_digit _) (dot_not_digit _) h
  obtain ⟨h3, h4⟩ := split_at_dot _ _ _ _ (dot_not_digit _) (dot_not_digit _) h2
  cases p; cases q
  simp only at h1 h3 h4
  rw [toDigits_inj h1, toDigits_inj h3, toDigits_inj h4]

/-- the text of a key determines the key -/
theorem keyText_inj {p q : Pid} (h : keyText p = keyText q) : p = q := by
  apply keyChars_inj
  have := congrArg String.toList h
  simpa [keyText] using this

end Edp.Impl.Rpc
