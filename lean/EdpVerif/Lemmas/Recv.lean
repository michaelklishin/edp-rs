import EdpVerif.Impl.Recv
import EdpVerif.Spec.Peer
import EdpVerif.Lemmas.Codec
import EdpVerif.Lemmas.Control
import EdpVerif.Lemmas.Frag
import EdpVerif.Lemmas.DecNoPanic
import EdpVerif.Lemmas.RecvHeader
/-! C06, the receive path (`Impl/Recv.lean`): a peer's message and what the API has to return for it (`Sent`, `CSent` for a
sender with an atom cache), timed histories, one iteration by kind of frame (`dispatch_eq`), the connection's assembler as
C09's (`recv_asm_onFrame`), no panic, and what a frame may do to the atom cache (`recv_cache`). -/
namespace Edp.Recv
open Edp Edp.Spec.Peer

/-- a message as the peer means it: the control tuple `ct` (bytes `cb`), which the library presents as `msg`, and
optionally a payload term `p` (bytes `pb`) -/
structure Sent where
  cb : Bytes
  ct : Term
  msg : Control.Msg
  pay : Option (Bytes × Term)

def Sent.wire (m : Sent) : Wire := { ctl := m.cb, pay := m.pay.map (·.1) }

/-- what the receiving API has to return for it -/
def Sent.expected (m : Sent) : Res := .ok m.msg (m.pay.map (·.2))

/-- the bytes are the terms' bytes under cache `c`, and the control tuple is the control message -/
structure Sent.Conforms (x : Ext) (tbl : Control.Table) (c : PosTable) (m : Sent) : Prop where
  ctl : Reads x c m.cb m.ct
  pay : ∀ pb p, m.pay = some (pb, p) → Reads x c pb p
  parse : Control.parse tbl m.ct = .ok m.msg

/-- the result of a frame does not depend on the connection's state (nor on the clock) -/
def SelfContained (x : Ext) (tbl : Control.Table) (f : Bytes) : Prop :=
  ∀ (now now' : Nat) (s s' : St), (recv x tbl now s f).2 = (recv x tbl now' s' f).2

/-- the clock never runs backwards along a history -/
def Mono (tfs : List TFrame) : Prop := tfs.Pairwise (fun a b => a.1 ≤ b.1)

/-- the bodies of a timed history -/
abbrev bodies (tfs : List TFrame) : List Bytes := tfs.map (·.2)

/-- all frames read at the same instant (the driver's histories) -/
def atTime (now : Nat) (fs : List Bytes) : List TFrame := fs.map fun f => (now, f)

variable (x : Ext) (tbl : Control.Table)

theorem recv_tick (x : Ext) (tbl : Control.Table) (now : Nat) (s : St) : recv x tbl now s [] = (expire now s, none) := rfl

theorem cutPanic_map_expected (l : List Sent) : cutPanic (l.map Sent.expected) = l.map Sent.expected := by
  induction l with
  | nil => rfl
  | cons m ms ih => simp [Sent.expected, cutPanic, ih]

theorem outs_append (a b : List TFrame) : ∀ s,
    outs x tbl s (a ++ b) = outs x tbl s a ++ outs x tbl (after x tbl s a) b := by
  induction a with
  | nil => intro s; simp [outs, after]
  | cons f fs ih => intro s; simp [outs, after, ih]

/-- what an earlier `cleanup_expired` dropped, a later one drops too -/
theorem expire_expire (t t' : Nat) (s : St) (h : t ≤ t') : expire t' (expire t s) = expire t' s := by
  simp only [expire, Frag.Assembler.cleanupExpired, List.filter_filter]
  congr 2
  apply List.filter_congr
  intro p _
  by_cases he : p.2.isExpired t s.asm.timeout = true
  · have : p.2.isExpired t' s.asm.timeout = true := by
      simp only [Frag.FragMsg.isExpired, decide_eq_true_eq] at he ⊢
      omega
    simp [this]
  · simp [he]

theorem outs_expire (t : Nat) (s : St) (l : List TFrame) (h : ∀ f ∈ l, t ≤ f.1) :
    outs x tbl (expire t s) l = outs x tbl s l := by
  cases l with
  | nil => rfl
  | cons f fs => simp only [outs, recv, expire_expire t f.1 s (h f (by simp))]

theorem expire_cache (now : Nat) (s : St) : (expire now s).cache = s.cache := rfl

theorem lookup_expire_none (now : Nat) (s : St) (q : Nat) (h : Frag.lookup q s.asm.pending = none) :
    Frag.lookup q (expire now s).asm.pending = none :=
  Frag.lookup_filter_none _ h

/-- the sequence id a fragment frame names (`131, 69 | 70, seq:u64, …`) -/
def fragSeq (data : Bytes) : Option Nat :=
  match data with
  | a :: b :: r =>
    if a = 131 ∧ (b = 69 ∨ b = 70) then
      match rdU 8 r with
      | .ok (q, _) => some q
      | .error _ => none
    else none
  | _ => none

/-- the event a frame is for the fragment assembler (`none`: not a fragment frame, or refused before the assembler is asked) -/
def fragOp (now : Nat) (data : Bytes) : Option Frag.Op :=
  match data with
  | a :: b :: _ =>
    if a = 131 ∧ b = 69 then
      match decodeFragmentHeader data with
      | .ok ((seq, fid, n), remaining) =>
        if fid = 0 then none else some (.start now seq fid none (131 :: 68 :: UInt8.ofNat n :: remaining))
      | .error _ => none
    else if a = 131 ∧ b = 70 then
      match decodeFragmentCont data with
      | .ok ((seq, fid), remaining) => if fid = 0 then none else some (.add now seq fid remaining)
      | .error _ => none
    else none
  | _ => none

/-- what `dispatch` does with a frame that asks nothing of the fragment assembler -/
def plain (x : Ext) (tbl : Control.Table) (s : St) : Bytes → St × Option Res
  | [] => (s, none)
  | 112 :: r => (s, some (passThroughBody x tbl r))
  | 131 :: 68 :: r => recvHeader x tbl s (131 :: 68 :: r)
  | _ => (s, some .err)

theorem fragOp_spec {now : Nat} {data : Bytes} {op : Frag.Op} (h : fragOp now data = some op) :
    op.now = now ∧ ∃ q, op.seq = some q ∧ fragSeq data = some q := by
  unfold fragOp at h
  split at h
  · rename_i a b r
    split at h
    · rename_i hab
      split at h
      · rename_i seq fid n rem hd
        obtain ⟨r1, hr⟩ : ∃ r1, rdU 8 r = .ok (seq, r1) := by simpa [hd] using decodeFragmentHeader_spec a b r
        split at h
        · cases h
        · cases h; exact ⟨rfl, seq, rfl, by simp [fragSeq, hab, hr]⟩
      · cases h
    · split at h
      · rename_i hab
        split at h
        · rename_i seq fid rem hd
          obtain ⟨r1, hr⟩ : ∃ r1, rdU 8 r = .ok (seq, r1) := by simpa [hd] using decodeFragmentCont_spec a b r
          split at h
          · cases h
          · cases h; exact ⟨rfl, seq, rfl, by simp [fragSeq, hab, hr]⟩
        · cases h
      · cases h
  · cases h

/-- one iteration by kind of frame: a fragment frame that gets past its header decoder and the id check is an event at
the assembler, whose answer `deliver` handles; every other frame leaves the assembler alone -/
theorem dispatch_eq (now : Nat) (s : St) (data : Bytes) :
    dispatch x tbl now s data =
      match fragOp now data with
      | some op => deliver x tbl s (s.asm.step op)
      | none => plain x tbl s data := by
  match data with
  | [] => rfl
  | [a] => by_cases ha : a = 112 <;> simp [dispatch, fragOp, plain, ha]
  | a :: b :: r =>
    by_cases h69 : a = 131 ∧ b = 69
    · obtain ⟨rfl, rfl⟩ := h69
      simp only [dispatch, fragOp, recvFragHeader, and_self, ↓reduceIte]
      rcases hd : decodeFragmentHeader (131 :: 69 :: r) with e | ⟨⟨seq, fid, n⟩, rem⟩
      · obtain rfl : e = .err := by simpa [hd] using decodeFragmentHeader_spec 131 69 r
        simp [resOfDErr, plain]
      · by_cases h0 : fid = 0 <;> simp [h0, plain, Frag.Assembler.step]
    · by_cases h70 : a = 131 ∧ b = 70
      · obtain ⟨rfl, rfl⟩ := h70
        simp only [dispatch, fragOp, recvFragCont, and_self, ↓reduceIte]
        rcases hd : decodeFragmentCont (131 :: 70 :: r) with e | ⟨⟨seq, fid⟩, rem⟩
        · obtain rfl : e = .err := by simpa [hd] using decodeFragmentCont_spec 131 70 r
          simp [resOfDErr, plain]
        · by_cases h0 : fid = 0 <;> simp [h0, plain, Frag.Assembler.step]
      · simp only [dispatch, fragOp, h69, h70, ↓reduceIte]
        by_cases h112 : a = 112
        · subst h112; rfl
        · by_cases h68 : a = 131 ∧ b = 68
          · obtain ⟨rfl, rfl⟩ := h68; rfl
          · simp only [h112, h68, ↓reduceIte]
            unfold plain
            split <;> simp_all

theorem recv_112 (now : Nat) (s : St) (r : Bytes) :
    recv x tbl now s (112 :: r) = (expire now s, some (passThroughBody x tbl r)) := by
  cases r <;> simp [recv, dispatch]

theorem recv_header_frame (now : Nat) (s : St) (r : Bytes) :
    recv x tbl now s (131 :: 68 :: r) = recvHeader x tbl (expire now s) (131 :: 68 :: r) := by
  simp [recv, dispatch]

theorem deliver_none (s : St) (r : Frag.Assembler × Option Bytes) (h : r.2 = none) :
    deliver x tbl s r = ({ cache := s.cache, asm := r.1 }, none) := by
  obtain ⟨a, o⟩ := r
  simp only at h
  subst h
  rfl

theorem deliver_some (s : St) (r : Frag.Assembler × Option Bytes) (d : Bytes) (h : r.2 = some d) :
    deliver x tbl s r = ({ cache := (decodeCompleteFragment x tbl s.cache d).1, asm := r.1 },
      some (decodeCompleteFragment x tbl s.cache d).2) := by
  obtain ⟨a, o⟩ := r
  simp only at h
  subst h
  rfl

theorem deliver_asm (s : St) (r : Frag.Assembler × Option Bytes) :
    (deliver x tbl s r).1.asm = r.1 := by
  unfold deliver
  split <;> rfl

theorem plain_asm (s : St) (data : Bytes) : (plain x tbl s data).1.asm = s.asm := by
  unfold plain
  split <;> rfl

/-- the connection's assembler sees one received frame exactly as `Frag.Assembler.onFrame` (C09) describes it -/
theorem recv_asm_onFrame (now : Nat) (s : St) (data : Bytes) :
    (recv x tbl now s data).1.asm = (s.asm.onFrame now (fragOp now data)).1 := by
  rw [recv, dispatch_eq]
  cases fragOp now data with
  | none => exact plain_asm x tbl _ data
  | some op => exact deliver_asm x tbl _ _

theorem after_asm_afterFrames (tfs : List TFrame) : ∀ s : St,
    (after x tbl s tfs).asm = s.asm.afterFrames (tfs.map fun f => (f.1, fragOp f.1 f.2)) := by
  induction tfs with
  | nil => intro s; rfl
  | cons f fs ih =>
    intro s
    simp only [after, List.map_cons, Frag.Assembler.afterFrames]
    rw [ih, recv_asm_onFrame]

/-- after `cleanup_expired`, a frame touches no entry of the fragment assembler but that of the sequence id it names -/
theorem recv_asm_other (now : Nat) (s : St) (data : Bytes) (q : Nat) (hq : fragSeq data ≠ some q) :
    Frag.lookup q (recv x tbl now s data).1.asm.pending = Frag.lookup q (expire now s).asm.pending := by
  rw [recv, dispatch_eq]
  cases ho : fragOp now data with
  | none => rw [plain_asm]
  | some op =>
    obtain ⟨_, q', hs, hf⟩ := fragOp_spec ho
    rw [deliver_asm]
    exact Frag.step_other _ op q q' hs (fun e => hq (e ▸ hf))

theorem resOfDErr_panic_iff {e : DErr} : resOfDErr e = .panic ↔ e = .panic := by
  cases e <;> simp [resOfDErr]

theorem finish_ne_panic {tbl : Control.Table} (htbl : Control.TableOK tbl) (ct : Term) (p : Option Term) :
    finish tbl ct p ≠ .panic := by
  have := Control.no_panic htbl ct
  unfold finish
  split <;> simp_all

theorem finishE_ne_panic {tbl : Control.Table} (htbl : Control.TableOK tbl) (r : Except DErr (Term × Option Term))
    (h : r ≠ .error .panic) : finishE tbl r ≠ .panic := by
  unfold finishE
  split
  · rename_i e; exact fun he => h (by rw [resOfDErr_panic_iff.mp he])
  · exact finish_ne_panic htbl _ _

section
/- the contract of the inflater (`flate2`'s `total_in` never exceeds the input), under which the term decoder never reaches
its panic site (`&rest[consumed..]` after inflating): `dec_never_panics` -/
variable {x : Ext} (hx : ∀ z out n, x.inflate z = some (out, n) → n ≤ z.length)
  {tbl : Control.Table} (htbl : Control.TableOK tbl)
include hx

theorem decodeTrailing_ne_panic (data : Bytes) : decodeTrailing x data ≠ .error .panic := by
  unfold decodeTrailing
  split
  · simp
  · split
    · simp
    · exact dec_never_panics x hx _ _ _ _

theorem plainTerm_ne_panic (data : Bytes) : plainTerm x data ≠ .error .panic := by
  have hd : decode x data ≠ .error .panic := decodeWith_never_panics x hx {} data
  unfold plainTerm
  split
  · rename_i e he; intro h; simp at h; subst h; exact hd he
  · simp

include htbl

theorem decodeCompleteFragment_ne_panic (c : Cache) (data : Bytes) : (decodeCompleteFragment x tbl c data).2 ≠ .panic := by
  unfold decodeCompleteFragment
  split
  · split
    · exact finishE_ne_panic htbl _ (DistHeader.decodeWithAtomCache_np x (dec_never_panics x hx) c _)
    · exact finishE_ne_panic htbl _ (plainTerm_ne_panic hx _)
  · exact finishE_ne_panic htbl _ (plainTerm_ne_panic hx _)

theorem passThroughBody_ne_panic (r : Bytes) : passThroughBody x tbl r ≠ .panic := by
  unfold passThroughBody
  split
  · rename_i e he; exact fun h => decodeTrailing_ne_panic hx r (by rw [he, resOfDErr_panic_iff.mp h])
  · exact finish_ne_panic htbl _ _
  · rename_i remaining _ _
    split
    · rename_i e he; exact fun h => decodeTrailing_ne_panic hx remaining (by rw [he, resOfDErr_panic_iff.mp h])
    · exact finish_ne_panic htbl _ _
    · simp

theorem recv_ne_panic (now : Nat) (s : St) (data : Bytes) : (recv x tbl now s data).2 ≠ some .panic := by
  rw [recv, dispatch_eq]
  split
  · unfold deliver
    split
    · simpa using decodeCompleteFragment_ne_panic hx htbl _ _
    · simp
  · unfold plain
    split
    · simp
    · simpa using passThroughBody_ne_panic hx htbl _
    · simpa [recvHeader] using finishE_ne_panic htbl _ (DistHeader.decodeWithAtomCache_np x (dec_never_panics x hx) _ _)
    · simp

theorem recvRH_ne_panic (data : Bytes) : recvRH x tbl data ≠ some .panic := by
  unfold recvRH
  split
  · simp
  · split
    · simp
    · split
      · rename_i e he; intro h; simp [resOfDErr_panic_iff] at h; subst h; exact decodeTrailing_ne_panic hx _ he
      · split
        · simp
        · rename_i hp; exact absurd hp (Control.no_panic htbl _)
        · split
          · simp
          · split
            · rename_i e he; intro h; simp [resOfDErr_panic_iff] at h; subst h; exact decodeTrailing_ne_panic hx _ he
            · simp
            · simp

end

/-- one cache comes from the other by insertions in front (of both of its tables) -/
def CacheGrew (c c' : Cache) : Prop := c.atoms <:+ c'.atoms ∧ c.slots <:+ c'.slots

theorem cacheGrew_refl (c : Cache) : CacheGrew c c := ⟨List.suffix_refl _, List.suffix_refl _⟩

theorem decodeCompleteFragment_cache (c : Cache) (data : Bytes) :
    CacheGrew c (decodeCompleteFragment x tbl c data).1 := by
  unfold decodeCompleteFragment
  split
  · split
    · exact DistHeader.decodeWithAtomCache_suffix x c _
    · exact cacheGrew_refl _
  · exact cacheGrew_refl _

/-- the atom cache only ever gains entries, whatever the frame -/
theorem recv_cache (now : Nat) (s : St) (data : Bytes) :
    CacheGrew s.cache (recv x tbl now s data).1.cache := by
  rw [recv, dispatch_eq]
  split
  · unfold deliver
    split
    · exact decodeCompleteFragment_cache x tbl s.cache _
    · exact cacheGrew_refl _
  · unfold plain
    split
    · exact cacheGrew_refl _
    · exact cacheGrew_refl _
    · exact DistHeader.decodeWithAtomCache_suffix x s.cache _
    · exact cacheGrew_refl _

theorem decodeTrailing_reads (bs r : Bytes) (t : Term) (h : Reads x [] bs t) :
    decodeTrailing x (131 :: (bs ++ r)) = .ok (t, r) := by
  have := h r (fuelFor x (131 :: (bs ++ r))) (by simp [fuelFor]; omega)
  simp only [decodeTrailing]
  simpa using this

/-- a conforming pass-through message is delivered by both receive functions -/
theorem passThrough_delivered (m : Sent) (h : m.Conforms x tbl []) :
    (∀ now s, recv x tbl now s (Spec.Peer.passThrough m.wire) = (expire now s, some m.expected)) ∧
      recvRH x tbl (Spec.Peer.passThrough m.wire) = some m.expected := by
  obtain ⟨hc, hp, hparse⟩ := h
  cases hpay : m.pay with
  | none =>
    have e := decodeTrailing_reads x m.cb [] m.ct hc
    simp only [List.append_nil] at e
    simp [Spec.Peer.passThrough, recv, dispatch, recvRH, Sent.wire, hpay, passThroughBody, e, finish, hparse, Sent.expected]
  | some pp =>
    obtain ⟨pb, p⟩ := pp
    have e := decodeTrailing_reads x m.cb (131 :: pb) m.ct hc
    have e2 := decodeTrailing_reads x pb [] p (hp pb p hpay)
    simp only [List.append_nil] at e2
    simp [Spec.Peer.passThrough, recv, dispatch, recvRH, Sent.wire, hpay, passThroughBody, e, e2, finish, hparse, Sent.expected]

theorem isTick_nil : isTick ([] : Bytes) = true := rfl
theorem isTick_cons (a : UInt8) (r : Bytes) : isTick (a :: r) = false := rfl

/-- the frames of a timed history that are no ticks -/
def noTicks (tfs : List TFrame) : List TFrame := tfs.filter (fun f => !isTick f.2)

theorem bodies_noTicks (tfs : List TFrame) : bodies (noTicks tfs) = (bodies tfs).filter (fun f => !isTick f) := by
  simp only [bodies, noTicks, List.filter_map]; rfl

theorem outs_ticks (tfs : List TFrame) (hm : Mono tfs) : ∀ s,
    (outs x tbl s tfs).filterMap id = (outs x tbl s (noTicks tfs)).filterMap id := by
  induction tfs with
  | nil => intro s; rfl
  | cons f fs ih =>
    intro s
    obtain ⟨t, body⟩ := f
    have hm' : Mono fs := (List.pairwise_cons.mp hm).2
    have hle : ∀ g ∈ fs, t ≤ g.1 := (List.pairwise_cons.mp hm).1
    cases body with
    | nil =>
      have e : noTicks ((t, []) :: fs) = noTicks fs := by simp [noTicks, isTick_nil]
      rw [e]
      simp only [outs, recv_tick]
      rw [List.filterMap_cons]
      simp only [id_eq]
      rw [ih hm' (expire t s)]
      rw [outs_expire x tbl t s (noTicks fs) (fun g hg => hle g (List.mem_filter.mp hg).1)]
    | cons a r =>
      have e : noTicks ((t, a :: r) :: fs) = (t, a :: r) :: noTicks fs := by simp [noTicks, isTick_cons]
      rw [e]
      simp only [outs]
      rw [List.filterMap_cons, List.filterMap_cons, ih hm']

theorem recvRH_tick : recvRH x tbl [] = none := rfl

theorem recvAllRH_ticks (fs : List Bytes) :
    recvAllRH x tbl fs = recvAllRH x tbl (fs.filter (fun f => !isTick f)) := by
  rw [recvAllRH, recvAllRH, List.filterMap_filter]
  congr 2
  funext f
  cases f <;> rfl

theorem withTicks_cons {t : Nat} {f : Bytes} {rest : List TFrame} {frames : List Bytes}
    (h : WithTicks (bodies ((t, f) :: rest)) frames) :
    (f = [] ∧ WithTicks (bodies rest) frames) ∨ (f ≠ [] ∧ ∃ fr, frames = f :: fr ∧ WithTicks (bodies rest) fr) := by
  cases f with
  | nil =>
    left
    refine ⟨rfl, ?_⟩
    simpa [WithTicks, bodies, List.filter_cons, isTick_nil] using h
  | cons a r =>
    right
    refine ⟨by simp, ?_⟩
    simp only [WithTicks, bodies, List.map_cons, List.filter_cons, isTick_cons, Bool.not_false, ↓reduceIte] at h
    exact ⟨_, h.symm, rfl⟩

theorem filterMap_outs_passThrough (tfs : List TFrame) : ∀ (msgs : List Sent) (s : St),
    (∀ m ∈ msgs, m.Conforms x tbl []) → WithTicks (bodies tfs) (msgs.map fun m => Spec.Peer.passThrough m.wire) →
    (outs x tbl s tfs).filterMap id = msgs.map Sent.expected := by
  induction tfs with
  | nil =>
    intro msgs s _ hw
    have : msgs = [] := by simpa [WithTicks, bodies] using hw.symm
    subst this; rfl
  | cons tf rest ih =>
    intro msgs s hc hw
    obtain ⟨t, f⟩ := tf
    rcases withTicks_cons hw with ⟨rfl, hw'⟩ | ⟨_, fr, hfr, hw'⟩
    · simp only [outs, recv_tick]
      rw [List.filterMap_cons]
      exact ih msgs _ hc hw'
    · cases msgs with
      | nil => simp at hfr
      | cons m ms =>
        simp only [List.map_cons, List.cons.injEq] at hfr
        obtain ⟨rfl, rfl⟩ := hfr
        simp only [outs, (passThrough_delivered x tbl m (hc m (by simp))).1 t s]
        rw [List.filterMap_cons]
        simp only [id_eq, List.map_cons]
        rw [ih ms _ (fun m' hm' => hc m' (by simp [hm'])) hw']

theorem filterMap_some_map {α β : Type} (f : α → β) (l : List α) : (l.map fun a => some (f a)).filterMap id = l.map f := by
  induction l with
  | nil => rfl
  | cons a l ih => simp [ih]

theorem filterMap_recvRH_passThrough (msgs : List Sent) (h : ∀ m ∈ msgs, m.Conforms x tbl []) :
    (msgs.map fun m => Spec.Peer.passThrough m.wire).filterMap (recvRH x tbl) = msgs.map Sent.expected := by
  induction msgs with
  | nil => rfl
  | cons m ms ih =>
    simp only [List.map_cons, List.filterMap_cons, (passThrough_delivered x tbl m (h m (by simp))).2]
    rw [ih (fun m' hm' => h m' (by simp [hm']))]

theorem outs_selfContained (g : List TFrame) (h : ∀ f ∈ g, SelfContained x tbl f.2) :
    ∀ s s' : St, outs x tbl s g = outs x tbl s' g := by
  induction g with
  | nil => intro s s'; rfl
  | cons f fs ih =>
    intro s s'
    simp only [outs]
    rw [h f (by simp) f.1 f.1 s s', ih (fun f' hf' => h f' (by simp [hf'])) (recv x tbl f.1 s f.2).1 (recv x tbl f.1 s' f.2).1]

theorem rdU_one (b : UInt8) (r : Bytes) : rdU 1 (b :: r) = .ok (b.toNat, r) := by
  simp [rdU, rdN]

theorem decodeFragmentHeader_ok (seq fid : Nat) (nb : UInt8) (rest : Bytes) (hs : seq < 2 ^ 64) (hf : fid < 2 ^ 64) :
    decodeFragmentHeader (131 :: 69 :: (be64 seq ++ be64 fid ++ nb :: rest)) = .ok ((seq, fid, nb.toNat), rest) := by
  simp only [decodeFragmentHeader, List.append_assoc]
  rw [rdU_be64 seq _ (by simpa using hs)]
  simp only
  rw [rdU_be64 fid _ (by simpa using hf)]
  simp [rdU_one]

theorem decodeFragmentCont_ok (seq fid : Nat) (rest : Bytes) (hs : seq < 2 ^ 64) (hf : fid < 2 ^ 64) :
    decodeFragmentCont (131 :: 70 :: (be64 seq ++ be64 fid ++ rest)) = .ok ((seq, fid), rest) := by
  simp only [decodeFragmentCont, List.append_assoc]
  rw [rdU_be64 seq _ (by simpa using hs)]
  simp only
  rw [rdU_be64 fid _ (by simpa using hf)]
  simp

/-- the two fragment frames of `Spec/Peer.lean` with a fragment id other than 0 are events at the assembler -/
theorem fragOp_first (now seq fid : Nat) (nb : UInt8) (hdr data : Bytes) (hs : seq < 2 ^ 64) (hf : fid < 2 ^ 64) (h0 : fid ≠ 0) :
    fragOp now (fragFirst seq fid (nb :: hdr) data) = some (.start now seq fid none (131 :: 68 :: nb :: (hdr ++ data))) := by
  have e : fragFirst seq fid (nb :: hdr) data = 131 :: 69 :: (be64 seq ++ be64 fid ++ nb :: (hdr ++ data)) := by simp [fragFirst]
  rw [e]
  simp only [fragOp, and_self, if_true]
  rw [decodeFragmentHeader_ok seq fid nb _ hs hf]
  simp [h0]

theorem fragOp_cont (now seq fid : Nat) (rest : Bytes) (hs : seq < 2 ^ 64) (hf : fid < 2 ^ 64) (h0 : fid ≠ 0) :
    fragOp now (fragCont seq fid rest) = some (.add now seq fid rest) := by
  simp only [fragCont, fragOp, and_self, if_true]
  rw [decodeFragmentCont_ok seq fid rest hs hf]
  simp [h0]

theorem recv_fragOp {now : Nat} {data : Bytes} {op : Frag.Op} (s : St) (h : fragOp now data = some op) :
    recv x tbl now s data = deliver x tbl (expire now s) ((expire now s).asm.step op) := by
  rw [recv, dispatch_eq, h]

theorem startFragment_single (a : Frag.Assembler) (now seq : Nat) (data : Bytes) (h0 : Frag.lookup seq a.pending = none) :
    a.startFragment now seq 1 none data = (a, some data) := by
  simp [Frag.Assembler.startFragment, h0, Frag.MAX_FRAGMENT_COUNT, Frag.FragMsg.new, Frag.MAX_FRAGMENTS_VEC,
    Frag.FragMsg.addFragment, Frag.FragMsg.place, Frag.FragMsg.isComplete, Frag.FragMsg.reassemble]

theorem decodeCompleteFragment_header (c : Cache) (r : Bytes) :
    decodeCompleteFragment x tbl c (131 :: 68 :: r) =
      ((DistHeader.decodeWithAtomCache x c (131 :: 68 :: r)).1, finishE tbl (DistHeader.decodeWithAtomCache x c (131 :: 68 :: r)).2) := by
  simp [decodeCompleteFragment]

/-- a message in one fragment is handled exactly like the same message without fragmentation -/
theorem recv_single_fragment (now : Nat) (s : St) (seq : Nat) (nb : UInt8) (hdr data : Bytes)
    (hs : seq < 2 ^ 64) (h0 : Frag.lookup seq s.asm.pending = none) :
    recv x tbl now s (fragFirst seq 1 (nb :: hdr) data) = recv x tbl now s (131 :: 68 :: nb :: (hdr ++ data)) := by
  rw [recv_fragOp x tbl s (fragOp_first now seq 1 nb hdr data hs (by omega) (by omega)), recv_header_frame, Frag.Assembler.step,
    startFragment_single _ _ _ _ (lookup_expire_none now s seq h0), deliver_some x tbl _ _ _ rfl,
    decodeCompleteFragment_header]
  rfl

section cached
open Edp.Spec.DistHeader Edp.DistHeader Edp.Props.C14

/-- the table `ATOM_CACHE_REF` reads holds the atoms of these references at their positions -/
def Holds (c : PosTable) (es : List Entry) : Prop := ∀ j (hj : j < es.length), c.lookup j = some es[j].atom

/-- a message as a conforming sender with an atom cache means it: the control message and payload, the LongAtoms flag it
chose, and its references — new entries (with text), references to entries the receiver already holds, overwrites, in any
segment and at any internal index -/
structure CSent where
  m : Sent
  long : Bool
  es : List Entry

/-- `N, flags, refs…` -/
def CSent.header (h : CSent) : Bytes := sendHeader h.long h.es

/-- the whole message in one `131, 68` frame -/
def CSent.frame (h : CSent) : Bytes := withHeader h.header h.m.wire

/-- the whole message as the only fragment of sequence `seq`: `131, 69, seq, 1, N, flags, refs…, terms` -/
def CSent.single (h : CSent) (seq : Nat) : Bytes := fragFirst seq 1 h.header h.m.wire.terms

/-- the message as C14 sees it -/
def CSent.c14 (h : CSent) : Props.C14.Msg := (h.long, h.es, h.m.wire.terms)

/-- the terms' bytes read as the terms under every table that holds the header's atoms at their positions, and the
control tuple is the control message -/
def CSent.TermsConform (x : Ext) (tbl : Control.Table) (h : CSent) : Prop := ∀ c, Holds c h.es → h.m.Conforms x tbl c

/-- how a message is put on the wire without being cut -/
inductive Framing where
  | whole
  | single (seq : Nat)

def CSent.framed (h : CSent) : Framing → Bytes
  | .whole => h.frame
  | .single seq => h.single seq

theorem termsOf_conforms {x : Ext} {tbl : Control.Table} {c : PosTable} {m : Sent} (h : m.Conforms x tbl c) {fuel : Nat}
    (hf : m.wire.terms.length < fuel) : termsOf x c fuel m.wire.terms = .ok (m.ct, m.pay.map (·.2)) :=
  termsOf_reads h.ctl m.pay h.pay hf

/-- a header and what follows it on the wire: whole (`131, 68, …`) or as the only fragment of a sequence -/
def wireOf (hdr body : Bytes) : Framing → Bytes
  | .whole => 131 :: 68 :: (hdr ++ body)
  | .single seq => fragFirst seq 1 hdr body

theorem CSent.framed_eq (h : CSent) (fr : Framing) : h.framed fr = wireOf h.header h.m.wire.terms fr := by
  cases fr <;> rfl

/-- a frame with a sender's header, whatever follows the header, whole or as a single fragment, at any clock reading: the
header is applied to the cache, the call returns what the decoder makes of the rest under the table the header leaves,
and the assembler is touched by `cleanup_expired` only -/
theorem recv_wireOf (now : Nat) (s : St) (long : Bool) (es : List Entry) (body : Bytes)
    (fr : Framing) (h1 : (parseHeader s.cache (sendHeader long es ++ body)).2 = .ok body)
    (hfree : ∀ seq, fr = .single seq → seq < 2 ^ 64 ∧ Frag.lookup seq s.asm.pending = none) :
    ∃ fuel, body.length < fuel ∧ recv x tbl now s (wireOf (sendHeader long es) body fr) =
      ({ cache := (parseHeader s.cache (sendHeader long es ++ body)).1, asm := (expire now s).asm },
        some (finishE tbl (termsOf x (parseHeader s.cache (sendHeader long es ++ body)).1.atoms fuel body))) := by
  have hred : recv x tbl now s (wireOf (sendHeader long es) body fr) =
      recv x tbl now s (131 :: 68 :: (sendHeader long es ++ body)) := by
    cases fr with
    | whole => rfl
    | single seq =>
      obtain ⟨hs, h0⟩ := hfree seq rfl
      obtain ⟨nb, rest, hh⟩ : ∃ nb rest, sendHeader long es = nb :: rest := by
        unfold sendHeader; split <;> exact ⟨_, _, rfl⟩
      rw [wireOf, hh, recv_single_fragment x tbl now s seq nb rest body hs h0]
      rfl
  refine ⟨_, ?_, by rw [hred, recv_header_frame, recvHeader, expire_cache, decodeWithAtomCache_cons, if_pos rfl, h1]⟩
  simp only [List.length_cons, List.length_append]; omega

theorem recv_cached (now : Nat) (s : St) (h : CSent) (fr : Framing)
    (h1 : (parseHeader s.cache (h.header ++ h.m.wire.terms)).2 = .ok h.m.wire.terms)
    (h2 : Holds (parseHeader s.cache (h.header ++ h.m.wire.terms)).1.atoms h.es)
    (ht : h.TermsConform x tbl)
    (hfree : ∀ seq, fr = .single seq → seq < 2 ^ 64 ∧ Frag.lookup seq s.asm.pending = none) :
    recv x tbl now s (h.framed fr) =
      ({ cache := (parseHeader s.cache (h.header ++ h.m.wire.terms)).1, asm := (expire now s).asm }, some h.m.expected) := by
  obtain ⟨fuel, hf, hr⟩ := recv_wireOf x tbl now s h.long h.es _ fr h1 hfree
  have ht := ht _ h2
  rw [CSent.header] at ht
  rw [h.framed_eq, CSent.header, hr, termsOf_conforms ht hf]
  simp [finishE, finish, ht.parse, Sent.expected]

/-- a header all of whose references are new entries is conforming whatever the sender's cache holds -/
def AllNew (long : Bool) (es : List Entry) : Prop :=
  ∀ e ∈ es, e.new = true ∧ e.seg < 8 ∧ e.idx < 256 ∧ (if long then e.atom.length < 65536 else e.atom.length < 256)

theorem conforming_allNew (long : Bool) (es : List Entry) (h : AllNew long es) : ∀ s : Slots, Conforming long s es := by
  induction es with
  | nil => intro _; trivial
  | cons e r ih =>
    intro s
    obtain ⟨hn, hseg, hidx, hlen⟩ := h e (by simp)
    exact ⟨hseg, hidx, hlen, by simp [hn], ih (fun e' he' => h e' (by simp [he'])) _⟩

end cached

/-! Instances of `ReadsAt` for the witnesses of C06; that encoder output reads as the term it encodes is C01/C03. -/

theorem readsAt_nil (c : PosTable) (d : Nat) (hd : d ≤ MAX_NESTING_DEPTH) : ReadsAt x c d [106] .nil := by
  intro r fuel hf
  obtain ⟨f, rfl⟩ : ∃ f, fuel = f + 1 := ⟨fuel - 1, by omega⟩
  rw [List.singleton_append, dec.eq_3]
  simp [Nat.not_lt.mpr hd, ownedOnlyTags]

theorem readsAt_small_int (c : PosTable) (d : Nat) (hd : d ≤ MAX_NESTING_DEPTH) (v : UInt8) :
    ReadsAt x c d [97, v] (.int v.toNat) := by
  intro r fuel hf
  obtain ⟨f, rfl⟩ : ∃ f, fuel = f + 1 := ⟨fuel - 1, by omega⟩
  rw [List.cons_append, dec.eq_3]
  simp [Nat.not_lt.mpr hd, ownedOnlyTags, rdU_one]

theorem readsAt_cache_ref (c : PosTable) (d : Nat) (hd : d ≤ MAX_NESTING_DEPTH) (i : UInt8) (a : Bytes)
    (h : c.lookup i.toNat = some a) : ReadsAt x c d [82, i] (.atom a) := by
  intro r fuel hf
  obtain ⟨f, rfl⟩ : ∃ f, fuel = f + 1 := ⟨fuel - 1, by omega⟩
  rw [List.cons_append, dec.eq_3]
  simp [Nat.not_lt.mpr hd, ownedOnlyTags, rdU_one, h]

/-- element bytes that read as the elements, one after the other -/
inductive ReadsAll (x : Ext) (c : PosTable) (d : Nat) : List Bytes → List Term → Prop where
  | nil : ReadsAll x c d [] []
  | cons {bs : Bytes} {t : Term} {bss : List Bytes} {ts : List Term} :
      ReadsAt x c d bs t → ReadsAll x c d bss ts → ReadsAll x c d (bs :: bss) (t :: ts)

theorem readsAll_length {x : Ext} {c : PosTable} {d : Nat} {bss : List Bytes} {ts : List Term} (h : ReadsAll x c d bss ts) :
    bss.length = ts.length ∧ bss.length ≤ bss.flatten.length := by
  induction h with
  | nil => simp
  | cons h1 _ ih =>
    have := readsAt_nonempty h1
    have : 0 < (‹Bytes›).length := List.length_pos_iff.mpr this
    simp only [List.length_cons, List.flatten_cons, List.length_append]; omega

theorem decN_readsAll {x : Ext} {c : PosTable} {d : Nat} {bss : List Bytes} {ts : List Term} (h : ReadsAll x c d bss ts) :
    ∀ (r : Bytes) (fuel : Nat), bss.flatten.length + r.length + 1 < fuel →
      decN x { cache := c } fuel d bss.length (bss.flatten ++ r) = .ok (ts, r) := by
  induction h with
  | nil => intro r fuel _; cases fuel <;> simp [decN]
  | cons h1 hrest ih =>
    rename_i bs t bss ts
    intro r fuel hf
    obtain ⟨f, rfl⟩ : ∃ f, fuel = f + 1 := ⟨fuel - 1, by omega⟩
    have hne := readsAt_nonempty h1
    have hpos : 0 < bs.length := List.length_pos_iff.mpr hne
    simp only [List.length_cons, List.flatten_cons, List.append_assoc, decN]
    simp only [List.flatten_cons, List.length_append] at hf
    rw [h1 (bss.flatten ++ r) f (by simp only [List.length_append]; omega)]
    simp only
    rw [ih r f (by omega)]

theorem readsAt_tuple (c : PosTable) (d : Nat) (hd : d ≤ MAX_NESTING_DEPTH) (bss : List Bytes) (ts : List Term)
    (h : ReadsAll x c (d + 1) bss ts) (hn : bss.length < 256) :
    ReadsAt x c d (104 :: UInt8.ofNat bss.length :: bss.flatten) (.tuple ts) := by
  intro r fuel hf
  obtain ⟨f, rfl⟩ : ∃ f, fuel = f + 1 := ⟨fuel - 1, by omega⟩
  rw [List.cons_append, dec.eq_3]
  simp only [List.length_cons] at hf
  have := decN_readsAll h r f (by omega)
  simp [Nat.not_lt.mpr hd, ownedOnlyTags, rdU_byte _ _ hn, this]

theorem two_fragments_asm (a : Frag.Assembler) (seq now1 now2 : Nat) (first : Bytes) (h0 : Frag.lookup seq a.pending = none)
    (hlive : now2 - now1 ≤ a.timeout) :
    (a.startFragment now1 seq 2 none first).2 = none ∧
    (((a.startFragment now1 seq 2 none first).1.cleanupExpired now2).1.addFragment now2 seq 1 []).2 = some first := by
  have hexp : ¬ (a.timeout < now2 - now1) := by omega
  simp [Frag.Assembler.startFragment, Frag.Assembler.addFragment, Frag.Assembler.cleanupExpired, h0, Frag.MAX_FRAGMENT_COUNT,
    Frag.FragMsg.new, Frag.MAX_FRAGMENTS_VEC, Frag.FragMsg.addFragment, Frag.FragMsg.place, Frag.FragMsg.isComplete,
    Frag.FragMsg.reassemble, Frag.FragMsg.isExpired, Frag.insertKey, Frag.lookup, hexp, List.replicate]

end Edp.Recv

