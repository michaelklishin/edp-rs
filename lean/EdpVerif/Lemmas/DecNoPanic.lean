import EdpVerif.Lemmas.DecSuffix
/-! The errors of the term decoder, read off `dec_parsed`: its only panic site (`&rest[consumed..]` after inflating) is
unreachable, at any nesting, when the inflater reports no more input consumed than it was given (the contract of
flate2's `total_in`; used by C02 and C06); and trailing data is the finding of the top-level entry points only
(used by C13, `C13_trailing_offset`). -/
namespace Edp

theorem dec_never_panics (x : Ext) (hx : InflateSane x)
    (cfg : DecCfg) (fuel d : Nat) (bs : Bytes) : dec x cfg fuel d bs ≠ .error .panic :=
  ((dec_parsed x cfg .trivial fuel).1 d bs).ne_panic hx

theorem dec_ne_trailing (x : Ext) (cfg : DecCfg) (k fuel d : Nat) (bs : Bytes) :
    dec x cfg fuel d bs ≠ .error (.trailing k) :=
  ((dec_parsed x cfg .trivial fuel).1 d bs).ne_trailing k

theorem decodeWith_never_panics (x : Ext) (hx : InflateSane x)
    (cfg : DecCfg) (bs : Bytes) : decodeWith x cfg bs ≠ .error .panic := by
  by_cases hv : ∃ r, bs = 131 :: r
  · obtain ⟨r, rfl⟩ := hv
    rw [decodeWith_131]
    split
    · rintro ⟨⟩; exact dec_never_panics x hx cfg _ 0 r ‹_›
    · nofun
    · nofun
  · rw [decodeWith_version x cfg bs fun r h => hv ⟨r, h⟩]; nofun

end Edp
