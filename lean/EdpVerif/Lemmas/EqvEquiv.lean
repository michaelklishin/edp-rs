import EdpVerif.Impl.EqHash
import EdpVerif.Lemmas.EqCmp
/-!
`==` on terms (`Term.eqv`, the model of the derived `PartialEq`) is an equivalence relation on terms without a NaN: what a
hashed container needs besides `a == b → hash a = hash b`.  (A NaN is `!=` itself: `f64 ==`.)
-/
open Edp Edp.Term
namespace Edp

mutual
def noNaN : Term → Bool
  | .float b => !(f64 b).isNaN
  | .list l => noNaNL l
  | .ilist l t => noNaNL l && noNaN t
  | .map kvs => noNaNKV kvs
  | .tuple l => noNaNL l
  | .ifun _ _ _ _ _ _ _ _ fr => noNaNL fr
  | _ => true
def noNaNL : List Term → Bool
  | [] => true
  | t :: ts => noNaN t && noNaNL ts
def noNaNKV : List (Term × Term) → Bool
  | [] => true
  | (k, v) :: r => noNaN k && noNaN v && noNaNKV r
end

theorem floatEq_refl (a : Nat) (h : (f64 a).isNaN = false) : floatEq a a = true := floatEq_iff.mpr ⟨h, h, .inr rfl⟩

theorem floatEq_symm {a b : Nat} (h : floatEq a b = true) : floatEq b a = true := by
  obtain ⟨ha, hb, h⟩ := floatEq_iff.mp h
  exact floatEq_iff.mpr ⟨hb, ha, h.imp And.symm Eq.symm⟩

theorem floatEq_trans {a b c : Nat} (h1 : floatEq a b = true) (h2 : floatEq b c = true) : floatEq a c = true := by
  obtain ⟨ha, _, h1⟩ := floatEq_iff.mp h1
  obtain ⟨_, hc, h2⟩ := floatEq_iff.mp h2
  refine floatEq_iff.mpr ⟨ha, hc, ?_⟩
  rcases h1 with ⟨za, zb⟩ | e1 <;> rcases h2 with ⟨zb', zc⟩ | e2
  · exact .inl ⟨za, zc⟩
  · exact .inl ⟨za, e2 ▸ zb⟩
  · exact .inl ⟨e1 ▸ zb', zc⟩
  · exact .inr (e1.trans e2)

theorem pidEq_refl (p : PidF) : pidEq p p = true := by simp [pidEq]
theorem pidEq_symm {p q : PidF} (h : pidEq p q = true) : pidEq q p = true := by
  simp only [pidEq, Bool.and_eq_true, beq_iff_eq] at h ⊢
  exact ⟨⟨⟨h.1.1.1.symm, h.1.1.2.symm⟩, h.1.2.symm⟩, h.2.symm⟩
theorem pidEq_trans {p q r : PidF} (h1 : pidEq p q = true) (h2 : pidEq q r = true) : pidEq p r = true := by
  simp only [pidEq, Bool.and_eq_true, beq_iff_eq] at h1 h2 ⊢
  exact ⟨⟨⟨h1.1.1.1.trans h2.1.1.1, h1.1.1.2.trans h2.1.1.2⟩, h1.1.2.trans h2.1.2⟩, h1.2.trans h2.2⟩

mutual
theorem eqv_refl : ∀ (t : Term), noNaN t = true → eqv t t = true
  | .float b, h => by simp only [noNaN, Bool.not_eq_true'] at h; simpa [eqv] using floatEq_refl b h
  | .list l, h | .tuple l, h => eqvL_refl l h
  | .ilist l t, h => by
    simp only [noNaN, Bool.and_eq_true] at h
    simp [eqv, eqvL_refl l h.1, eqv_refl t h.2]
  | .map kvs, h => eqvKV_refl kvs h
  | .ifun _ _ _ _ _ _ _ p fr, h => by simp [eqv, pidEq_refl, eqvL_refl fr h]
  | .pid p, _ => by simp [eqv, pidEq_refl]
  | .atom _, _ | .int _, _ | .port _ _ _ _, _ | .ref _ _ _ _, _ | .bin _, _ | .bits _ _, _ | .str _, _ | .big _ _, _
  | .xfun _ _ _, _ | .nil, _ => by simp [eqv]
theorem eqvL_refl : ∀ (l : List Term), noNaNL l = true → eqvL l l = true
  | [], _ => by simp [eqvL]
  | t :: ts, h => by
    simp only [noNaNL, Bool.and_eq_true] at h
    simp [eqvL, eqv_refl t h.1, eqvL_refl ts h.2]
theorem eqvKV_refl : ∀ (l : List (Term × Term)), noNaNKV l = true → eqvKV l l = true
  | [], _ => by simp [eqvKV]
  | (k, v) :: r, h => by
    simp only [noNaNKV, Bool.and_eq_true] at h
    simp [eqvKV, eqv_refl k h.1.1, eqv_refl v h.1.2, eqvKV_refl r h.2]
end

theorem eqv_symm_all :
    (∀ a b, eqv a b = true → eqv b a = true) ∧ (∀ x y, eqvKV x y = true → eqvKV y x = true) ∧
    (∀ x y, eqvL x y = true → eqvL y x = true) := by
  refine eqv_ind ?_ ?_ ?_ ?_ ?_ ?_ ?_ ?_ ?_ ?_ ?_ ?_ ?_ ?_
  · exact fun _ _ h => h
  · exact fun _ _ h => floatEq_symm h
  · exact fun _ _ h => pidEq_symm h
  · intros; simp [eqv]
  · intros; simp [eqv]
  · exact fun _ _ ih => ih
  · exact fun _ _ _ _ ihl iht => Bool.and_eq_true _ _ ▸ ⟨ihl, iht⟩
  · exact fun _ _ ih => ih
  · exact fun _ _ ih => ih
  · intro _ _ _ _ _ _ _ _ _ _ _ h ih; simp [eqv, pidEq_symm h, ih]
  · rfl
  · exact fun _ _ _ _ iha ihx => Bool.and_eq_true _ _ ▸ ⟨iha, ihx⟩
  · rfl
  · intro _ _ _ _ _ _ ihk ihv ihx; simp [eqvKV, ihk, ihv, ihx]

theorem eqv_symm (a b : Term) (h : eqv a b = true) : eqv b a = true := eqv_symm_all.1 a b h
theorem eqvL_symm (x y : List Term) (h : eqvL x y = true) : eqvL y x = true := eqv_symm_all.2.2 x y h
theorem eqvKV_symm (x y : List (Term × Term)) (h : eqvKV x y = true) : eqvKV y x = true := eqv_symm_all.2.1 x y h

/-- the motive quantifies the third term; `a == b` fixes the constructor of `b`, so of the seventeen forms of the third
term all but one contradict `b == c` by computation -/
theorem eqv_trans_all :
    (∀ a b, eqv a b = true → ∀ c, eqv b c = true → eqv a c = true) ∧
    (∀ x y, eqvKV x y = true → ∀ z, eqvKV y z = true → eqvKV x z = true) ∧
    (∀ x y, eqvL x y = true → ∀ z, eqvL y z = true → eqvL x z = true) := by
  refine eqv_ind ?_ ?_ ?_ ?_ ?_ ?_ ?_ ?_ ?_ ?_ ?_ ?_ ?_ ?_
  · exact fun _ _ _ _ h => h
  · intro _ _ hab c h; cases c <;> first | cases h | exact floatEq_trans hab h
  · intro _ _ hab c h; cases c <;> first | cases h | exact pidEq_trans hab h
  · intro _ _ _ _ _ c h; cases c <;> first | cases h | exact h
  · intro _ _ _ _ _ c h; cases c <;> first | cases h | exact h
  · intro _ _ ih c h; cases c <;> first | cases h | exact ih _ h
  · intro _ _ _ _ ihl iht c h
    cases c <;> first
      | cases h
      | (simp only [eqv, Bool.and_eq_true] at h ⊢; exact ⟨ihl _ h.1, iht _ h.2⟩)
  · intro _ _ ih c h; cases c <;> first | cases h | exact ih _ h
  · intro _ _ ih c h; cases c <;> first | cases h | exact ih _ h
  · intro _ _ _ _ _ _ _ _ _ _ _ hp ih c h
    cases c <;> first
      | cases h
      | (simp only [eqv, Bool.and_eq_true] at h ⊢; exact ⟨⟨h.1.1, pidEq_trans hp h.1.2⟩, ih _ h.2⟩)
  · exact fun _ h => h
  · intro _ _ _ _ iha ihx z h
    cases z with
    | nil => cases h
    | cons c z => simp only [eqvL, Bool.and_eq_true] at h ⊢; exact ⟨iha _ h.1, ihx _ h.2⟩
  · exact fun _ h => h
  · intro _ _ _ _ _ _ ihk ihv ihx z h
    cases z with
    | nil => cases h
    | cons c z =>
      obtain ⟨k3, v3⟩ := c
      simp only [eqvKV, Bool.and_eq_true] at h ⊢; exact ⟨⟨ihk _ h.1.1, ihv _ h.1.2⟩, ihx _ h.2⟩

theorem eqv_trans (a b c : Term) (h1 : eqv a b = true) (h2 : eqv b c = true) : eqv a c = true :=
  eqv_trans_all.1 a b h1 c h2
theorem eqvL_trans (x y z : List Term) (h1 : eqvL x y = true) (h2 : eqvL y z = true) : eqvL x z = true :=
  eqv_trans_all.2.2 x y h1 z h2
theorem eqvKV_trans (x y z : List (Term × Term)) (h1 : eqvKV x y = true) (h2 : eqvKV y z = true) : eqvKV x z = true :=
  eqv_trans_all.2.1 x y h1 z h2

/-! Entries are looked up by hash first and by `==` second, as `HashMap` does; `hf` stands for the hasher (any function of the
byte stream `Hash::hash` writes). -/

def hmTest (hf : Bytes → Nat) (a b : Term) : Bool := hf (hashBytes a) == hf (hashBytes b) && eqv a b

def hmGet (hf : Bytes → Nat) (m : List (Term × Term)) (k : Term) : Option Term :=
  (m.find? (fun p => hmTest hf p.1 k)).map (·.2)

def hmInsert (hf : Bytes → Nat) : List (Term × Term) → Term → Term → List (Term × Term)
  | [], k, v => [(k, v)]
  | (k0, v0) :: r, k, v => if hmTest hf k0 k then (k0, v) :: r else (k0, v0) :: hmInsert hf r k v

/-- because `==` implies equal hashed bytes, the hash comparison never hides an entry -/
theorem hmTest_eq (hf : Bytes → Nat) (a b : Term) : hmTest hf a b = eqv a b := by
  cases h : eqv a b
  · simp [hmTest, h]
  · simp [hmTest, h, hashBytes_of_eqv a b h]

theorem hmGet_cons (hf : Bytes → Nat) (p : Term × Term) (m : List (Term × Term)) (k : Term) :
    hmGet hf (p :: m) k = if eqv p.1 k = true then some p.2 else hmGet hf m k := by
  simp only [hmGet, List.find?_cons, hmTest_eq]
  cases eqv p.1 k <;> simp

theorem hmGet_hmInsert (hf : Bytes → Nat) (m : List (Term × Term)) (k v k' : Term) :
    hmGet hf (hmInsert hf m k v) k' = if eqv k k' = true then some v else hmGet hf m k' := by
  induction m with
  | nil => simp [hmInsert, hmGet, hmTest_eq]
  | cons p0 r ih =>
    obtain ⟨k0, v0⟩ := p0
    simp only [hmInsert, hmTest_eq]
    by_cases h0 : eqv k0 k = true
    · rw [if_pos h0]
      simp only [hmGet_cons]
      by_cases h1 : eqv k k' = true
      · simp [h1, eqv_trans k0 k k' h0 h1]
      · have : eqv k0 k' ≠ true := fun h2 => h1 (eqv_trans k k0 k' (eqv_symm k0 k h0) h2)
        simp [h1, this]
    · rw [if_neg h0]
      simp only [hmGet_cons, ih]
      by_cases h1 : eqv k k' = true
      · have : eqv k0 k' ≠ true := fun h2 => h0 (eqv_trans k0 k' k h2 (eqv_symm k k' h1))
        simp [h1, this]
      · simp [h1]

end Edp
