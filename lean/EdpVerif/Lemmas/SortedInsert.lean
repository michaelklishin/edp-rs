import EdpVerif.Lemmas.OrderTrans
import EdpVerif.Lemmas.MapInsert
/-!
`mapInsert` (the model of `BTreeMap::insert` under the term order) keeps a strictly sorted key list strictly
sorted, keeps every stored key, and stores the new value under the one key that compares equal.
Transitivity of `Term.cmp` is what makes the `lt` branch sound.
-/
open Edp Edp.Term
namespace Edp

/-- keys strictly ascending under `Term.cmp` (so no two stored keys compare equal) -/
def keysSorted (m : List (Term × Term)) : Prop := m.Pairwise (fun p q => Term.cmp p.1 q.1 = .lt)

theorem cmp_gt_iff (a b : Term) : Term.cmp a b = .gt ↔ Term.cmp b a = .lt := by
  rw [cmp_swap a b]; cases Term.cmp b a <;> simp

theorem mapInsert_mem (m : List (Term × Term)) (k v : Term) :
    ∀ q ∈ mapInsert m k v, q ∈ m ∨ (Term.cmp k q.1 = .eq ∧ q.2 = v) := by
  intro q hq
  rcases mapInsert_entries m k v q hq with h | rfl | ⟨p, _, h, rfl⟩
  · exact .inl h
  · exact .inr ⟨cmp_refl k, rfl⟩
  · exact .inr ⟨h, rfl⟩

theorem mapInsert_keeps (m : List (Term × Term)) (k v : Term) :
    ∀ p ∈ m, ∃ q ∈ mapInsert m k v, q.1 = p.1 := by
  induction m with
  | nil => intro p hp; simp at hp
  | cons p0 r ih =>
    obtain ⟨k', v'⟩ := p0
    intro p hp
    simp only [mapInsert]
    cases h : Term.cmp k k' <;> simp only
    · exact ⟨p, List.mem_cons_of_mem _ hp, rfl⟩
    · rcases List.mem_cons.mp hp with rfl | hp
      · exact ⟨(k', v), by simp, rfl⟩
      · exact ⟨p, List.mem_cons_of_mem _ hp, rfl⟩
    · rcases List.mem_cons.mp hp with rfl | hp
      · exact ⟨(k', v'), by simp, rfl⟩
      · obtain ⟨q, hq, e⟩ := ih p hp
        exact ⟨q, List.mem_cons_of_mem _ hq, e⟩

theorem mapInsert_finds (m : List (Term × Term)) (k v : Term) :
    ∃ q ∈ mapInsert m k v, Term.cmp k q.1 = .eq ∧ q.2 = v := by
  induction m with
  | nil => exact ⟨(k, v), by simp [mapInsert], cmp_refl k, rfl⟩
  | cons p0 r ih =>
    obtain ⟨k', v'⟩ := p0
    simp only [mapInsert]
    cases h : Term.cmp k k' <;> simp only
    · exact ⟨(k, v), by simp, cmp_refl k, rfl⟩
    · exact ⟨(k', v), by simp, h, rfl⟩
    · obtain ⟨q, hq, e⟩ := ih
      exact ⟨q, List.mem_cons_of_mem _ hq, e⟩

theorem mapInsert_wf (m : List (Term × Term)) (k v : Term) (hk : WFo k) (hm : ∀ p ∈ m, WFo p.1) :
    ∀ q ∈ mapInsert m k v, WFo q.1 := fun q hq =>
  (mapInsert_forall (P := (WFo ·)) (Q := fun _ => True) m k v hk trivial (fun p hp => ⟨hm p hp, trivial⟩) q hq).1

theorem mapInsert_sorted (m : List (Term × Term)) (k v : Term) (hk : WFo k) (hm : ∀ p ∈ m, WFo p.1)
    (hs : keysSorted m) : keysSorted (mapInsert m k v) := by
  induction m with
  | nil => simp [mapInsert, keysSorted]
  | cons p0 r ih =>
    obtain ⟨k', v'⟩ := p0
    have hk' : WFo k' := hm (k', v') (by simp)
    have hr : ∀ p ∈ r, WFo p.1 := fun p hp => hm p (List.mem_cons_of_mem _ hp)
    unfold keysSorted at hs ⊢
    rw [List.pairwise_cons] at hs
    simp only [mapInsert]
    cases h : Term.cmp k k' <;> simp only
    · -- new smallest key: transitivity puts it before everything after k'
      refine List.pairwise_cons.mpr ⟨?_, List.pairwise_cons.mpr hs⟩
      intro q hq
      rcases List.mem_cons.mp hq with rfl | hq
      · exact h
      · exact cmp_trans_lt_lt hk hk' (hr q hq) h (hs.1 q hq)
    · exact List.pairwise_cons.mpr ⟨hs.1, hs.2⟩
    · refine List.pairwise_cons.mpr ⟨?_, ih hr hs.2⟩
      intro q hq
      rcases mapInsert_mem r k v q hq with h1 | ⟨h1, _⟩
      · exact hs.1 q h1
      · -- q's key is the stored key equal to k, or k itself; k' < k = q.1
        have hq' : WFo q.1 := mapInsert_wf r k v hk hr q hq
        exact cmp_trans_lt_eq hk' hk hq' ((cmp_gt_iff k k').mp h) h1

/-- any sequence of insertions keeps the keys strictly sorted -/
theorem foldl_mapInsert_sorted {α : Type} (kf vf : α → Term) (l : List α) (acc : List (Term × Term))
    (hl : ∀ e ∈ l, WFo (kf e)) (hacc : ∀ p ∈ acc, WFo p.1) (hs : keysSorted acc) :
    keysSorted (l.foldl (fun m e => mapInsert m (kf e) (vf e)) acc) ∧
      ∀ p ∈ l.foldl (fun m e => mapInsert m (kf e) (vf e)) acc, WFo p.1 := by
  induction l generalizing acc with
  | nil => exact ⟨hs, hacc⟩
  | cons a r ih =>
    simp only [List.foldl_cons]
    exact ih _ (fun e he => hl e (List.mem_cons_of_mem _ he))
      (mapInsert_wf acc _ _ (hl a (by simp)) hacc) (mapInsert_sorted acc _ _ (hl a (by simp)) hacc hs)

theorem foldl_mapInsert_all {α : Type} (P Q : Term → Prop) (kf vf : α → Term) (l : List α) (acc : List (Term × Term))
    (hl : ∀ e ∈ l, P (kf e) ∧ Q (vf e)) (hacc : ∀ p ∈ acc, P p.1 ∧ Q p.2) :
    (∀ p ∈ l.foldl (fun m e => mapInsert m (kf e) (vf e)) acc, P p.1 ∧ Q p.2) ∧
      (l.foldl (fun m e => mapInsert m (kf e) (vf e)) acc).length ≤ acc.length + l.length := by
  induction l generalizing acc with
  | nil => exact ⟨hacc, by simp⟩
  | cons a r ih =>
    simp only [List.foldl_cons]
    have h1 := hl a (by simp)
    have := ih (mapInsert acc (kf a) (vf a)) (fun e he => hl e (List.mem_cons_of_mem _ he))
      (mapInsert_forall acc _ _ h1.1 h1.2 hacc)
    refine ⟨this.1, ?_⟩
    have hlen := mapInsert_length_le acc (kf a) (vf a)
    simp only [List.length_cons]
    omega

/-- inserting a sequence of entries, the last one of `r` first: every inserted key finds a stored key that compares
Equal -/
theorem foldr_mapInsert_finds (r : List (Term × Term)) :
    ∀ p ∈ r, ∃ q ∈ r.foldr (fun kv m => mapInsert m kv.1 kv.2) [], Term.cmp p.1 q.1 = .eq := by
  induction r with
  | nil => simp
  | cons e r ih =>
    intro p hp
    rcases List.mem_cons.mp hp with rfl | hp
    · exact (mapInsert_finds _ p.1 p.2).imp fun q h => ⟨h.1, h.2.1⟩
    · obtain ⟨q, hq, e1⟩ := ih p hp
      obtain ⟨q', hq', e2⟩ := mapInsert_keeps _ e.1 e.2 q hq
      exact ⟨q', hq', by rw [e2]; exact e1⟩

end Edp
