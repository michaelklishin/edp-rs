import EdpVerif.Lemmas.Reencode
import EdpVerif.Spec.Etf
/-! The encoder's output is read by the independent spec reader as the term's value (C01 validity, C14 reuse). -/
namespace Edp
open Term

theorem leVal_eq_magVal (d : Bytes) : Spec.leVal d = magVal d := by
  induction d with
  | nil => rfl
  | cons b r ih => simp [Spec.leVal, magVal, ih]

theorem utf8_cps (a : Bytes) (h : validUtf8 a = true) : utf8Decode a = some (cps a) := by
  unfold validUtf8 at h; unfold cps
  cases hd : utf8Decode a with
  | none => simp [hd] at h
  | some c => simp

theorem parse_at {env : Spec.Env} {f : Nat} {t : UInt8} {tl : Bytes} {q : Option (Value × Bytes)}
    (h : ∀ xs, xs = tl → Spec.parse env (f + 1) (t :: xs) = q) : Spec.parse env (f + 1) (t :: tl) = q := h tl rfl

/-- `open_spec`: in a goal `Spec.parse env (f + 1) (T :: tl) = q`, `T` a literal, go to the arm of tag `T`.  `whnf`
picks the arm without visiting the others (which `simp` would); the tail is a variable meanwhile, so that nothing
behind the tag is evaluated. -/
macro "open_spec" : tactic => `(tactic| (
  refine parse_at (fun xs hxs => ?_)
  conv => lhs; whnf
  subst hxs))

theorem spec_atom (env : Spec.Env) (cache : List Bytes) (a bs r : Bytes) (fuel : Nat)
    (hrefs : env.refs = cache.map cps) (hlen : cache.length ≤ 256) (hu : validUtf8 a = true)
    (h : encAtom cache a = .ok bs) :
    Spec.parse env (fuel + 1) (bs ++ r) = some (.atom (cps a), r) := by
  rcases enc_atomC_ok cache a bs h with ⟨i, hi, rfl⟩ | ⟨_, hl, rfl⟩ | ⟨_, hl, hl2, rfl⟩
  · have hi256 : i < 256 := by have := indexOf?_lt a cache i hi; omega
    have hg := indexOf?_get a cache i hi
    simp only [List.cons_append, List.nil_append]
    open_spec
    simp [rdN_byte i r hi256, hrefs, hg]
  · simp only [List.cons_append, List.append_assoc]
    open_spec
    simp [rdN_be8 a.length (a ++ r) (by omega), takeN_append, utf8_cps a hu]
  · simp only [List.cons_append, List.append_assoc]
    open_spec
    simp [rdN_be16 a.length (a ++ r) (by omega), takeN_append, utf8_cps a hu]

theorem spec_int (env : Spec.Env) (v : Int) (r : Bytes) (fuel : Nat)
    (hv : -9223372036854775808 ≤ v ∧ v ≤ 9223372036854775807) :
    Spec.parse env (fuel + 1) (encInt v ++ r) = some (.int v, r) := by
  unfold encInt
  by_cases h1 : 0 ≤ v ∧ v ≤ 255
  · simp only [h1, and_self, ↓reduceIte, List.cons_append, List.nil_append]
    open_spec
    have hn : v.toNat < 256 := by omega
    simp [rdN_byte v.toNat r hn]
    omega
  · by_cases h2 : -2147483648 ≤ v ∧ v ≤ 2147483647
    · simp only [h1, h2, and_self, ↓reduceIte, List.cons_append]
      open_spec
      have hlt : (v % 4294967296).toNat < 4294967296 := by omega
      simp [rdN_be32 _ r hlt, Spec.i32]
      split <;> omega
    · simp only [h1, h2, ↓reduceIte, List.cons_append]
      open_spec
      have hlen : 1 ≤ (leN 8 v.natAbs).length := by simp [leN_length]
      have hs := sigLen_le (leN 8 v.natAbs) hlen
      have hs8 : sigLen (leN 8 v.natAbs) ≤ 8 := by simpa [leN_length] using hs
      have hn : sigLen (leN 8 v.natAbs) < 256 := by omega
      have htl : ((leN 8 v.natAbs).take (sigLen (leN 8 v.natAbs))).length = sigLen (leN 8 v.natAbs) := by
        simp [leN_length]; omega
      have hval : magVal ((leN 8 v.natAbs).take (sigLen (leN 8 v.natAbs))) = v.natAbs := by
        rw [magVal_take_sigLen, magVal_leN]; exact Nat.mod_eq_of_lt (by omega)
      by_cases hneg : v ≥ 0
      · have e0 : rdN 1 ((0 : UInt8) :: ((leN 8 v.natAbs).take (sigLen (leN 8 v.natAbs)) ++ r)) = some (0, _) := rdN_byte 0 _ (by omega)
        simp [rdN_byte _ _ hn, hneg, e0, takeN_of_length _ _ r htl, leVal_eq_magVal, hval]
        omega
      · have e1 : rdN 1 ((1 : UInt8) :: ((leN 8 v.natAbs).take (sigLen (leN 8 v.natAbs)) ++ r)) = some (1, _) := rdN_byte 1 _ (by omega)
        simp [rdN_byte _ _ hn, hneg, e1, takeN_of_length _ _ r htl, leVal_eq_magVal, hval]
        omega

theorem spec_big (env : Spec.Env) (neg : Bool) (dg r : Bytes) (fuel : Nat) (hl : dg.length < 4294967296) :
    Spec.parse env (fuel + 1) (encBig neg dg ++ r) = some (.int (bigVal neg dg), r) := by
  unfold encBig
  have es : rdN 1 ((if neg then (1 : UInt8) else 0) :: (dg ++ r)) = some (if neg then 1 else 0, dg ++ r) := by
    cases neg
    · exact rdN_byte 0 _ (by omega)
    · exact rdN_byte 1 _ (by omega)
  by_cases h255 : dg.length ≤ 255
  · simp only [h255, ↓reduceIte, List.cons_append, List.append_assoc]
    open_spec
    rw [rdN_be8 _ _ (by omega)]
    simp only [es, takeN_append, Option.map_some, leVal_eq_magVal, bigVal]
    cases neg <;> simp
  · simp only [h255, ↓reduceIte, List.cons_append, List.append_assoc]
    open_spec
    rw [rdN_be32 _ _ hl]
    simp only [es, takeN_append, Option.map_some, leVal_eq_magVal, bigVal]
    cases neg <;> simp


-- `b / 2 ^ 52 % 2048`: bits 52 to 62 of the double, its exponent field; all ones (2047) marks the infinities and NaNs
def finiteF (b : Nat) : Bool := !(b / 2 ^ 52 % 2048 == 2047)

mutual
/-- no NaN and no infinity among the floats (they are not Erlang floats; the encoder writes them all the same) -/
def finiteFloats : Term → Bool
  | .float b => finiteF b
  | .list l => finiteFloatsL l
  | .ilist l t => finiteFloatsL l && finiteFloats t
  | .map kvs => finiteFloatsKV kvs
  | .tuple l => finiteFloatsL l
  | .ifun _ _ _ _ _ _ _ _ fr => finiteFloatsL fr
  | _ => true
def finiteFloatsL : List Term → Bool
  | [] => true
  | t :: ts => finiteFloats t && finiteFloatsL ts
def finiteFloatsKV : List (Term × Term) → Bool
  | [] => true
  | (k, v) :: r => finiteFloats k && finiteFloats v && finiteFloatsKV r
end

theorem spec_rdWords_map (ids : List Nat) (r : Bytes) (h : ∀ i ∈ ids, i < 4294967296) :
    Spec.rdWords ids.length ((ids.map be32).flatten ++ r) = some (ids, r) := by
  induction ids with
  | nil => simp [Spec.rdWords]
  | cons i ids ih =>
    have hi := h i (by simp)
    have := ih (fun j hj => h j (by simp [hj]))
    simp [Spec.rdWords, rdN_be32 i _ hi, this]

theorem spec_pid (env : Spec.Env) (cache : List Bytes) (hrefs : env.refs = cache.map cps) (hlen : cache.length ≤ 256)
    (p : PidF) (bs r : Bytes) (fuel : Nat) (hw : wfPid p = true) (h : encPid cache p = .ok bs) :
    Spec.parse env (fuel + 2) (bs ++ r) = some (.pid (cps p.node) p.id p.serial p.creation, r) := by
  obtain ⟨node, id, serial, creation, loc⟩ := p
  simp only [wfPid, Bool.and_eq_true, decide_eq_true_eq, Option.isNone_iff_eq_none] at hw
  obtain ⟨⟨⟨⟨hu, h1⟩, h2⟩, h3⟩, h4⟩ := hw
  subst h4
  simp only [encPid] at h
  cases ha : encAtom cache node with
  | error e => simp [ha] at h
  | ok ab =>
    simp [ha] at h; subst h
    simp only [List.cons_append, List.append_assoc]
    open_spec
    have hat := spec_atom env cache node ab (be32 id ++ (be32 serial ++ (be32 creation ++ r))) fuel hrefs hlen hu ha
    simp [hat, rdN_be32 _ _ h1, rdN_be32 _ _ h2, rdN_be32 _ _ h3]

theorem spec_port (env : Spec.Env) (cache : List Bytes) (hrefs : env.refs = cache.map cps) (hlen : cache.length ≤ 256)
    (n : Bytes) (i c : Nat) (bs r : Bytes) (fuel : Nat)
    (hw : wfT (.port n i c none) = true) (h : encPort cache n i c none = .ok bs) :
    Spec.parse env (fuel + 2) (bs ++ r) = some (.port (cps n) i c, r) := by
  simp only [wfT, Bool.and_eq_true, decide_eq_true_eq, Option.isNone_none, and_true] at hw
  obtain ⟨⟨hu, h1⟩, h2⟩ := hw
  simp only [encPort] at h
  cases ha : encAtom cache n with
  | error e => simp [ha] at h
  | ok ab =>
    simp [ha] at h; subst h
    simp only [List.cons_append, List.append_assoc]
    open_spec
    have hat := spec_atom env cache n ab (be64 i ++ (be32 c ++ r)) fuel hrefs hlen hu ha
    simp [hat, rdN_be64 _ _ h1, rdN_be32 _ _ h2]

theorem spec_ref (env : Spec.Env) (cache : List Bytes) (hrefs : env.refs = cache.map cps) (hlen : cache.length ≤ 256)
    (n : Bytes) (c : Nat) (ids : List Nat) (bs r : Bytes) (fuel : Nat)
    (hw : wfT (.ref n c ids none) = true) (h : encRef cache n c ids none = .ok bs) :
    Spec.parse env (fuel + 2) (bs ++ r) = some (.ref (cps n) c ids, r) := by
  simp only [wfT, Bool.and_eq_true, decide_eq_true_eq, Option.isNone_none, and_true, List.all_eq_true] at hw
  obtain ⟨⟨hu, h1⟩, h2⟩ := hw
  simp only [encRef] at h
  by_cases hl : ids.length > u16max
  · simp [hl] at h
  · simp only [hl, ↓reduceIte] at h
    cases ha : encAtom cache n with
    | error e => simp [ha] at h
    | ok ab =>
      simp [ha] at h; subst h
      have hl' : ids.length < 65536 := by simp [u16max] at hl; omega
      simp only [List.cons_append, List.append_assoc]
      open_spec
      have hat := spec_atom env cache n ab (be32 c ++ ((ids.map be32).flatten ++ r)) fuel hrefs hlen hu ha
      simp [hat, rdN_be16 _ _ hl', rdN_be32 _ _ h1, spec_rdWords_map ids r h2]

theorem spec_xfun (env : Spec.Env) (cache : List Bytes) (hrefs : env.refs = cache.map cps) (hlen : cache.length ≤ 256)
    (m f : Bytes) (a : Nat) (bs r : Bytes) (fuel : Nat)
    (hw : wfT (.xfun m f a) = true) (h : enc cache (.xfun m f a) = .ok bs) :
    Spec.parse env (fuel + 2) (bs ++ r) = some (.xfun (cps m) (cps f) a, r) := by
  simp only [wfT, Bool.and_eq_true, decide_eq_true_eq] at hw
  obtain ⟨⟨hm, hf⟩, ha⟩ := hw
  simp only [enc] at h
  cases hma : encAtom cache m with
  | error e => simp [hma] at h
  | ok mb =>
    cases hfa : encAtom cache f with
    | error e => simp [hma, hfa] at h
    | ok fb =>
      simp [hma, hfa] at h; subst h
      simp only [List.cons_append, List.append_assoc]
      open_spec
      have h1 := spec_atom env cache m mb (fb ++ (encInt a ++ r)) fuel hrefs hlen hm hma
      have h2 := spec_atom env cache f fb (encInt a ++ r) fuel hrefs hlen hf hfa
      have h3 := spec_int env (a : Int) r fuel (by omega)
      simp [h1, h2, h3]
      omega


theorem tsz_pos (t : Term) : 1 ≤ tsz t := by cases t <;> simp only [tsz] <;> omega

theorem mkBits8 (b : Bytes) : Value.mkBits b 8 = den (.bin b) := rfl

/-- the three facts below at once, by induction on the reader's fuel (every recursive call is at a smaller fuel).
Route, the same for every constructor: the leaves with atoms or digits inside are the `spec_*` lemmas above.  Otherwise
`he` unfolded (`simp only [enc]`, split on the width of the count) gives the bytes written as tag, big-endian fields and
the encodings of the sub-terms; `open_spec` goes to the reader's arm for that tag; `rdN_be*`/`takeN_append` read the
fields back, `IH` reads the sub-terms (their `tsz` is smaller), and the closing `simp [.., den]` compares the value read
with `den t`. -/
theorem spec_all (env : Spec.Env) (cache : List Bytes) (hrefs : env.refs = cache.map cps) (hlen : cache.length ≤ 256)
    (fuel : Nat) :
    (∀ (t : Term) (bs r : Bytes), wfT t = true → finiteFloats t = true → enc cache t = .ok bs →
      bs.length < 4294967296 → tsz t ≤ fuel → Spec.parse env fuel (bs ++ r) = some (den t, r)) ∧
    (∀ (l : List Term) (bs r : Bytes), wfL l = true → finiteFloatsL l = true → encL cache l = .ok bs →
      bs.length < 4294967296 → tszL l ≤ fuel → Spec.parseN env fuel l.length (bs ++ r) = some (denL l, r)) ∧
    (∀ (kvs : List (Term × Term)) (bs r : Bytes), wfKV kvs = true → finiteFloatsKV kvs = true →
      encKV cache kvs = .ok bs → bs.length < 4294967296 → tszKV kvs ≤ fuel →
      Spec.parseKV env fuel kvs.length (bs ++ r) = some (denKV kvs, r)) := by
  induction fuel using Nat.strongRecOn with
  | ind fuel IH =>
  refine ⟨fun t bs r hw hfin he hsz hf => ?_, fun l bs r hw hfin he hsz hf => ?_,
    fun kvs bs r hw hfin he hsz hf => ?_⟩
  · obtain ⟨f, rfl⟩ : ∃ f, fuel = f + 1 := ⟨fuel - 1, by have := tsz_pos t; omega⟩
    match t with
    | .atom a =>
      simp only [wfT] at hw; simp only [enc] at he
      have := spec_atom env cache a bs r f hrefs hlen hw he
      simpa [den] using this
    | .int i =>
      simp only [wfT, decide_eq_true_eq] at hw; simp only [enc, Except.ok.injEq] at he
      subst he
      simpa [den] using spec_int env i r f hw
    | .float b =>
      simp only [wfT, decide_eq_true_eq] at hw; simp only [enc, Except.ok.injEq] at he
      subst he
      simp only [finiteFloats, finiteF, Bool.not_eq_true', beq_eq_false_iff_ne, ne_eq] at hfin
      rw [List.cons_append]; open_spec
      simp [rdN_be64 b r hw, den]
      exact hfin
    | .bin b | .str b =>
      simp only [enc, encBinary] at he
      split at he <;> simp at he
      rename_i hl; subst he
      have h32 : b.length < 4294967296 := by simp [u32max] at hl; omega
      simp only [List.cons_append, List.append_assoc]
      open_spec
      simp [rdN_be32 _ _ h32, takeN_append, den]
    | .bits b n =>
      simp only [wfT, Bool.and_eq_true, decide_eq_true_eq, Bool.or_eq_true, Bool.not_eq_true', beq_iff_eq] at hw
      simp only [enc, encBits] at he
      split at he <;> simp at he
      rename_i hl; subst he
      have h32 : b.length < 4294967296 := by simp [u32max] at hl; omega
      have hn8 : n < 256 := by omega
      have hz : ¬ (n = 0 ∨ 8 < n) := by omega
      have h0 : b = [] → n = 8 := by
        intro hb; subst hb; simpa using hw.1.2
      simp only [List.cons_append, List.append_assoc]
      open_spec
      simp [rdN_be32 _ _ h32, rdN_byte n (b ++ r) hn8, takeN_append, den]
      exact ⟨by omega, h0⟩
    | .big neg dg =>
      simp only [wfT, decide_eq_true_eq] at hw; simp only [enc, Except.ok.injEq] at he
      subst he
      simpa [den] using spec_big env neg dg r f hw
    | .nil =>
      simp only [enc, Except.ok.injEq] at he
      subst he
      rw [List.cons_append]; open_spec
      simp [den]
    | .pid p =>
      simp only [tsz] at hf; obtain ⟨f, rfl⟩ : ∃ f', f = f' + 1 := ⟨f - 1, by omega⟩
      simp only [wfT] at hw; simp only [enc] at he
      simpa [den] using spec_pid env cache hrefs hlen p bs r f hw he
    | .port n i c l =>
      simp only [tsz] at hf; obtain ⟨f, rfl⟩ : ∃ f', f = f' + 1 := ⟨f - 1, by omega⟩
      have hl : l = none := by
        simp only [wfT, Bool.and_eq_true, Option.isNone_iff_eq_none] at hw; exact hw.2
      subst hl
      simp only [enc] at he
      simpa [den] using spec_port env cache hrefs hlen n i c bs r f hw he
    | .ref n c ids l =>
      simp only [tsz] at hf; obtain ⟨f, rfl⟩ : ∃ f', f = f' + 1 := ⟨f - 1, by omega⟩
      have hl : l = none := by
        simp only [wfT, Bool.and_eq_true, Option.isNone_iff_eq_none] at hw; exact hw.2
      subst hl
      simp only [enc] at he
      simpa [den] using spec_ref env cache hrefs hlen n c ids bs r f hw he
    | .xfun m fn a =>
      simp only [tsz] at hf; obtain ⟨f, rfl⟩ : ∃ f', f = f' + 1 := ⟨f - 1, by omega⟩
      simpa [den] using spec_xfun env cache hrefs hlen m fn a bs r f hw he
    | .tuple l =>
      simp only [tsz] at hf
      simp only [wfT, Bool.and_eq_true, decide_eq_true_eq] at hw
      simp only [finiteFloats] at hfin
      simp only [enc] at he
      cases hl : encL cache l with
      | error e => simp only [hl] at he; (repeat' split at he) <;> simp at he
      | ok lb =>
        have hlb : lb.length < 4294967296 := by
          simp only [hl] at he; (repeat' split at he) <;> simp at he <;> subst he <;> simp at hsz <;> omega
        have ih := fun r' => (IH f (by omega)).2.1 l lb r' hw.2 hfin hl hlb (by omega)
        by_cases h255 : l.length ≤ 255
        · simp [hl, h255] at he; subst he
          simp only [List.cons_append, List.append_assoc]
          open_spec
          simp [rdN_be8 _ _ (show l.length < 256 by omega), ih, den]
        · have h32 : l.length < 4294967296 := by have := hw.1; simp [MAX_TUPLE_SIZE] at this; omega
          have hnm : ¬ l.length > u32max := by simp [u32max]; omega
          simp [hl, h255, hnm] at he; subst he
          simp only [List.cons_append, List.append_assoc]
          open_spec
          simp [rdN_be32 _ _ h32, ih, den]
    | .list l =>
      simp only [tsz] at hf
      simp only [wfT, Bool.and_eq_true, decide_eq_true_eq] at hw
      simp only [finiteFloats] at hfin
      simp only [enc] at he
      cases hl : encL cache l with
      | error e =>
        cases l with
        | nil => simp [encL] at hl
        | cons a l' => simp only [hl, List.isEmpty_cons, Bool.false_eq_true, ↓reduceIte] at he; (repeat' split at he) <;> simp at he
      | ok lb =>
        have ih := fun (hlb : lb.length < 4294967296) r' => (IH f (by omega)).2.1 l lb r' hw.2 hfin hl hlb (by omega)
        cases l with
        | nil =>
          simp at he; subst he
          rw [List.cons_append]; open_spec
          simp [den, denL, Value.mkList]
        | cons a l' =>
          have h32 : (a :: l').length < 4294967296 := by have := hw.1; simp [MAX_LIST_SIZE] at this ⊢; omega
          have hnm : ¬ (a :: l').length > u32max := by simp [u32max] at h32 ⊢; omega
          simp only [hl, hnm, List.isEmpty_cons, Bool.false_eq_true, ↓reduceIte, Except.ok.injEq] at he
          subst he
          have hlb : lb.length < 4294967296 := by simp at hsz; omega
          have ih' := ih hlb
          simp only [tszL] at hf
          obtain ⟨f', rfl⟩ : ∃ f', f = f' + 1 := ⟨f - 1, by omega⟩
          simp only [List.cons_append, List.append_assoc]
          open_spec
          have hn : Spec.parse env (f' + 1) (106 :: r) = some (.nil, r) := rfl
          simp only [List.length_cons] at ih' h32
          simp [rdN_be32 _ _ h32, ih', hn, den]
    | .ilist l tl =>
      simp only [tsz] at hf
      simp only [wfT, Bool.and_eq_true, decide_eq_true_eq] at hw
      simp only [finiteFloats, Bool.and_eq_true] at hfin
      have h32 : l.length < 4294967296 := by have := hw.1.1; simp [MAX_LIST_SIZE] at this ⊢; omega
      have hnm : ¬ l.length > u32max := by simp [u32max] at h32 ⊢; omega
      simp only [enc, hnm, ↓reduceIte] at he
      cases hl : encL cache l with
      | error e => simp [hl] at he
      | ok lb =>
        cases ht : enc cache tl with
        | error e => simp [hl, ht] at he
        | ok tb =>
          simp [hl, ht] at he; subst he
          have hlb : lb.length < 4294967296 := by simp at hsz; omega
          have htb : tb.length < 4294967296 := by simp at hsz; omega
          have ih := fun r' => (IH f (by omega)).2.1 l lb r' hw.1.2 hfin.1 hl hlb (by omega)
          have iht := (IH f (by omega)).1 tl tb r hw.2 hfin.2 ht htb (by omega)
          simp only [List.cons_append, List.append_assoc]
          open_spec
          simp [rdN_be32 _ _ h32, ih, iht, den]
    | .map kvs =>
      simp only [tsz] at hf
      simp only [wfT, Bool.and_eq_true, decide_eq_true_eq] at hw
      simp only [finiteFloats] at hfin
      have h32 : kvs.length < 4294967296 := by have := hw.1; simp [MAX_MAP_SIZE] at this ⊢; omega
      have hnm : ¬ kvs.length > u32max := by simp [u32max] at h32 ⊢; omega
      simp only [enc, hnm, ↓reduceIte] at he
      cases hl : encKV cache kvs with
      | error e => simp [hl] at he
      | ok lb =>
        simp [hl] at he; subst he
        have hlb : lb.length < 4294967296 := by simp at hsz; omega
        have ih := fun r' => (IH f (by omega)).2.2 kvs lb r' hw.2 hfin hl hlb (by omega)
        simp only [List.cons_append, List.append_assoc]
        open_spec
        simp [rdN_be32 _ _ h32, ih, den]
    | .ifun a u i nf m oi ou p fr =>
      simp only [tsz] at hf; obtain ⟨f, rfl⟩ : ∃ f', f = f' + 2 := ⟨f - 2, by omega⟩
      simp only [wfT, Bool.and_eq_true, decide_eq_true_eq] at hw
      obtain ⟨⟨⟨⟨⟨⟨⟨⟨⟨ha, hu⟩, hi⟩, hnf⟩, hnf32⟩, hm⟩, hoi⟩, hou⟩, hp⟩, hfr⟩ := hw
      simp only [finiteFloats] at hfin
      simp only [enc] at he
      cases hma : encAtom cache m with
      | error e => simp [hma] at he
      | ok mb =>
        cases hpa : encPid cache p with
        | error e => simp [hma, hpa] at he
        | ok pb =>
          cases hfa : encL cache fr with
          | error e => simp [hma, hpa, hfa] at he
          | ok fb =>
            simp only [hma, hpa, hfa, Except.ok.injEq] at he
            subst he
            have hfb : fb.length < 4294967296 := by simp at hsz; omega
            have ih := fun r' => (IH (f + 2) (by omega)).2.1 fr fb r' hfr hfin hfa hfb (by omega)
            have h1 := fun r' => spec_atom env cache m mb r' (f + 1) hrefs hlen hm hma
            have h2 := fun r' => spec_int env (oi : Int) r' (f + 1) (by omega)
            have h3 := fun r' => spec_int env (ou : Int) r' (f + 1) (by omega)
            have h4 := fun r' => spec_pid env cache hrefs hlen p pb r' f hp hpa
            subst hnf
            have hoi0 : ¬ ((oi : Int) < 0) := by omega
            have hou0 : ¬ ((ou : Int) < 0) := by omega
            generalize hbody : (UInt8.ofNat a :: u ++ be32 i ++ be32 fr.length ++ mb ++ encInt ↑oi ++ encInt ↑ou ++ pb ++ fb) = body at hsz ⊢
            have hbl : body.length + 4 < 4294967296 := by simp [be32, beN_length] at hsz; omega
            simp only [List.cons_append, List.append_assoc]
            open_spec
            rw [rdN_be32 _ _ hbl]
            have hs1 : ¬ (body.length + 4 < 4 ∨ body.length + 4 - 4 > (body ++ r).length) := by simp
            simp only [Bool.or_eq_true, decide_eq_true_eq, hs1, ↓reduceIte]
            subst hbody
            simp [rdN_byte a _ (by omega), takeN_of_length 16 u _ hu,
              rdN_be32 _ _ hi, rdN_be32 _ _ hnf32, h1, h2, h3, h4, ih, den, hoi0, hou0]
            omega
  ·
    match l with
    | [] => simp [encL] at he; subst he; simp [Spec.parseN, denL]
    | t :: ts =>
      simp only [tszL] at hf; obtain ⟨f, rfl⟩ : ∃ f, fuel = f + 1 := ⟨fuel - 1, by omega⟩
      simp only [wfL, Bool.and_eq_true] at hw
      simp only [finiteFloatsL, Bool.and_eq_true] at hfin
      simp only [encL] at he
      cases h1 : enc cache t with
      | error e => simp [h1] at he
      | ok a =>
        cases h2 : encL cache ts with
        | error e => simp [h1, h2] at he
        | ok b =>
          simp [h1, h2] at he; subst he
          have ih1 := (IH f (by omega)).1 t a (b ++ r) hw.1 hfin.1 h1 (by simp at hsz; omega) (by omega)
          have ih2 := (IH f (by omega)).2.1 ts b r hw.2 hfin.2 h2 (by simp at hsz; omega) (by omega)
          simp [Spec.parseN, ih1, ih2, denL]
  ·
    match kvs with
    | [] => simp [encKV] at he; subst he; simp [Spec.parseKV, denKV]
    | (k, v) :: ts =>
      simp only [tszKV] at hf; obtain ⟨f, rfl⟩ : ∃ f, fuel = f + 1 := ⟨fuel - 1, by omega⟩
      simp only [wfKV, Bool.and_eq_true] at hw
      simp only [finiteFloatsKV, Bool.and_eq_true] at hfin
      simp only [encKV] at he
      cases h1 : enc cache k with
      | error e => simp [h1] at he
      | ok a =>
        cases h2 : enc cache v with
        | error e => simp [h1, h2] at he
        | ok b =>
          cases h3 : encKV cache ts with
          | error e => simp [h1, h2, h3] at he
          | ok c =>
            simp [h1, h2, h3] at he; subst he
            have ih1 := (IH f (by omega)).1 k a (b ++ (c ++ r)) hw.1.1 hfin.1.1 h1 (by simp at hsz; omega) (by omega)
            have ih2 := (IH f (by omega)).1 v b (c ++ r) hw.1.2 hfin.1.2 h2 (by simp at hsz; omega) (by omega)
            have ih3 := (IH f (by omega)).2.2 ts c r hw.2 hfin.2 h3 (by simp at hsz; omega) (by omega)
            simp [Spec.parseKV, ih1, ih2, ih3, denKV]

theorem spec_enc (env : Spec.Env) (cache : List Bytes) (hrefs : env.refs = cache.map cps) (hlen : cache.length ≤ 256)
    (t : Term) (bs r : Bytes) (fuel : Nat)
    (hw : wfT t = true) (hfin : finiteFloats t = true) (he : enc cache t = .ok bs) (hsz : bs.length < 4294967296)
    (hf : tsz t ≤ fuel) :
    Spec.parse env fuel (bs ++ r) = some (den t, r) :=
  (spec_all env cache hrefs hlen fuel).1 t bs r hw hfin he hsz hf

theorem specN_encL (env : Spec.Env) (cache : List Bytes) (hrefs : env.refs = cache.map cps) (hlen : cache.length ≤ 256)
    (l : List Term) (bs r : Bytes) (fuel : Nat)
    (hw : wfL l = true) (hfin : finiteFloatsL l = true) (he : encL cache l = .ok bs) (hsz : bs.length < 4294967296)
    (hf : tszL l ≤ fuel) :
    Spec.parseN env fuel l.length (bs ++ r) = some (denL l, r) :=
  (spec_all env cache hrefs hlen fuel).2.1 l bs r hw hfin he hsz hf

theorem specKV_encKV (env : Spec.Env) (cache : List Bytes) (hrefs : env.refs = cache.map cps) (hlen : cache.length ≤ 256)
    (kvs : List (Term × Term)) (bs r : Bytes) (fuel : Nat)
    (hw : wfKV kvs = true) (hfin : finiteFloatsKV kvs = true) (he : encKV cache kvs = .ok bs) (hsz : bs.length < 4294967296)
    (hf : tszKV kvs ≤ fuel) :
    Spec.parseKV env fuel kvs.length (bs ++ r) = some (denKV kvs, r) :=
  (spec_all env cache hrefs hlen fuel).2.2 kvs bs r hw hfin he hsz hf


theorem encAtom_head (cache : List Bytes) (a bs : Bytes) (h : encAtom cache a = .ok bs) :
    ∃ tag rest, bs = tag :: rest ∧ tag ≠ 80 := by
  rcases enc_atomC_ok cache a bs h with ⟨i, _, rfl⟩ | ⟨_, _, rfl⟩ | ⟨_, _, _, rfl⟩
  · exact ⟨82, _, rfl, by decide⟩
  · exact ⟨119, _, rfl, by decide⟩
  · exact ⟨118, _, rfl, by decide⟩

theorem encInt_head (v : Int) : ∃ tag rest, encInt v = tag :: rest ∧ tag ≠ 80 := by
  unfold encInt
  split
  · exact ⟨97, _, rfl, by decide⟩
  · split
    · exact ⟨98, _, rfl, by decide⟩
    · exact ⟨110, _, rfl, by decide⟩

/-- the encoder never starts a term with the COMPRESSED tag -/
theorem enc_head (cache : List Bytes) (t : Term) (bs : Bytes) (h : enc cache t = .ok bs) :
    ∃ tag rest, bs = tag :: rest ∧ tag ≠ 80 := by
  cases t with
  | atom a => simp only [enc] at h; exact encAtom_head cache a bs h
  | int i => simp only [enc, Except.ok.injEq] at h; subst h; exact encInt_head i
  | float b => simp only [enc, Except.ok.injEq] at h; subst h; exact ⟨70, _, rfl, by decide⟩
  | bin b => simp only [enc, encBinary] at h; split at h <;> simp at h; subst h; exact ⟨109, _, rfl, by decide⟩
  | str b => simp only [enc, encBinary] at h; split at h <;> simp at h; subst h; exact ⟨109, _, rfl, by decide⟩
  | bits b n => simp only [enc, encBits] at h; split at h <;> simp at h; subst h; exact ⟨77, _, rfl, by decide⟩
  | big neg dg =>
    simp only [enc, Except.ok.injEq, encBig] at h; subst h
    split
    · exact ⟨110, _, rfl, by decide⟩
    · exact ⟨111, _, rfl, by decide⟩
  | nil => simp only [enc, Except.ok.injEq] at h; subst h; exact ⟨106, _, rfl, by decide⟩
  | pid p =>
    simp only [enc, encPid] at h
    split at h
    · simp at h; subst h; exact ⟨121, _, rfl, by decide⟩
    · split at h <;> simp at h; subst h; exact ⟨88, _, rfl, by decide⟩
  | port n i c l =>
    simp only [enc, encPort] at h
    split at h
    · simp at h; subst h; exact ⟨121, _, rfl, by decide⟩
    · split at h <;> simp at h; subst h; exact ⟨120, _, rfl, by decide⟩
  | ref n c ids l =>
    simp only [enc, encRef] at h
    split at h
    · simp at h; subst h; exact ⟨121, _, rfl, by decide⟩
    · split at h
      · simp at h
      · split at h <;> simp at h; subst h; exact ⟨90, _, rfl, by decide⟩
  | xfun m f a =>
    simp only [enc] at h
    (repeat' split at h) <;> simp at h; subst h; exact ⟨113, _, rfl, by decide⟩
  | tuple l =>
    simp only [enc] at h
    (repeat' split at h) <;> simp at h <;> subst h
    · exact ⟨104, _, rfl, by decide⟩
    · exact ⟨105, _, rfl, by decide⟩
  | list l =>
    simp only [enc] at h
    (repeat' split at h) <;> simp at h <;> subst h
    · exact ⟨106, _, rfl, by decide⟩
    · exact ⟨108, _, rfl, by decide⟩
  | ilist l tl =>
    simp only [enc] at h
    (repeat' split at h) <;> simp at h; subst h; exact ⟨108, _, rfl, by decide⟩
  | map kvs =>
    simp only [enc] at h
    (repeat' split at h) <;> simp at h; subst h; exact ⟨116, _, rfl, by decide⟩
  | ifun a u i nf m oi ou p fr =>
    simp only [enc] at h
    (repeat' split at h) <;> simp at h; subst h; exact ⟨112, _, rfl, by decide⟩

/-- the whole-message form: version byte, then the term, nothing left -/
theorem specTop_enc (env : Spec.Env) (cache : List Bytes) (hrefs : env.refs = cache.map cps) (hlen : cache.length ≤ 256)
    (t : Term) (b : Bytes) (hw : wfT t = true) (hfin : finiteFloats t = true) (he : enc cache t = .ok b)
    (hsz : b.length < 4294967296) :
    Spec.parseTop env (131 :: b) = some (den t, []) := by
  obtain ⟨tag, rest, rfl, htag⟩ := enc_head cache t b he
  have hl := tsz_le_length cache t _ hw he
  have := spec_enc env cache hrefs hlen t _ [] ((tag :: rest).length + 1) hw hfin he hsz (by omega)
  simp only [List.append_nil] at this
  unfold Spec.parseTop
  split
  · rename_i r heq; simp at heq; exact absurd heq.1 htag
  · rename_i r _ heq; simp at heq; subst heq; exact this
  · rename_i h1 h2; exact absurd rfl (h2 _)

end Edp
