import EdpVerif.Impl.Decode
/-! What one `mapInsert` (the model of `BTreeMap::insert`) does to the entry list, for whatever `Term.cmp` answers:
no law of the order is used. -/
namespace Edp

/-- an entry of the result is an old entry, the new entry, or a stored key that compares Equal, with the new value -/
theorem mapInsert_entries (m : List (Term × Term)) (k v : Term) :
    ∀ q ∈ mapInsert m k v, q ∈ m ∨ q = (k, v) ∨ ∃ p ∈ m, Term.cmp k p.1 = .eq ∧ q = (p.1, v) := by
  induction m with
  | nil => intro q hq; exact .inr (.inl (List.mem_singleton.mp hq))
  | cons p r ih =>
    obtain ⟨k', v'⟩ := p
    intro q hq
    simp only [mapInsert] at hq
    cases h : Term.cmp k k' <;> simp only [h] at hq <;> rcases List.mem_cons.mp hq with rfl | hq
    · exact .inr (.inl rfl)
    · exact .inl hq
    · exact .inr (.inr ⟨(k', v'), by simp, h, rfl⟩)
    · exact .inl (List.mem_cons_of_mem _ hq)
    · exact .inl (by simp)
    · rcases ih q hq with h1 | h1 | ⟨p, hp, h1⟩
      · exact .inl (List.mem_cons_of_mem _ h1)
      · exact .inr (.inl h1)
      · exact .inr (.inr ⟨p, List.mem_cons_of_mem _ hp, h1⟩)

/-- every key and every value of the result was a key / value before or is the inserted one -/
theorem mapInsert_forall {P Q : Term → Prop} (m : List (Term × Term)) (k v : Term) (hk : P k) (hv : Q v)
    (hm : ∀ p ∈ m, P p.1 ∧ Q p.2) : ∀ q ∈ mapInsert m k v, P q.1 ∧ Q q.2 := by
  intro q hq
  rcases mapInsert_entries m k v q hq with h | rfl | ⟨p, hp, _, rfl⟩
  · exact hm q h
  · exact ⟨hk, hv⟩
  · exact ⟨(hm p hp).1, hv⟩

theorem mapInsert_length_le (m : List (Term × Term)) (k v : Term) : (mapInsert m k v).length ≤ m.length + 1 := by
  induction m with
  | nil => simp [mapInsert]
  | cons p0 r ih =>
    obtain ⟨k', v'⟩ := p0
    simp only [mapInsert]
    cases Term.cmp k k' <;> simp <;> omega

theorem mapInsert_append (m : List (Term × Term)) (k v : Term)
    (h : ∀ p ∈ m, Term.cmp k p.1 = .gt) : mapInsert m k v = m ++ [(k, v)] := by
  induction m with
  | nil => rfl
  | cons p r ih =>
    obtain ⟨k', v'⟩ := p
    have h1 : Term.cmp k k' = .gt := h (k', v') (by simp)
    simp only [mapInsert, h1, List.cons_append]
    rw [ih (fun p hp => h p (by simp [hp]))]

theorem mapInsert_perm (m : List (Term × Term)) (k v : Term)
    (h : ∀ p ∈ m, Term.cmp k p.1 ≠ .eq) : (mapInsert m k v).Perm ((k, v) :: m) := by
  induction m with
  | nil => exact List.Perm.refl _
  | cons p r ih =>
    obtain ⟨k', v'⟩ := p
    have h1 : Term.cmp k k' ≠ .eq := h (k', v') (by simp)
    simp only [mapInsert]
    cases hc : Term.cmp k k' with
    | lt => exact List.Perm.refl _
    | eq => exact absurd hc h1
    | gt => exact ((ih (fun p hp => h p (by simp [hp]))).cons (k', v')).trans (List.Perm.swap _ _ _)

/-- entries that arrive with keys comparing Equal to none that is stored or arrived before are all kept -/
theorem foldl_mapInsert_fresh_perm (l acc : List (Term × Term))
    (h1 : l.Pairwise (fun a b => Term.cmp b.1 a.1 ≠ .eq))
    (h2 : ∀ a ∈ acc, ∀ b ∈ l, Term.cmp b.1 a.1 ≠ .eq) :
    (l.foldl (fun m kv => mapInsert m kv.1 kv.2) acc).Perm (acc ++ l) := by
  induction l generalizing acc with
  | nil => simp
  | cons x r ih =>
    simp only [List.foldl_cons]
    rw [List.pairwise_cons] at h1
    have hp : (mapInsert acc x.1 x.2).Perm (x :: acc) := mapInsert_perm acc x.1 x.2 (fun p hp => h2 p hp x (by simp))
    refine (ih _ h1.2 ?_).trans ?_
    · intro a ha b hb
      rcases List.mem_cons.mp (hp.mem_iff.mp ha) with rfl | ha'
      · exact h1.1 b hb
      · exact h2 a ha' b (by simp [hb])
    · exact (hp.append_right r).trans (by simpa using List.perm_middle.symm)

end Edp
