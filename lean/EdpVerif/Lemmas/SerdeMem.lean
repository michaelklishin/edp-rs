import EdpVerif.Lemmas.SerdeBasic
import EdpVerif.Lemmas.SerdeInt
import EdpVerif.Lemmas.SerdeFloat
/-! C15: the round trip `de ty (f (ser v)) = ok v` by induction over the type universe, once for every `f` that carries
terms faithfully enough (`Carrier`); in memory `f` is the identity. -/
namespace Edp.Serde
open Edp Edp.Spec.Serde

def restOf : Val → List Term
  | .newtype _ v => [ser v]
  | .tuple xs => serL xs
  | .struct _ fs => [.map (insertAll (serFields fs))]
  | _ => []

/-- What the round trip uses of a map `f` on terms standing between `to_term` and `from_term` (the identity in memory,
`decode ∘ encode` across the wire); `ins` is what it does to the entries of a map after carrying each of them. -/
structure Carrier where
  f : Term → Term
  ins : List (Term × Term) → List (Term × Term)
  atom : ∀ a, f (.atom a) = .atom a
  float : ∀ b, f (.float b) = .float b
  bin : ∀ b, f (.bin b) = .bin b
  int : ∀ k i, k.inRange i = true → deInt k (f (serInt k i)) = .ok (.int k i)
  char : ∀ s, deChar (f (.str s)) = deChar (.str s)
  undef : ∀ t, isUndef (f t) = isUndef t
  tuple : ∀ l, f (.tuple l) = .tuple (l.map f)
  seq : ∀ ty l, de (.seq ty) (f (.list l)) = de (.seq ty) (.list (l.map f))
  map : ∀ m, f (.map m) = .map (ins (m.map fun kv => (f kv.1, f kv.2)))
  ins_perm : ∀ l, l.Pairwise (fun a b => Term.cmp b.1 a.1 ≠ .eq) → (ins l).Perm l
  ins_asc : ∀ l, ascending id [] (l.map (·.1)) = true → ins l = l

def fieldTerms (fs : List (Bytes × Val)) : List (Bytes × Term) := fs.map fun f => (f.1, ser f.2)

theorem serFields_kvs : ∀ (fs : List (Bytes × Val)), serFields fs = kvs binKey (fieldTerms fs)
  | [] => rfl
  | (n, v) :: r => by simp [serFields, kvs, fieldTerms, binKey, serFields_kvs r]

theorem serAtomFields_kvs : ∀ (fs : List (Bytes × Val)), serAtomFields fs = kvs atomKey (fieldTerms fs)
  | [] => rfl
  | (n, v) :: r => by simp [serAtomFields, kvs, fieldTerms, atomKey, serAtomFields_kvs r]

theorem hasTyF_names : ∀ (fs : List (Bytes × Val)) (fts : List (Bytes × Ty)), hasTyF fs fts = true →
    fs.map (·.1) = fts.map (·.1)
  | [], [], _ => rfl
  | [], _ :: _, h => by contradiction
  | _ :: _, [], h => by contradiction
  | (n, v) :: fs, (n', t) :: fts, h => by
    simp only [hasTyF, Bool.and_eq_true, beq_iff_eq] at h
    simp [h.1.1, hasTyF_names fs fts h.2]

theorem fieldTerms_names (fs : List (Bytes × Val)) : (fieldTerms fs).map (·.1) = fs.map (·.1) := by
  simp [fieldTerms, Function.comp_def]

/-- A struct-like map with distinct keys of form `K`, written and carried: every key is still found exactly once, with
its value carried, whatever order the two rounds of `BTreeMap::insert` left the entries in. -/
theorem carried_fields (C : Carrier) (K : KeyForm) (hK : ∀ a, C.f (K.c a) = K.c a) (L : List (Bytes × Term))
    (hd : namesDistinct (L.map (·.1)) = true) (hg : ∀ x ∈ L, K.good x.1 = true) :
    ∃ m, C.f (.map (insertAll (kvs K L))) = .map m ∧ m.all (fun kv => isOkStr kv.1) = true ∧
      ∀ x ∈ L, m.filter (keyIs x.1) = [(K.c x.1, C.f x.2)] := by
  let L' := L.map fun x => (x.1, C.f x.2)
  have hn : L'.map (·.1) = L.map (·.1) := by simp [L', Function.comp_def]
  have hp := namesDistinct_pairwise _ hd
  have e : (kvs K L).map (fun kv => (C.f kv.1, C.f kv.2)) = kvs K L' := by simp [kvs, L', hK, Function.comp_def]
  have p1 : ((insertAll (kvs K L)).map fun kv => (C.f kv.1, C.f kv.2)).Perm (kvs K L') :=
    e ▸ (insertAll_perm _ ((kvs_pairwise K L hp).imp And.left)).map _
  have pw := p1.symm.pairwise (kvs_pairwise K L' (hn ▸ hp)) (fun {_ _} h => ⟨h.2, h.1⟩)
  have p2 := (C.ins_perm _ (pw.imp And.left)).trans p1
  obtain ⟨hf, hs⟩ := keyed_perm K L' _ p2 (hn ▸ hd) (fun x hx => by
    obtain ⟨y, hy, rfl⟩ := List.mem_map.mp hx; exact hg y hy)
  exact ⟨_, C.map _, hs, fun x hx => hf (x.1, C.f x.2) (List.mem_map_of_mem hx)⟩

/-- the fields of a serde struct (keys are binaries, names are Rust identifiers) -/
theorem carried_struct (C : Carrier) (fs : List (Bytes × Val)) (fts : List (Bytes × Ty)) (h : hasTyF fs fts = true)
    (hd : namesDistinct (fts.map (·.1)) = true) (hv : ∀ y ∈ fts, validUtf8 y.1 = true) :
    ∃ m, C.f (.map (insertAll (serFields fs))) = .map m ∧ m.all (fun kv => isOkStr kv.1) = true ∧
      ∀ f ∈ fs, m.filter (keyIs f.1) = [(.bin f.1, C.f (ser f.2))] := by
  have hn : (fieldTerms fs).map (·.1) = fts.map (·.1) := by rw [fieldTerms_names, hasTyF_names fs fts h]
  obtain ⟨m, e, hs, hf⟩ := carried_fields C binKey C.bin (fieldTerms fs) (hn ▸ hd) (fun x hx => by
    have : x.1 ∈ fts.map (·.1) := hn ▸ List.mem_map_of_mem hx
    obtain ⟨y, hy, e⟩ := List.mem_map.mp this
    exact e ▸ hv y hy)
  exact ⟨m, serFields_kvs fs ▸ e, hs, fun f hf' => hf (f.1, ser f.2) (List.mem_map_of_mem hf')⟩

/-- the fields of an `ElixirStruct` (keys are atoms) and its `__struct__` entry -/
theorem carried_exStruct (C : Carrier) (md : Bytes) (fs : List (Bytes × Val)) (fts : List (Bytes × Ty))
    (h : hasTyF fs fts = true) (hd : namesDistinct (fts.map (·.1)) = true) (hk : sStructKey ∉ fts.map (·.1)) :
    ∃ m, C.f (.map (insertAll ((.atom sStructKey, .atom (sElixirDot ++ md)) :: serAtomFields fs))) = .map m ∧
      m.all (fun kv => isOkStr kv.1) = true ∧
      m.filter (keyIs sStructKey) = [(.atom sStructKey, .atom (sElixirDot ++ md))] ∧
      ∀ f ∈ fs, m.filter (keyIs f.1) = [(.atom f.1, C.f (ser f.2))] := by
  obtain ⟨m, e, hs, hf⟩ := carried_fields C atomKey C.atom ((sStructKey, .atom (sElixirDot ++ md)) :: fieldTerms fs)
    (by
      simp only [List.map_cons, namesDistinct, fieldTerms_names, hasTyF_names fs fts h, Bool.and_eq_true,
        Bool.not_eq_true', List.contains_eq_mem, decide_eq_false_iff_not]
      exact ⟨hk, hd⟩)
    (fun _ _ => rfl)
  have e' : kvs atomKey ((sStructKey, Term.atom (sElixirDot ++ md)) :: fieldTerms fs) =
      (Term.atom sStructKey, Term.atom (sElixirDot ++ md)) :: serAtomFields fs := by
    rw [serAtomFields_kvs]; rfl
  have h0 := hf (sStructKey, Term.atom (sElixirDot ++ md)) (by simp)
  rw [C.atom] at h0
  exact ⟨m, e' ▸ e, hs, h0, fun f hf' => hf (f.1, ser f.2) (List.mem_cons_of_mem _ (List.mem_map_of_mem hf'))⟩

theorem serKV_eq_map : ∀ (l : List (Val × Val)), serKV l = l.map fun kv => (ser kv.1, ser kv.2)
  | [] => rfl
  | (k, v) :: r => by simp [serKV, serKV_eq_map r]

theorem keysOf_eq : ∀ (l : List (Val × Val)), keysOf l = (serKV l).map (·.1)
  | [] => rfl
  | (k, v) :: r => by simp [keysOf, serKV, keysOf_eq r]

theorem plainKV_all (f : Term → Term) : ∀ (l : List (Val × Val)),
    plainKV f l = l.all (fun kv => plainWith f kv.1 && plainWith f kv.2)
  | [] => rfl
  | (k, v) :: r => by simp [plainKV, plainKV_all f r]

theorem de_enum_serVariant (C : Carrier) (en vn : Bytes) (vs : List (Bytes × Ty)) (p : Val) :
    de (.enum en vs) (C.f (serVariant vn p)) = deVariant en vn vs ((restOf p).map C.f) := by
  cases p <;> simp [serVariant, de, deStr, restOf, C.atom, C.tuple]

mutual
theorem de_carried (C : Carrier) : ∀ (ty : Ty) (v : Val), hasTy v ty = true → Ty.wf ty = true → plainWith id v = true →
    plainWith C.f v = true → de ty (C.f (ser v)) = .ok v
  | .int k', v, h, _, _, _ => by
    cases v with
    | int k i =>
      simp only [hasTy, Bool.and_eq_true, decide_eq_true_eq] at h
      obtain ⟨rfl, h2⟩ := h
      simp only [ser, de]
      exact C.int k i h2
    -- a value of another constructor does not have the type: `h` reduces to `false = true`
    | _ => contradiction
  | .f32, v, h, _, hp, _ => by
    cases v with
    | f32 b =>
      simp only [plainWith, Bool.not_eq_true'] at hp
      simp only [ser, C.float, de, f32_roundtrip b (of_decide_eq_true h) hp]
    | _ => contradiction
  | .f64, v, h, _, _, _ => by
    cases v with
    | f64 _ => simp only [ser, C.float, de]
    | _ => contradiction
  | .bool, v, h, _, _, _ => by
    cases v with
    | bool b => cases b <;> simp [ser, C.atom, de, sTrue, sFalse]
    | _ => contradiction
  | .char, v, h, _, _, _ => by
    cases v with
    | char c =>
      simp only [ser, de]
      rw [C.char]
      simp only [deChar, utf8_one c h]
    | _ => contradiction
  | .string, v, h, _, _, _ => by
    cases v with
    | string s =>
      simp only [hasTy] at h
      simp [ser, C.bin, de, deStr, h]
    | _ => contradiction
  | .bytes, v, h, _, _, _ => by
    cases v with
    | bytes _ => simp only [ser, C.bin, de]
    | _ => contradiction
  | .unit, v, h, _, _, _ => by
    cases v with
    | unit => simp [ser, C.atom, de]
    | _ => contradiction
  | .option t, v, h, hw, hp, hq => by
    cases v with
    | none => simp [ser, C.atom, de, isUndef]
    | some x =>
      simp only [hasTy] at h
      simp only [Ty.wf, Bool.and_eq_true, Bool.not_eq_true'] at hw
      simp only [plainWith] at hp hq
      simp [ser, de, C.undef, not_undef t x h hw.1, de_carried C t x h hw.2 hp hq]
    | _ => contradiction
  | .tuple ts, v, h, hw, hp, hq => by
    cases v with
    | tuple vs =>
      simp only [hasTy] at h
      simp only [Ty.wf] at hw
      simp only [plainWith] at hp hq
      simp only [ser, C.tuple, de, deL_carried C ts vs h hw hp hq]
    | _ => contradiction
  | .seq t, v, h, hw, hp, hq => by
    cases v with
    | seq vs =>
      simp only [Ty.wf] at hw
      simp only [hasTy, List.all_eq_true] at h
      simp only [plainWith, plainL_all, List.all_eq_true] at hp hq
      rw [ser, C.seq, serL_eq_map, List.map_map]
      simp only [de]
      rw [mapME_ok (de t) (C.f ∘ ser) vs fun b hb => de_carried C t b (h b hb) hw (hp b hb) (hq b hb)]
    | _ => contradiction
  | .map kt vt, v, h, hw, hp, hq => by
    cases v with
    | map l =>
      simp only [Ty.wf, Bool.and_eq_true] at hw
      simp only [hasTy, List.all_eq_true, Bool.and_eq_true] at h
      simp only [plainWith, Bool.and_eq_true, plainKV_all, List.all_eq_true] at hp hq
      have a1 : insertAll (serKV l) = serKV l := insertAll_asc _ (by rw [← keysOf_eq]; exact hp.2)
      have a2 := C.ins_asc ((serKV l).map fun kv => (C.f kv.1, C.f kv.2)) (by
        have := hq.2
        rw [ascending_map, keysOf_eq] at this
        simpa [Function.comp_def] using this)
      simp only [ser, a1, C.map, a2, de]
      rw [serKV_eq_map, List.map_map,
        mapME_ok _ ((fun kv => (C.f kv.1, C.f kv.2)) ∘ fun kv : Val × Val => (ser kv.1, ser kv.2)) l]
      intro kv hkv
      simp only [Function.comp, de_carried C kt kv.1 (h kv hkv).1 hw.1 (hp.1 kv hkv).1 (hq.1 kv hkv).1,
        de_carried C vt kv.2 (h kv hkv).2 hw.2 (hp.1 kv hkv).2 (hq.1 kv hkv).2]
    | _ => contradiction
  | .struct n' fts, v, h, hw, hp, hq => by
    cases v with
    | struct n fs =>
      simp only [hasTy, Bool.and_eq_true, beq_iff_eq] at h
      simp only [Ty.wf, Bool.and_eq_true, List.all_eq_true] at hw
      simp only [plainWith] at hp hq
      obtain ⟨m, e, hs, hf⟩ := carried_struct C fs fts h.2 hw.1.1 hw.1.2
      simp only [ser, e, de, hs, Bool.not_true, Bool.false_eq_true, if_false,
        deFields_carried C fts fs m h.2 hw.2 hp hq hf, h.1]
    | _ => contradiction
  | .unitStruct n', v, h, _, _, _ => by
    cases v with
    | unitStruct n =>
      simp only [hasTy, beq_iff_eq] at h
      simp [ser, C.atom, de, h]
    | _ => contradiction
  | .newtype n' t, v, h, hw, hp, hq => by
    cases v with
    | newtype n x =>
      simp only [hasTy, Bool.and_eq_true, beq_iff_eq] at h
      simp only [Ty.wf] at hw
      simp only [plainWith] at hp hq
      simp only [ser, de, de_carried C t x h.2 hw hp hq, h.1]
    | _ => contradiction
  | .tupleStruct n' ts, v, h, hw, hp, hq => by
    cases v with
    | tupleStruct n vs =>
      simp only [hasTy, Bool.and_eq_true, beq_iff_eq] at h
      simp only [Ty.wf] at hw
      simp only [plainWith] at hp hq
      simp only [ser, C.tuple, de, deL_carried C ts vs h.2 hw hp hq, h.1]
    | _ => contradiction
  | .exStruct md' fts, v, h, hw, hp, hq => by
    cases v with
    | exStruct md fs =>
      simp only [hasTy, Bool.and_eq_true, beq_iff_eq] at h
      obtain ⟨rfl, h2⟩ := h
      simp only [Ty.wf, Bool.and_eq_true, Bool.not_eq_true', List.contains_eq_mem, decide_eq_false_iff_not] at hw
      simp only [plainWith] at hp hq
      obtain ⟨m, e, hs, h0, hf⟩ := carried_exStruct C md fs fts h2 hw.1.1 hw.1.2
      simp only [ser, e, de, hs, h0, Bool.not_true, Bool.false_eq_true, if_false]
      simp only [List.all_cons, List.all_nil, deStr, beq_self_eq_true, Bool.and_true, Bool.not_true,
        Bool.false_eq_true, if_false]
      rw [deExFields_carried C fts fs m h2 hw.2 hp hq (fun n hn e => hw.1.2 (e ▸ hn)) hf]
    | _ => contradiction
  | .enum en' vs, v, h, hw, hp, hq => by
    cases v with
    | variant en vn p =>
      simp only [hasTy, Bool.and_eq_true, beq_iff_eq] at h
      obtain ⟨rfl, h2⟩ := h
      simp only [Ty.wf, Bool.and_eq_true] at hw
      simp only [plainWith] at hp hq
      rw [ser, de_enum_serVariant, deVariant_carried C vs en vn p h2 hw.2 hp hq]
    | _ => contradiction
theorem deL_carried (C : Carrier) : ∀ (ts : List Ty) (vs : List Val), hasTyL vs ts = true → wfL ts = true →
    plainL id vs = true → plainL C.f vs = true → deL ts ((serL vs).map C.f) = .ok vs
  | [], [], _, _, _, _ => rfl
  | [], _ :: _, h, _, _, _ => by contradiction
  | _ :: _, [], h, _, _, _ => by contradiction
  | t :: ts, v :: vs, h, hw, hp, hq => by
    simp only [hasTyL, Bool.and_eq_true] at h
    simp only [wfL, Bool.and_eq_true] at hw
    simp only [plainL, Bool.and_eq_true] at hp hq
    simp only [serL, List.map_cons, deL, de_carried C t v h.1 hw.1 hp.1 hq.1, deL_carried C ts vs h.2 hw.2 hp.2 hq.2]
theorem deFields_carried (C : Carrier) : ∀ (fts : List (Bytes × Ty)) (fs : List (Bytes × Val)) (m : List (Term × Term)),
    hasTyF fs fts = true → wfF fts = true → plainF id fs = true → plainF C.f fs = true →
    (∀ f ∈ fs, m.filter (keyIs f.1) = [(Term.bin f.1, C.f (ser f.2))]) → deFields fts m = .ok fs
  | [], [], _, _, _, _, _, _ => by simp [deFields]
  | [], _ :: _, _, h, _, _, _, _ => by contradiction
  | _ :: _, [], _, h, _, _, _, _ => by contradiction
  | (n, t) :: fts, (n', v) :: fs, m, h, hw, hp, hq, hm => by
    simp only [hasTyF, Bool.and_eq_true, beq_iff_eq] at h
    obtain ⟨⟨rfl, h1⟩, h2⟩ := h
    simp only [wfF, Bool.and_eq_true] at hw
    simp only [plainF, Bool.and_eq_true] at hp hq
    simp only [deFields, hm (n', v) (by simp), de_carried C t v h1 hw.1 hp.1 hq.1,
      deFields_carried C fts fs m h2 hw.2 hp.2 hq.2 (fun f hf => hm f (by simp [hf]))]
theorem deExFields_carried (C : Carrier) : ∀ (fts : List (Bytes × Ty)) (fs : List (Bytes × Val)) (m : List (Term × Term)),
    hasTyF fs fts = true → wfF fts = true → plainF id fs = true → plainF C.f fs = true →
    (∀ n ∈ fts.map (·.1), n ≠ sStructKey) →
    (∀ f ∈ fs, m.filter (keyIs f.1) = [(Term.atom f.1, C.f (ser f.2))]) → deExFields fts m = .ok fs
  | [], [], _, _, _, _, _, _, _ => by simp [deExFields]
  | [], _ :: _, _, h, _, _, _, _, _ => by contradiction
  | _ :: _, [], _, h, _, _, _, _, _ => by contradiction
  | (n, t) :: fts, (n', v) :: fs, m, h, hw, hp, hq, hk, hm => by
    simp only [hasTyF, Bool.and_eq_true, beq_iff_eq] at h
    obtain ⟨⟨rfl, h1⟩, h2⟩ := h
    simp only [wfF, Bool.and_eq_true] at hw
    simp only [plainF, Bool.and_eq_true] at hp hq
    have hne : n' ≠ sStructKey := hk n' (by simp)
    simp only [deExFields, hne, if_false, hm (n', v) (by simp), mapME, de_carried C t v h1 hw.1 hp.1 hq.1,
      List.getLast?_singleton,
      deExFields_carried C fts fs m h2 hw.2 hp.2 hq.2 (fun x hx => hk x (by simp at hx ⊢; exact Or.inr hx))
        (fun f hf => hm f (by simp [hf]))]
theorem deVariant_carried (C : Carrier) : ∀ (vs : List (Bytes × Ty)) (en vn : Bytes) (p : Val),
    hasTyV vn p vs = true → wfV vs = true → plainWith id p = true → plainWith C.f p = true →
    deVariant en vn vs ((restOf p).map C.f) = .ok (.variant en vn p)
  | [], _, _, _, h, _, _, _ => by contradiction
  | (n, sh) :: vs, en, vn, p, h, hw, hp, hq => by
    simp only [wfV, Bool.and_eq_true] at hw
    by_cases hn : n = vn
    · subst hn
      simp only [hasTyV, if_true] at h
      simp only [deVariant, if_true]
      replace hw := hw.1
      cases sh with
      | unit =>
        cases p with
        | unit => simp [deShape, restOf]
        | _ => contradiction
      | newtype _ t =>
        cases p with
        | newtype nm x =>
          simp only [hasTyP, Bool.and_eq_true, List.isEmpty_iff] at h
          obtain ⟨rfl, h⟩ := h
          simp only [plainWith] at hp hq
          simp only [wfShape] at hw
          simp [deShape, restOf, de_carried C t x h hw hp hq]
        | _ => contradiction
      | tuple ts =>
        cases p with
        | tuple xs =>
          simp only [hasTyP] at h
          simp only [plainWith] at hp hq
          simp only [wfShape] at hw
          simp only [deShape, restOf, deL_carried C ts xs h hw hp hq]
        | _ => contradiction
      | struct _ fts =>
        cases p with
        | struct nm fs =>
          simp only [hasTyP, Bool.and_eq_true, List.isEmpty_iff] at h
          obtain ⟨rfl, h⟩ := h
          simp only [plainWith] at hp hq
          simp only [wfShape, Bool.and_eq_true, List.all_eq_true] at hw
          obtain ⟨m, e, hs, hf⟩ := carried_struct C fs fts h hw.1.1 hw.1.2
          simp [deShape, restOf, e, hs, deFields_carried C fts fs m h hw.2 hp hq hf]
        | _ => contradiction
      | _ => contradiction
    · simp only [hasTyV, hn, if_false] at h
      simp only [deVariant, hn, if_false]
      exact deVariant_carried C vs en vn p h hw.2 hp hq
end

def memC : Carrier where
  f := id
  ins := id
  atom _ := rfl
  float _ := rfl
  bin _ := rfl
  int := deInt_serInt
  char _ := rfl
  undef _ := rfl
  tuple l := by simp
  seq _ l := by simp
  map m := by simp
  ins_perm l _ := .refl l
  ins_asc _ _ := rfl

theorem de_ser : ∀ (ty : Ty) (v : Val), hasTy v ty = true → Ty.wf ty = true → plainWith id v = true →
    de ty (ser v) = .ok v :=
  fun ty v h hw hp => de_carried memC ty v h hw hp hp

theorem deL_ser : ∀ (ts : List Ty) (vs : List Val), hasTyL vs ts = true → wfL ts = true → plainL id vs = true →
    deL ts (serL vs) = .ok vs :=
  fun ts vs h hw hp => List.map_id (serL vs) ▸ deL_carried memC ts vs h hw hp hp

theorem deExFields_ser : ∀ (fts : List (Bytes × Ty)) (fs : List (Bytes × Val)) (m : List (Term × Term)),
    hasTyF fs fts = true → wfF fts = true → plainF id fs = true → (∀ n ∈ fts.map (·.1), n ≠ sStructKey) →
    (∀ f ∈ fs, m.filter (keyIs f.1) = [(Term.atom f.1, ser f.2)]) → deExFields fts m = .ok fs :=
  fun fts fs m h hw hp => deExFields_carried memC fts fs m h hw hp hp

theorem deVariant_ser : ∀ (vs : List (Bytes × Ty)) (en vn : Bytes) (p : Val),
    hasTyV vn p vs = true → wfV vs = true → plainWith id p = true →
    deVariant en vn vs (restOf p) = .ok (.variant en vn p) :=
  fun vs en vn p h hw hp => List.map_id (restOf p) ▸ deVariant_carried memC vs en vn p h hw hp hp

end Edp.Serde
