import EdpVerif.Lemmas.DecArms
/-! Every parser of the term decoder's family — every tag, every input, both configurations, any behaviour of the external
calls — ends in one of three ways (`Parsed`, Lemmas/DecArms.lean): with a suffix of its input left over, with the plain
refusal, or at the panic site behind an inflater that over-reports.  The same walk over the arms shows of the term returned
any property that is closed under the ways the decoder builds terms (`DecClosed`: the nesting bound of C02, the `BTreeMap`
invariant of C10/C12).  What C02, C06, C10 and C13 need of the decoder's rests and errors are corollaries: the rest is a
suffix (C10: the bytes a LOCAL_EXT identifier keeps are exactly the bytes its encoding occupied in the input) and so not
longer than the input; no trailing-data error below the top level; no panic when the inflater keeps the contract of
flate2's `total_in`. -/
namespace Edp

/-- One reader of an arm, `h` being what is known of its outcome on the current rest.  Its error ends the arm with that
error; otherwise `hs` (the current rest is a suffix of the arm's input) moves on to the reader's rest. -/
syntax "pstep " term : tactic
set_option hygiene false in
macro_rules
  | `(tactic| pstep $h) => `(tactic| (split; exact Parsed.error $h ‹_›; have hs := (Parsed.rest $h ‹_›).trans hs))

/-- The same for a sub-term of which the arm wants one kind (an atom, an integer, a pid) and refuses the others. -/
syntax "pterm " term : tactic
set_option hygiene false in
macro_rules
  | `(tactic| pterm $h) => `(tactic| (
    split; rotate_left; exact Parsed.refuse; exact Parsed.error $h ‹_›; have hs := (Parsed.rest $h ‹_›).trans hs))

/-- What a property of decoded terms has to be closed under for every term the decoder returns to have it: `P d t` of a
term parsed at depth `d`, `PL` and `PKV` of the element and entry lists collected at that depth. -/
structure DecClosed (P : Nat → Term → Prop) (PL : Nat → List Term → Prop) (PKV : Nat → List (Term × Term) → Prop) :
    Prop where
  leaf : ∀ {d t}, d ≤ MAX_NESTING_DEPTH → Term.isLeaf t = true → P d t
  /-- STRING_EXT: the elements are made from the bytes, not parsed -/
  str : ∀ {d} (s : Bytes), d ≤ MAX_NESTING_DEPTH → P d (.list (s.map fun b => .int b.toNat))
  tuple : ∀ {d l}, d ≤ MAX_NESTING_DEPTH → PL (d + 1) l → P d (.tuple l)
  list : ∀ {d l}, d ≤ MAX_NESTING_DEPTH → PL (d + 1) l → P d (.list l)
  ilist : ∀ {d l t}, d ≤ MAX_NESTING_DEPTH → PL (d + 1) l → P (d + 1) t → P d (.ilist l t)
  map : ∀ {d m}, d ≤ MAX_NESTING_DEPTH → PKV (d + 1) m → P d (.map m)
  ifun : ∀ {d a u i nf m oi ou p fr}, d ≤ MAX_NESTING_DEPTH → PL (d + 1) fr → P d (.ifun a u i nf m oi ou p fr)
  /-- a compressed section and LOCAL_EXT return the term parsed one level down -/
  up : ∀ {d t}, d ≤ MAX_NESTING_DEPTH → P (d + 1) t → P d t
  loc : ∀ {d t} (l : Bytes), P d t → P d (withLoc l t)
  nil : ∀ {d}, PL d []
  cons : ∀ {d t l}, P d t → PL d l → PL d (t :: l)
  kvnil : ∀ {d}, PKV d []
  insert : ∀ {d m k v}, PKV d m → P d k → P d v → PKV d (mapInsert m k v)

theorem DecClosed.trivial : DecClosed (fun _ _ => True) (fun _ _ => True) (fun _ _ => True) := by
  constructor <;> intros <;> trivial

theorem dec_parsed (x : Ext) (cfg : DecCfg) {P : Nat → Term → Prop} {PL : Nat → List Term → Prop}
    {PKV : Nat → List (Term × Term) → Prop} (c : DecClosed P PL PKV) : ∀ (fuel : Nat),
    (∀ d bs, Parsed x (P d) bs (dec x cfg fuel d bs)) ∧
    (∀ d n bs, Parsed x (PL d) bs (decN x cfg fuel d n bs)) ∧
    (∀ d n bs m, PKV d m → Parsed x (PKV d) bs (decKV x cfg fuel d n bs m)) := by
  intro fuel
  induction fuel with
  | zero =>
    refine ⟨fun d bs => ?_, fun d n bs => ?_, fun d n bs m hm => ?_⟩
    · rw [dec]; exact .refuse
    · cases n <;> rw [decN]
      · exact ⟨List.suffix_refl _, c.nil⟩
      · exact .refuse
    · cases n <;> rw [decKV]
      · exact ⟨List.suffix_refl _, hm⟩
      · exact .refuse
  | succ f ih =>
    obtain ⟨ih1, ihN, ihKV⟩ := ih
    refine ⟨fun d bs => ?_, fun d n bs => ?_, fun d n bs m hm => ?_⟩
    · cases bs with
      | nil => simp only [dec]; exact .refuse
      | cons tag bs =>
        have hs := List.suffix_refl bs
        apply decTags_cases (motive := fun tag => Parsed x (P d) (tag :: bs) (dec x cfg (f + 1) d (tag :: bs))) tag
        case other => intro h; rw [dec_other x cfg f d bs h]; exact .refuse
        case h97 =>
          rw [dec_97]; refine .arm fun hd => ?_
          split
          · exact ⟨rdU_suffix ‹_›, c.leaf hd rfl⟩
          · exact .of_err (rdU_err ‹_›)
        case h98 =>
          rw [dec_98]; refine .arm fun hd => ?_
          split
          · exact ⟨rdU_suffix ‹_›, c.leaf hd rfl⟩
          · exact .of_err (rdU_err ‹_›)
        case h99 =>
          rw [dec_99]; refine .arm fun hd => ?_
          pstep takeE_parsed x _ _
          split; exact .refuse
          split
          · exact ⟨hs, c.leaf hd rfl⟩
          · exact .refuse
        case h70 =>
          rw [dec_70]; refine .arm fun hd => ?_
          split
          · exact ⟨rdU_suffix ‹_›, c.leaf hd rfl⟩
          · exact .of_err (rdU_err ‹_›)
        case h100 => rw [dec_100]; exact .arm fun hd => (decLatin1Body_parsed x _ _).mono hs fun _ => c.leaf hd
        case h118 => rw [dec_118]; exact .arm fun hd => (decAtomBody_parsed x _ _).mono hs fun _ => c.leaf hd
        case h119 => rw [dec_119]; exact .arm fun hd => (decAtomBody_parsed x _ _).mono hs fun _ => c.leaf hd
        case h115 => rw [dec_115]; exact .arm fun hd => (decLatin1Body_parsed x _ _).mono hs fun _ => c.leaf hd
        case h104 =>
          rw [dec_104]; refine .arm fun hd => ?_
          pstep rdU_parsed x _ _
          split
          · exact ⟨((ihN _ _ _).rest ‹_›).trans hs, c.tuple hd ((ihN _ _ _).val ‹_›)⟩
          · exact (ihN _ _ _).error ‹_›
        case h105 =>
          rw [dec_105]; refine .arm fun hd => ?_
          pstep rdU_parsed x _ _
          split; exact .refuse
          split
          · exact ⟨((ihN _ _ _).rest ‹_›).trans hs, c.tuple hd ((ihN _ _ _).val ‹_›)⟩
          · exact (ihN _ _ _).error ‹_›
        case h106 => rw [dec_106]; exact .arm fun hd => ⟨hs, c.leaf hd rfl⟩
        case h107 =>
          rw [dec_107]; refine .arm fun hd => ?_
          pstep rdU_parsed x _ _
          pstep takeE_parsed x _ _
          exact ⟨hs, c.str _ hd⟩
        case h108 =>
          rw [dec_108]; refine .arm fun hd => ?_
          pstep rdU_parsed x _ _
          split; exact .refuse
          pstep ihN _ _ _
          have hl := (ihN _ _ _).val ‹_›
          split
          · exact (ih1 _ _).error ‹_›
          · exact ⟨((ih1 _ _).rest ‹_›).trans hs, c.list hd hl⟩
          · exact ⟨((ih1 _ _).rest ‹_›).trans hs, c.ilist hd hl ((ih1 _ _).val ‹_›)⟩
        case h109 =>
          rw [dec_109]; refine .arm fun hd => ?_
          pstep rdU_parsed x _ _
          split; exact .refuse
          pstep takeE_parsed x _ _
          exact ⟨hs, c.leaf hd rfl⟩
        case h77 =>
          rw [dec_77]; refine .arm fun hd => ?_
          pstep rdU_parsed x _ _
          split; exact .refuse
          pstep rdU_parsed x _ _
          split; exact .refuse
          split; exact .refuse
          pstep takeE_parsed x _ _
          exact ⟨hs, c.leaf hd rfl⟩
        case h110 => rw [dec_110]; exact .arm fun hd => (decBig_parsed x _ _).mono hs fun _ => c.leaf hd
        case h111 => rw [dec_111]; exact .arm fun hd => (decBig_parsed x _ _).mono hs fun _ => c.leaf hd
        case h116 =>
          rw [dec_116]; refine .arm fun hd => ?_
          pstep rdU_parsed x _ _
          split; exact .refuse
          split
          · exact ⟨((ihKV _ _ _ _ c.kvnil).rest ‹_›).trans hs, c.map hd ((ihKV _ _ _ _ c.kvnil).val ‹_›)⟩
          · exact (ihKV _ _ _ _ c.kvnil).error ‹_›
        case h88 =>
          rw [dec_88]; refine .arm fun hd => ?_
          pterm ih1 _ _
          pstep rdU_parsed x _ _
          pstep rdU_parsed x _ _
          pstep rdU_parsed x _ _
          exact ⟨hs, c.leaf hd rfl⟩
        case h103 =>
          rw [dec_103]; refine .arm fun hd => ?_
          pterm ih1 _ _
          pstep rdU_parsed x _ _
          pstep rdU_parsed x _ _
          pstep rdU_parsed x _ _
          exact ⟨hs, c.leaf hd rfl⟩
        case h120 =>
          rw [dec_120]; refine .arm fun hd => ?_
          pterm ih1 _ _
          pstep rdU_parsed x _ _
          pstep rdU_parsed x _ _
          exact ⟨hs, c.leaf hd rfl⟩
        case h89 =>
          rw [dec_89]; refine .arm fun hd => ?_
          pterm ih1 _ _
          pstep rdU_parsed x _ _
          pstep rdU_parsed x _ _
          exact ⟨hs, c.leaf hd rfl⟩
        case h102 =>
          rw [dec_102]; refine .arm fun hd => ?_
          pterm ih1 _ _
          pstep rdU_parsed x _ _
          pstep rdU_parsed x _ _
          exact ⟨hs, c.leaf hd rfl⟩
        case h90 =>
          rw [dec_90]; refine .arm fun hd => ?_
          pstep rdU_parsed x _ _
          pterm ih1 _ _
          pstep rdU_parsed x _ _
          pstep rdWords_parsed x _ _
          exact ⟨hs, c.leaf hd rfl⟩
        case h114 =>
          rw [dec_114]; refine .arm fun hd => ?_
          pstep rdU_parsed x _ _
          pterm ih1 _ _
          pstep rdU_parsed x _ _
          pstep rdWords_parsed x _ _
          exact ⟨hs, c.leaf hd rfl⟩
        case h101 =>
          rw [dec_101]; refine .arm fun hd => ?_
          pterm ih1 _ _
          pstep rdU_parsed x _ _
          pstep rdU_parsed x _ _
          exact ⟨hs, c.leaf hd rfl⟩
        case h113 =>
          rw [dec_113]; refine .arm fun hd => ?_
          pterm ih1 _ _
          pterm ih1 _ _
          pterm ih1 _ _
          split
          · exact ⟨hs, c.leaf hd rfl⟩
          · exact .refuse
        case h112 =>
          rw [dec_112]; refine .arm fun hd => ?_
          pstep rdU_parsed x _ _
          pstep rdU_parsed x _ _
          pstep takeE_parsed x _ _
          pstep rdU_parsed x _ _
          pstep rdU_parsed x _ _
          pterm ih1 _ _
          pterm ih1 _ _
          split; exact .refuse
          pterm ih1 _ _
          split; exact .refuse
          pterm ih1 _ _
          split
          · exact ⟨((ihN _ _ _).rest ‹_›).trans hs, c.ifun hd ((ihN _ _ _).val ‹_›)⟩
          · exact (ihN _ _ _).error ‹_›
        case h121 =>
          rw [dec_121]; refine .arm fun hd => ?_
          pstep rdU_parsed x _ _
          pstep ih1 _ _
          exact ⟨hs, c.loc _ (c.up hd ((ih1 _ _).val ‹_›))⟩
        case h80 =>
          rw [dec_80]; refine .arm fun hd => ?_
          pstep rdU_parsed x _ _
          split; exact .refuse
          split; exact .refuse
          split; exact .refuse
          split
          · split
            · exact .inr ⟨rfl, _, _, _, ‹x.inflate _ = _›, ‹_ > _›⟩
            · exact ⟨(List.drop_suffix _ _).trans hs, c.up hd ((ih1 _ _).val ‹_›)⟩
          · exact .refuse
        case h82 =>
          rw [dec_82]; refine .arm fun hd => ?_
          pstep rdU_parsed x _ _
          split
          · exact ⟨hs, c.leaf hd rfl⟩
          · exact .refuse
    · cases n with
      | zero => rw [decN]; exact ⟨List.suffix_refl _, c.nil⟩
      | succ n =>
        have hs := List.suffix_refl bs
        rw [decN]
        pstep ih1 _ _
        pstep ihN _ _ _
        exact ⟨hs, c.cons ((ih1 _ _).val ‹_›) ((ihN _ _ _).val ‹_›)⟩
    · cases n with
      | zero => rw [decKV]; exact ⟨List.suffix_refl _, hm⟩
      | succ n =>
        rw [decKV]
        split; exact (ih1 _ _).error ‹_›
        next k r hk =>
        split; exact (ih1 _ _).error ‹_›
        next v r' hv =>
        exact (ihKV _ _ _ _ (c.insert hm ((ih1 _ _).val hk) ((ih1 _ _).val hv))).mono
          (((ih1 _ _).rest hv).trans ((ih1 _ _).rest hk)) fun _ => id

theorem dec_suffix (x : Ext) (cfg : DecCfg) (fuel : Nat) :
    (∀ d bs t r, dec x cfg fuel d bs = .ok (t, r) → r <:+ bs) ∧
    (∀ d n bs l r, decN x cfg fuel d n bs = .ok (l, r) → r <:+ bs) ∧
    (∀ d n bs m m' r, decKV x cfg fuel d n bs m = .ok (m', r) → r <:+ bs) :=
  have h := dec_parsed x cfg .trivial fuel
  ⟨fun d bs _ _ he => (h.1 d bs).rest he, fun d n bs _ _ he => (h.2.1 d n bs).rest he,
    fun d n bs m _ _ he => (h.2.2 d n bs m trivial).rest he⟩

theorem dec_rest_le (x : Ext) (cfg : DecCfg) (fuel d : Nat) (bs : Bytes) (t : Term) (r : Bytes)
    (h : dec x cfg fuel d bs = .ok (t, r)) : r.length ≤ bs.length := ((dec_suffix x cfg fuel).1 d bs t r h).length_le

theorem decN_rest_le (x : Ext) (cfg : DecCfg) (fuel d n : Nat) (bs : Bytes) (l : List Term) (r : Bytes)
    (h : decN x cfg fuel d n bs = .ok (l, r)) : r.length ≤ bs.length := ((dec_suffix x cfg fuel).2.1 d n bs l r h).length_le

end Edp
