import EdpVerif.Lemmas.DecSorted
import EdpVerif.Lemmas.SortMap
/-! The `BTreeMap` invariant the decoder establishes (Lemmas/DecSorted.lean) implies the `mapsSorted` guard of C12's
agreement theorem (consecutive keys ascending). -/
namespace Edp
open Term

theorem adjSorted_of_pairwiseLt (m : List (Term × Term)) (h : pairwiseLt m = true) : adjSorted m = true :=
  adjSorted_of_keysSorted m ((pairwiseLt_iff m).mp h)

mutual
theorem mapsSorted_of_mapsStrict : ∀ (t : Term), mapsStrict t = true → mapsSorted t = true
  | .atom _, _ | .int _, _ | .float _, _ | .pid _, _ | .port _ _ _ _, _ | .ref _ _ _ _, _ | .bin _, _
  | .bits _ _, _ | .str _, _ | .xfun _ _ _, _ | .nil, _ | .big _ _, _ => rfl
  | .tuple l, h | .list l, h | .ifun _ _ _ _ _ _ _ _ l, h => mapsSortedL_of_mapsStrictL l h
  | .ilist l t, h => by
    simp only [mapsStrict, Bool.and_eq_true] at h
    simp only [mapsSorted, Bool.and_eq_true]
    exact ⟨mapsSortedL_of_mapsStrictL l h.1, mapsSorted_of_mapsStrict t h.2⟩
  | .map kvs, h => by
    simp only [mapsStrict, Bool.and_eq_true] at h
    simp only [mapsSorted, Bool.and_eq_true]
    exact ⟨adjSorted_of_pairwiseLt kvs h.1, mapsSortedKV_of_mapsStrictKV kvs h.2⟩
theorem mapsSortedL_of_mapsStrictL : ∀ (l : List Term), mapsStrictL l = true → mapsSortedL l = true
  | [], _ => rfl
  | t :: ts, h => by
    simp only [mapsStrictL, Bool.and_eq_true] at h
    simp only [mapsSortedL, Bool.and_eq_true]
    exact ⟨mapsSorted_of_mapsStrict t h.1, mapsSortedL_of_mapsStrictL ts h.2⟩
theorem mapsSortedKV_of_mapsStrictKV : ∀ (l : List (Term × Term)), mapsStrictKV l = true → mapsSortedKV l = true
  | [], _ => rfl
  | (k, v) :: r, h => by
    simp only [mapsStrictKV, Bool.and_eq_true] at h
    simp only [mapsSortedKV, Bool.and_eq_true]
    exact ⟨⟨mapsSorted_of_mapsStrict k h.1.1, mapsSorted_of_mapsStrict v h.1.2⟩, mapsSortedKV_of_mapsStrictKV r h.2⟩
end

end Edp
