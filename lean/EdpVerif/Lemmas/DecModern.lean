import EdpVerif.Lemmas.DecMono
import EdpVerif.Spec.ModernShape
/-!
Behind `C13_modern_accepts` (Props/C13.lean): on every input laid out with the tags current OTP releases emit over distribution only
(`Spec.modernOnly`, an independent recogniser of the layout), the zero-copy decoder accepts whenever the owned decoder
accepts — with the same term.  The induction also shows that the recogniser and the decoders consumed the same bytes,
which is what lets the guard, stated on the whole input, reach the sub-terms.
-/
namespace Edp
open Spec Spec.Modern

/-- the zero-copy and the owned configuration over one atom cache `c` (`cBorrowed`, Impl/DecodeCtx.lean, is `cB []`) -/
abbrev cB (c : List (Nat × Bytes)) : DecCfg := { borrowed := true, cache := c }
abbrev cO (c : List (Nat × Bytes)) : DecCfg := { borrowed := false, cache := c }

/-- what the owned decoder's result `o`, the layout recogniser's `s` and the zero-copy decoder's `b` on one input have
to do with each other -/
def Acc {α : Type} (o : Except DErr (α × Bytes)) (s : Option Bytes) (b : Except DErr (α × Bytes)) : Prop :=
  ∀ t r r', o = .ok (t, r) → s = some r' → r' = r ∧ b = .ok (t, r)

/-- the induction hypothesis at one fuel level, for a term, `n` terms, `n` key-value pairs; the recogniser's fuel `f'` is free -/
def AccT (x : Ext) (c : List (Nat × Bytes)) (fuel : Nat) : Prop :=
  ∀ d bs f', Acc (dec x (cO c) fuel d bs) (shape f' bs) (dec x (cB c) fuel d bs)
def AccN (x : Ext) (c : List (Nat × Bytes)) (fuel : Nat) : Prop :=
  ∀ d n bs f', Acc (decN x (cO c) fuel d n bs) (shapeN f' n bs) (decN x (cB c) fuel d n bs)
def AccKV (x : Ext) (c : List (Nat × Bytes)) (fuel : Nat) : Prop :=
  ∀ d n bs m f', Acc (decKV x (cO c) fuel d n bs m) (shapeKV f' n bs) (decKV x (cB c) fuel d n bs m)

namespace Acc
variable {α : Type} {o b : Except DErr (α × Bytes)} {s : Option Bytes}

theorem error {e : DErr} : Acc (.error e) s b := nofun
theorem none : Acc o none b := nofun
theorem ok {t : α} {r : Bytes} : Acc (.ok (t, r)) (some r) (.ok (t, r)) := fun _ _ _ h1 h2 => by cases h1; cases h2; exact ⟨rfl, rfl⟩

/-- a modern tag is none of those the zero-copy decoder refuses -/
theorem arm {c : List (Nat × Bytes)} {d n : Nat} {o b : DRes} (hn : ownedOnlyTags.contains n = false)
    (h : Acc o s b) : Acc (guardTag (cO c) d n o) s (guardTag (cB c) d n b) := by
  intro t r r' h1 h2
  obtain ⟨hd, -, h1⟩ := guardTag_ok h1
  obtain ⟨hr, hb⟩ := h t r r' h1 h2
  refine ⟨hr, ?_⟩
  unfold guardTag
  rw [if_neg (by omega), hn, hb]; rfl

end Acc

theorem Acc.words : ∀ (n : Nat) (bs : Bytes), Acc (rdWords n bs) (skipWords n bs) (rdWords n bs)
  | 0, bs => .ok
  | n+1, bs => by
    rw [rdWords, skipWords]
    split; exact .error
    rw [rdU_ok ‹_›]; dsimp only
    intro t r r' h1 h2
    split at h1; cases h1
    cases h1
    exact ⟨(Acc.words n _ _ _ _ ‹_› h2).1, rfl⟩

/-! The steps by which `dec_accepts_modern` walks down the arm of a tag in the two decoders and in the recogniser side by side: -/

/-- the recogniser's arm for the tag at hand -/
macro "m_shape" : tactic => `(tactic| (rw [shape.eq_3]; simp only [UInt8.reduceToNat]))
/-- a number all three read: a refusal settles it, otherwise the recogniser's reader is the decoders' -/
macro "m_rd" : tactic => `(tactic| (split; exact Acc.error; rw [rdU_ok ‹_›]; dsimp only))
/-- a counted piece all three take -/
macro "m_take" : tactic => `(tactic| (split; exact Acc.error; rw [takeE_takeN ‹_›]; dsimp only))
/-- a limit the decoders check -/
macro "m_if" : tactic => `(tactic| (split; exact Acc.error))

/-- A sub-term, the recogniser's run over it being `s`: if the owned decoder returns the kind it wants, the induction
hypothesis `ih` has the recogniser stop at the same rest and the zero-copy decoder return the same. -/
syntax "m_sub " term:max term:max : tactic
set_option hygiene false in
macro_rules
  | `(tactic| m_sub $ih $s) => `(tactic| (
    split; rotate_left; exact Acc.error; exact Acc.error
    rcases hs : $s with _ | r'
    · exact Acc.none
    obtain ⟨rfl, hb⟩ := $ih _ _ _ ‹_› hs
    rw [hb]; dsimp only))

theorem acc_atomBody (k : Nat) (bs : Bytes) : Acc (decAtomBody k bs)
    (match rdN k bs with
      | some (n, r) => match takeN n r with
        | some (_, r') => some r'
        | none => none
      | none => none) (decAtomBody k bs) := by
  unfold decAtomBody
  m_rd
  m_if
  m_take
  split
  · exact .ok
  · exact .error

theorem acc_big (k : Nat) (bs : Bytes) : Acc (decBig k bs)
    (match rdN k bs with
      | some (n, r) => match rdN 1 r with
        | some (_, r1) => match takeN n r1 with
          | some (_, r2) => some r2
          | none => none
        | none => none
      | none => none) (decBig k bs) := by
  unfold decBig
  m_rd
  m_rd
  m_take
  exact .ok

/-- whenever the owned decoder accepts an input that is laid out with modern tags only, the zero-copy decoder accepts
it with the same term and the same rest, and the layout recogniser consumed exactly the bytes the decoders consumed —
for every fuel, depth, atom cache and behaviour of the external calls -/
theorem dec_accepts_modern (x : Ext) (c : List (Nat × Bytes)) :
    ∀ fuel, AccT x c fuel ∧ AccN x c fuel ∧ AccKV x c fuel := by
  intro fuel
  induction fuel with
  | zero =>
    refine ⟨fun d bs f' => ?_, fun d n bs f' => ?_, fun d n bs m f' => ?_⟩
    · rw [dec]; exact .error
    · cases n <;> rw [decN]
      · rw [decN, shapeN]; exact .ok
      · exact .error
    · cases n <;> rw [decKV]
      · rw [decKV, shapeKV]; exact .ok
      · exact .error
  | succ f ihh =>
    obtain ⟨ih, ihN, ihKV⟩ := ihh
    refine ⟨fun d bs f' => ?_, fun d n bs f' => ?_, fun d n bs m f' => ?_⟩
    · cases bs with
      | nil => simp only [dec]; exact .error
      | cons tag bs =>
        cases f' with
        | zero => rw [shape]; exact .none
        | succ f' =>
          apply decTags_cases (motive := fun tag => Acc (dec x (cO c) (f + 1) d (tag :: bs)) (shape (f' + 1) (tag :: bs))
            (dec x (cB c) (f + 1) d (tag :: bs))) tag
          case other => intro h; rw [dec_other x (cO c) f d bs h]; exact .error
          case h97 =>
            m_shape; rw [dec_97, dec_97]; refine .arm rfl ?_
            split
            · rw [rdU_ok ‹_›]; exact .ok
            · exact .error
          case h98 =>
            m_shape; rw [dec_98, dec_98]; refine .arm rfl ?_
            split
            · rw [rdU_ok ‹_›]; exact .ok
            · exact .error
          case h99 => rw [shape.eq_3]; exact .none
          case h70 =>
            m_shape; rw [dec_70, dec_70]; refine .arm rfl ?_
            split
            · rw [rdU_ok ‹_›]; exact .ok
            · exact .error
          case h100 => rw [shape.eq_3]; exact .none
          case h118 =>
            m_shape; rw [dec_118, dec_118]; exact .arm rfl (acc_atomBody 2 bs)
          case h119 =>
            m_shape; rw [dec_119, dec_119]; exact .arm rfl (acc_atomBody 1 bs)
          case h115 => rw [shape.eq_3]; exact .none
          case h104 =>
            m_shape; rw [dec_104, dec_104]; refine .arm rfl ?_
            m_rd
            intro t r r' h1 h2
            split at h1 <;> cases h1
            obtain ⟨rfl, hb⟩ := ihN _ _ _ _ _ _ _ ‹_› h2
            rw [hb]; exact ⟨rfl, rfl⟩
          case h105 =>
            m_shape; rw [dec_105, dec_105]; refine .arm rfl ?_
            m_rd
            m_if
            intro t r r' h1 h2
            split at h1 <;> cases h1
            obtain ⟨rfl, hb⟩ := ihN _ _ _ _ _ _ _ ‹_› h2
            rw [hb]; exact ⟨rfl, rfl⟩
          case h106 =>
            m_shape; rw [dec_106, dec_106]; exact .arm rfl .ok
          case h107 =>
            m_shape; rw [dec_107, dec_107]; refine .arm rfl ?_
            m_rd
            m_take
            exact .ok
          case h108 =>
            m_shape; rw [dec_108, dec_108]; refine .arm rfl ?_
            m_rd
            m_if
            split; exact .error
            rcases hs : shapeN f' _ _ with _ | r'
            · exact .none
            obtain ⟨rfl, hb⟩ := ihN _ _ _ _ _ _ _ ‹_› hs
            rw [hb]; dsimp only
            intro t r r' h1 h2
            split at h1
            · cases h1
            · cases h1
              obtain ⟨rfl, hb⟩ := ih _ _ _ _ _ _ ‹_› h2
              rw [hb]; exact ⟨rfl, rfl⟩
            · cases h1
              obtain ⟨rfl, hb⟩ := ih _ _ _ _ _ _ ‹_› h2
              rw [hb]
              refine ⟨rfl, ?_⟩
              split <;> rename_i heq <;> cases heq
              · exact absurd rfl ‹_›
              · rfl
          case h109 =>
            m_shape; rw [dec_109, dec_109]; refine .arm rfl ?_
            m_rd
            m_if
            m_take
            exact .ok
          case h77 =>
            m_shape; rw [dec_77, dec_77]; refine .arm rfl ?_
            m_rd
            m_if
            m_rd
            m_if
            m_if
            m_take
            exact .ok
          case h110 =>
            m_shape; rw [dec_110, dec_110]; exact .arm rfl (acc_big 1 bs)
          case h111 =>
            m_shape; rw [dec_111, dec_111]; exact .arm rfl (acc_big 4 bs)
          case h116 =>
            m_shape; rw [dec_116, dec_116]; refine .arm rfl ?_
            m_rd
            m_if
            intro t r r' h1 h2
            split at h1 <;> cases h1
            obtain ⟨rfl, hb⟩ := ihKV _ _ _ _ _ _ _ _ ‹_› h2
            rw [hb]; exact ⟨rfl, rfl⟩
          case h88 =>
            m_shape; rw [dec_88, dec_88]; refine .arm rfl ?_
            m_sub (ih _ _ _) (shape f' bs)
            m_rd
            m_rd
            m_rd
            exact .ok
          case h103 => rw [shape.eq_3]; exact .none
          case h120 =>
            m_shape; rw [dec_120, dec_120]; refine .arm rfl ?_
            m_sub (ih _ _ _) (shape f' bs)
            m_rd
            m_rd
            exact .ok
          case h89 =>
            m_shape; rw [dec_89, dec_89]; refine .arm rfl ?_
            m_sub (ih _ _ _) (shape f' bs)
            m_rd
            m_rd
            exact .ok
          case h102 => rw [shape.eq_3]; exact .none
          case h90 =>
            m_shape; rw [dec_90, dec_90]; refine .arm rfl ?_
            m_rd
            m_sub (ih _ _ _) (shape f' _)
            m_rd
            intro t r r' h1 h2
            split at h1; cases h1
            cases h1
            exact ⟨(Acc.words _ _ _ _ _ ‹_› h2).1, rfl⟩
          case h114 => rw [shape.eq_3]; exact .none
          case h101 => rw [shape.eq_3]; exact .none
          case h113 =>
            m_shape; rw [dec_113, dec_113]; refine .arm rfl ?_
            m_sub (ih _ _ _) (shape f' bs)
            m_sub (ih _ _ _) (shape f' _)
            split; rotate_left; exact .error; exact .error
            intro t r r' h1 h2
            obtain ⟨rfl, hb⟩ := ih _ _ _ _ _ _ ‹_› h2
            rw [hb]
            split at h1 <;> cases h1
            exact ⟨rfl, if_pos ‹_›⟩
          case h112 =>
            m_shape; rw [dec_112, dec_112]; refine .arm rfl ?_
            m_rd
            m_rd
            m_take
            m_rd
            m_rd
            m_sub (ih _ _ _) (shape f' _)
            m_sub (ih _ _ _) (shape f' _)
            m_if
            m_sub (ih _ _ _) (shape f' _)
            m_if
            m_sub (ih _ _ _) (shape f' _)
            intro t r r' h1 h2
            split at h1 <;> cases h1
            obtain ⟨rfl, hb⟩ := ihN _ _ _ _ _ _ _ ‹_› h2
            rw [hb]; exact ⟨rfl, rfl⟩
          case h121 => rw [shape.eq_3]; exact .none
          case h80 => rw [shape.eq_3]; exact .none
          case h82 => rw [shape.eq_3]; exact .none
    · cases n with
      | zero => rw [decN, decN, shapeN]; exact .ok
      | succ n =>
        cases f' with
        | zero => rw [shapeN]; exact .none
        | succ f' =>
          rw [decN, decN, shapeN]
          split; exact .error
          rcases hs : shape f' bs with _ | r'
          · exact .none
          obtain ⟨rfl, hb⟩ := ih _ _ _ _ _ _ ‹_› hs
          rw [hb]; dsimp only
          intro t r r' h1 h2
          split at h1; cases h1
          cases h1
          obtain ⟨rfl, hb⟩ := ihN _ _ _ _ _ _ _ ‹_› h2
          rw [hb]; exact ⟨rfl, rfl⟩
    · cases n with
      | zero => rw [decKV, decKV, shapeKV]; exact .ok
      | succ n =>
        cases f' with
        | zero => rw [shapeKV]; exact .none
        | succ f' =>
          rw [decKV, decKV, shapeKV]
          split; exact .error
          rcases hs : shape f' bs with _ | r'
          · exact .none
          obtain ⟨rfl, hb⟩ := ih _ _ _ _ _ _ ‹_› hs
          rw [hb]; dsimp only
          split; exact .error
          rcases hs : shape f' _ with _ | r'
          · exact .none
          obtain ⟨rfl, hb⟩ := ih _ _ _ _ _ _ ‹_› hs
          rw [hb]; dsimp only
          exact ihKV _ _ _ _ _

theorem decodeWith_accepts_modern (x : Ext) (c : List (Nat × Bytes)) (bs : Bytes) (t : Term)
    (hm : modernOnly bs = true) (hd : decodeWith x (cO c) bs = .ok t) : decodeWith x (cB c) bs = .ok t := by
  by_cases hv : ∃ r, bs = 131 :: r
  · obtain ⟨r, rfl⟩ := hv
    rw [decodeWith_131] at hd ⊢
    split at hd
    · cases hd
    · rw [((dec_accepts_modern x c _).1 0 r _ _ _ _ ‹_› (beq_iff_eq.mp hm)).2]; exact hd
    · cases hd
  · rw [decodeWith_version x _ bs fun r h => hv ⟨r, h⟩] at hd; cases hd

end Edp
