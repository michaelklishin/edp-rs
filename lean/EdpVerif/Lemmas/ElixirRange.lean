import EdpVerif.Impl.Elixir
import EdpVerif.Spec.Elixir
/-!
C20: ranges.  First the Spec's own consistency (`mem` is membership in `elems`, `count` is its length), then the model
against the Spec for every range: `len`, `size_hint` and the iterator do not look at the direction, they work with
`|last - first| / |step|` (`Range.steps`), which is the Spec's count less one (`count_eq`).
-/
namespace Edp.Ex
open Edp

theorem spec_mem_up (f l s v : Int) (hs : 0 < s) :
    (f ≤ v ∧ v ≤ l ∧ (v - f) % s = 0) ↔ ∃ i : Nat, i < ((l - f) / s + 1).toNat ∧ f + (i : Int) * s = v := by
  constructor
  · rintro ⟨h1, h2, h3⟩
    have hq0 : 0 ≤ (v - f) / s := Int.ediv_nonneg (by omega) (by omega)
    have hqs : (v - f) / s * s = v - f := Int.ediv_mul_cancel (Int.dvd_of_emod_eq_zero h3)
    have hqle : (v - f) / s ≤ (l - f) / s := Int.ediv_le_ediv hs (by omega)
    refine ⟨((v - f) / s).toNat, ?_, ?_⟩
    · rw [Int.lt_toNat, Int.toNat_of_nonneg hq0]; omega
    · rw [Int.toNat_of_nonneg hq0, hqs]; omega
  · rintro ⟨i, hi, hv⟩
    rw [Int.lt_toNat] at hi
    have h1 : (i : Int) * s ≤ l - f := (Int.le_ediv_iff_mul_le hs).mp (by omega)
    have h2 : 0 ≤ (i : Int) * s := Int.mul_nonneg (Int.natCast_nonneg i) (by omega)
    refine ⟨by omega, by omega, ?_⟩
    rw [show v - f = (i : Int) * s by omega]; exact Int.mul_emod_left _ _

theorem spec_mem_down (f l s v : Int) (hs : s < 0) :
    (l ≤ v ∧ v ≤ f ∧ (f - v) % (-s) = 0) ↔ ∃ i : Nat, i < ((f - l) / (-s) + 1).toNat ∧ f + (i : Int) * s = v := by
  have h := spec_mem_up (-f) (-l) (-s) (-v) (by omega)
  have e1 : -v - -f = f - v := by omega
  have e2 : -l - -f = f - l := by omega
  rw [e1, e2] at h
  constructor
  · rintro ⟨h1, h2, h3⟩
    obtain ⟨i, hi, hv⟩ := h.mp ⟨by omega, by omega, h3⟩
    refine ⟨i, hi, ?_⟩
    rw [Int.mul_neg] at hv; omega
  · rintro ⟨i, hi, hv⟩
    obtain ⟨h1, h2, h3⟩ := h.mpr ⟨i, hi, by rw [Int.mul_neg]; omega⟩
    exact ⟨by omega, by omega, h3⟩

theorem spec_length (f l s : Int) : (Spec.Range.elems f l s).length = Spec.Range.count f l s := by
  simp [Spec.Range.elems]

theorem spec_mem_iff (f l s v : Int) : Spec.Range.mem f l s v = true ↔ v ∈ Spec.Range.elems f l s := by
  unfold Spec.Range.mem Spec.Range.elems Spec.Range.count
  simp only [List.mem_map, List.mem_range]
  split
  · rw [decide_eq_true_iff]
    split
    · exact ⟨fun h => by omega, fun ⟨i, hi, _⟩ => by omega⟩
    · exact spec_mem_up f l s v (by omega)
  · split
    · rw [decide_eq_true_iff]
      split
      · exact ⟨fun h => by omega, fun ⟨i, hi, _⟩ => by omega⟩
      · exact spec_mem_down f l s v (by omega)
    · exact ⟨nofun, fun ⟨i, hi, _⟩ => by omega⟩

/-- `cur` has not passed `last` -/
def Range.Within (r : Range) (cur : Int) : Prop := (0 < r.step ∧ cur ≤ r.last) ∨ (r.step < 0 ∧ r.last ≤ cur)

theorem isEmpty_false_iff (r : Range) : r.isEmpty = false ↔ r.Within r.first := by
  unfold Range.isEmpty Range.Within
  split
  · simp only [decide_eq_false_iff_not]; omega
  · split
    · simp only [decide_eq_false_iff_not]; omega
    · simp only [Bool.true_eq_false, false_iff]; omega

theorem absDiff_eq (a b : Int) : absDiff a b = ((a - b).natAbs : Int) := by unfold absDiff; split <;> omega
theorem uabs_eq (s : Int) : uabs s = (s.natAbs : Int) := by unfold uabs; split <;> omega

/-- the number of steps that can be taken from `first` without passing `last` -/
def Range.steps (r : Range) : Nat := (r.last - r.first).natAbs / r.step.natAbs

theorem absDiff_div_uabs (r : Range) : absDiff r.last r.first / uabs r.step = (r.steps : Int) := by
  rw [absDiff_eq, uabs_eq, Range.steps, Int.natCast_ediv]

theorem count_empty {r : Range} (he : r.isEmpty = true) : Spec.Range.count r.first r.last r.step = 0 := by
  have h := mt (isEmpty_false_iff r).mpr (by simp [he])
  unfold Spec.Range.count
  unfold Range.Within at h
  split
  · rw [if_pos (by omega)]
  · split
    · rw [if_pos (by omega)]
    · rfl

theorem count_eq {r : Range} (he : r.isEmpty = false) : Spec.Range.count r.first r.last r.step = r.steps + 1 := by
  unfold Spec.Range.count Range.steps
  rcases (isEmpty_false_iff r).mp he with ⟨hp, hfl⟩ | ⟨hn, hfl⟩
  · obtain ⟨D, hD⟩ := Int.eq_ofNat_of_zero_le (show 0 ≤ r.last - r.first by omega)
    obtain ⟨a, ha⟩ := Int.eq_ofNat_of_zero_le (show 0 ≤ r.step by omega)
    rw [if_pos hp, if_neg (by omega), hD, ha, ← Int.natCast_ediv, Int.natAbs_natCast, Int.natAbs_natCast]
    exact Int.toNat_natCast_add_one
  · obtain ⟨D, hD⟩ := Int.eq_ofNat_of_zero_le (show 0 ≤ r.first - r.last by omega)
    obtain ⟨a, ha⟩ := Int.eq_ofNat_of_zero_le (show 0 ≤ -r.step by omega)
    rw [if_neg (by omega), if_pos hn, if_neg (by omega), hD, ha, ← Int.natCast_ediv,
      show (r.last - r.first).natAbs = D by omega, show r.step.natAbs = a by omega]
    exact Int.toNat_natCast_add_one

theorem len_eq (r : Range) : r.len = min (Spec.Range.count r.first r.last r.step) 18446744073709551615 := by
  unfold Range.len
  cases he : r.isEmpty with
  | true => simp [count_empty he]
  | false => rw [count_eq he, if_neg (by simp), absDiff_div_uabs, USIZE_MAX]; omega

theorem sizeHint_eq (r : Range) :
    r.sizeHint r.iter =
      if Spec.Range.count r.first r.last r.step ≤ 18446744073709551615
      then (Spec.Range.count r.first r.last r.step, some (Spec.Range.count r.first r.last r.step))
      else (18446744073709551615, none) := by
  unfold Range.sizeHint Range.iter
  cases he : r.isEmpty with
  | true => simp [count_empty he]
  | false =>
    have hp : (if r.step > 0 then decide (r.first > r.last) else decide (r.first < r.last)) = false := by
      rcases (isEmpty_false_iff r).mp he with h | h
      · rw [if_pos h.1]; simp only [decide_eq_false_iff_not]; omega
      · rw [if_neg (by omega)]; simp only [decide_eq_false_iff_not]; omega
    simp only [Bool.or_self, Bool.false_eq_true, if_false, hp, count_eq he, absDiff_div_uabs, USIZE_MAX]
    split <;> rename_i h
    · rw [if_pos (by omega)]; simp
    · rw [if_neg (by omega)]; simp

theorem next_within {r : Range} (he : r.isEmpty = false) {cur : Int} (h : r.Within cur) :
    r.next ⟨cur, false⟩ = (some cur, if cur = r.last then ⟨cur, true⟩ else r.advance ⟨cur, false⟩) := by
  unfold Range.next
  rw [he]
  rcases h with ⟨hp, h⟩ | ⟨hn, h⟩
  · simp only [Bool.or_self, Bool.false_eq_true, if_false, gt_iff_lt, hp, if_true, if_neg (show ¬ r.last < cur by omega)]
    split <;> rfl
  · simp only [Bool.or_self, Bool.false_eq_true, if_false, if_neg (show ¬ r.step > 0 by omega),
      if_neg (show ¬ cur < r.last by omega)]
    split <;> rfl

theorem next_end {r : Range} (it : It)
    (h : it.done = true ∨ (0 < r.step ∧ r.last < it.cur) ∨ (r.step < 0 ∧ it.cur < r.last)) : (r.next it).1 = none := by
  unfold Range.next
  split
  · rfl
  · rename_i hnd
    rcases h with h | ⟨hp, h⟩ | ⟨hn, h⟩
    · exact absurd (by rw [h]; rfl) hnd
    · rw [if_pos hp, if_pos h]
    · rw [if_neg (show ¬ r.step > 0 by omega), if_pos h]

theorem InI64.between {a b x : Int} (ha : InI64 a) (hb : InI64 b) (h : (a ≤ x ∧ x ≤ b) ∨ (b ≤ x ∧ x ≤ a)) : InI64 x := by
  unfold InI64 at *; omega

/-- a step that does not pass `last` stays within, between `cur` and `last`, one step closer -/
theorem Range.Within.step {r : Range} {cur : Int} (hw : r.Within cur) (hge : r.step.natAbs ≤ (r.last - cur).natAbs) :
    0 < r.step.natAbs ∧ cur ≠ r.last ∧ r.Within (cur + r.step) ∧
    (r.last - (cur + r.step)).natAbs = (r.last - cur).natAbs - r.step.natAbs ∧
    ((cur ≤ cur + r.step ∧ cur + r.step ≤ r.last) ∨ (r.last ≤ cur + r.step ∧ cur + r.step ≤ cur)) := by
  unfold Range.Within at hw ⊢; omega

theorem Range.Within.last {r : Range} {cur : Int} (hw : r.Within cur) (hlt : (r.last - cur).natAbs < r.step.natAbs) :
    (0 < r.step ∧ r.last < cur + r.step) ∨ (r.step < 0 ∧ cur + r.step < r.last) := by
  rcases hw with h | h <;> omega

/-- from a position within the range the iterator yields `cur`, `cur + step`, … as long as `last` is not passed
(`checked_add` ends the iteration at the latest after the last member) -/
theorem collect_within (r : Range) (he : r.isEmpty = false) (hl : InI64 r.last) :
    ∀ (n : Nat) (cur : Int) (fuel : Nat), InI64 cur → r.Within cur → (r.last - cur).natAbs / r.step.natAbs = n →
      n + 2 ≤ fuel → r.collect fuel ⟨cur, false⟩ = (List.range (n + 1)).map fun i : Nat => cur + (i : Int) * r.step := by
  intro n
  induction n with
  | zero =>
    intro cur fuel hc hw hn hf
    obtain ⟨m, rfl⟩ : ∃ m, fuel = m + 2 := ⟨fuel - 2, by omega⟩
    have hlt : (r.last - cur).natAbs < r.step.natAbs := by
      rcases Nat.div_eq_zero_iff.mp hn with h | h
      · rcases hw with h | h <;> omega
      · exact h
    have : (r.next (if cur = r.last then ⟨cur, true⟩ else r.advance ⟨cur, false⟩)).1 = none := by
      apply next_end
      unfold Range.advance
      split
      · exact .inl rfl
      · split
        · exact .inr (hw.last hlt)
        · exact .inl rfl
    simp only [Range.collect, next_within he hw]
    revert this
    cases r.next (if cur = r.last then ⟨cur, true⟩ else r.advance ⟨cur, false⟩) with
    | mk o it' => rintro rfl; simp
  | succ n ih =>
    intro cur fuel hc hw hn hf
    obtain ⟨m, rfl⟩ : ∃ m, fuel = m + 1 := ⟨fuel - 1, by omega⟩
    have hge : r.step.natAbs ≤ (r.last - cur).natAbs :=
      Nat.le_of_not_lt fun h => by rw [Nat.div_eq_of_lt h] at hn; cases hn
    obtain ⟨ha, hne, hw', hd, hb⟩ := hw.step hge
    rw [Nat.div_eq_sub_div ha hge] at hn
    have hin := hc.between hl hb
    rw [List.range_succ_eq_map, List.map_cons, List.map_map]
    simp only [Range.collect, next_within he hw, if_neg hne, Range.advance, hin, if_true]
    rw [ih (cur + r.step) m hin hw' (by rw [hd]; omega) (Nat.le_of_succ_le_succ hf)]
    simp only [Int.natCast_zero, Int.zero_mul, Int.add_zero, List.cons.injEq, true_and]
    apply List.map_congr_left
    intro i _
    simp only [Function.comp, Nat.succ_eq_add_one, Int.natCast_add, Int.add_mul]
    omega

theorem collect_all (r : Range) (hw : r.WF) (fuel : Nat) (hf : r.fuel ≤ fuel) :
    r.collect fuel r.iter = Spec.Range.elems r.first r.last r.step := by
  unfold Spec.Range.elems
  unfold Range.fuel at hf
  cases he : r.isEmpty with
  | true =>
    obtain ⟨m, rfl⟩ : ∃ m, fuel = m + 1 := ⟨fuel - 1, by omega⟩
    simp [count_empty he, Range.collect, Range.next, he]
  | false =>
    rw [count_eq he]
    exact collect_within r he hw.2.1 _ _ _ hw.1 ((isEmpty_false_iff r).mp he) rfl
      (by have := Nat.div_le_self (r.last - r.first).natAbs r.step.natAbs; unfold Range.steps; omega)

theorem count_le_usize (r : Range) (hw : r.WF)
    (h : ¬ (r.first = I64_MIN ∧ r.last = I64_MAX ∧ r.step = 1) ∧ ¬ (r.first = I64_MAX ∧ r.last = I64_MIN ∧ r.step = -1)) :
    Spec.Range.count r.first r.last r.step ≤ 18446744073709551615 := by
  cases he : r.isEmpty with
  | true => rw [count_empty he]; omega
  | false =>
    have hd := (isEmpty_false_iff r).mp he
    rw [count_eq he, Range.steps]
    unfold Range.WF InI64 I64_MIN I64_MAX Range.Within at *
    rcases Nat.lt_or_ge r.step.natAbs 2 with h1 | h2
    · rw [show r.step.natAbs = 1 by omega, Nat.div_one]; omega
    · have := Nat.div_le_div_left h2 (show 0 < 2 by omega) (a := (r.last - r.first).natAbs)
      omega

theorem contains_eq (r : Range) (v : Int) : r.contains v = Spec.Range.mem r.first r.last r.step v := by
  unfold Range.contains Spec.Range.mem
  cases he : r.isEmpty with
  | true =>
    have h := mt (isEmpty_false_iff r).mpr (by simp [he])
    unfold Range.Within at h
    rw [if_pos rfl]
    split
    · exact (decide_eq_false (by omega)).symm
    · split
      · exact (decide_eq_false (by omega)).symm
      · rfl
  | false =>
    rw [if_neg (by simp), Bool.eq_iff_iff, absDiff_eq, uabs_eq]
    rcases (isEmpty_false_iff r).mp he with ⟨hp, -⟩ | ⟨hn, -⟩
    · simp only [gt_iff_lt, hp, if_true, if_neg (show ¬ r.step < 0 by omega), Bool.and_eq_true, decide_eq_true_eq, beq_iff_eq,
        and_assoc]
      refine and_congr_right fun _ => and_congr_right fun _ => ?_
      rw [show ((v - r.first).natAbs : Int) = v - r.first by omega, show (r.step.natAbs : Int) = r.step by omega]
    · simp only [gt_iff_lt, if_neg (show ¬ 0 < r.step by omega), hn, if_true, Bool.and_eq_true, decide_eq_true_eq, beq_iff_eq]
      rw [and_comm (a := v ≤ r.first), and_assoc]
      refine and_congr_right fun _ => and_congr_right fun _ => ?_
      rw [show ((v - r.first).natAbs : Int) = r.first - v by omega, show (r.step.natAbs : Int) = -r.step by omega]
end Edp.Ex
