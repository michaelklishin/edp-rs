import EdpVerif.Lemmas.ProcsStep
/-! The inductive invariants of the model of local processes (Impl/Procs.lean) that do not speak of entries added to a
closed link or monitor set: each with its preservation by a client step and by a process step, from the step facts of
Lemmas/ProcsStep.lean; their conjunction `AllInv` holds after every schedule (`allInv_run`). The invariants about late
entries are in Lemmas/ProcsLate.lean. -/
namespace Edp.Impl.Procs

theorem nameFind_none_iff {n : Name} {l : List (Name × Pid)} : nameFind n l = none ↔ n ∉ l.map (·.1) := by
  induction l with
  | nil => simp [nameFind]
  | cons e l ih =>
    obtain ⟨m, p⟩ := e
    by_cases hm : m = n
    · simp [nameFind, hm]
    · simp [nameFind, hm, ih, Ne.symm hm]

theorem nameFind_some_mem {n : Name} {p : Pid} {l : List (Name × Pid)} (h : nameFind n l = some p) : (n, p) ∈ l := by
  induction l with
  | nil => simp [nameFind] at h
  | cons e l ih =>
    obtain ⟨m, q⟩ := e
    by_cases hm : m = n
    · simp [nameFind, hm] at h; simp [hm, h]
    · simp [nameFind, hm] at h; simp [ih h]

theorem nameFind_of_mem {n : Name} {p : Pid} {l : List (Name × Pid)} (hn : (l.map (·.1)).Nodup) (h : (n, p) ∈ l) :
    nameFind n l = some p := by
  induction l with
  | nil => cases h
  | cons e l ih =>
    obtain ⟨m, q⟩ := e
    simp only [List.map_cons, List.nodup_cons] at hn
    rcases List.mem_cons.mp h with e | e
    · cases e; simp [nameFind]
    · have : m ≠ n := by
        intro hm; subst hm
        exact hn.1 (List.mem_map.mpr ⟨(m, p), e, rfl⟩)
      simp [nameFind, this, ih hn.2 e]

def NamesUnique (st : St) : Prop := (st.byName.map (·.1)).Nodup

theorem nodup_snoc {α : Type} {x : α} {l : List α} (h : l.Nodup) (hx : x ∉ l) : (l ++ [x]).Nodup :=
  List.nodup_append.mpr ⟨h, by simp, by
    intro a ha b hb; simp at hb; subst hb; intro e; subst e; contradiction⟩

theorem nodup_keys_filter {l : List (Name × Pid)} (f : Name × Pid → Bool) (h : (l.map (·.1)).Nodup) :
    ((l.filter f).map (·.1)).Nodup :=
  List.Nodup.sublist (List.Sublist.map _ List.filter_sublist) h

theorem nodup_keys_snoc {l : List (Name × Pid)} {n : Name} (p : Pid) (h : (l.map (·.1)).Nodup) (hf : nameFind n l = none) :
    ((l ++ [(n, p)]).map (·.1)).Nodup := by
  rw [List.map_append]; exact nodup_snoc h (nameFind_none_iff.mp hf)

/-- `by_name` after any step: unchanged, one entry more under a free name, or some entries fewer -/
theorem stepEv_byName {st st' : St} {e : Ev} (h : stepEv st e = some st') :
    st'.byName = st.byName ∨ (∃ n p, nameFind n st.byName = none ∧ st'.byName = st.byName ++ [(n, p)]) ∨
      ∃ f, st'.byName = st.byName.filter f := by
  cases e with
  | start t op => obtain ⟨_, rfl⟩ := stepEv_start h; exact .inl rfl
  | cont t =>
    rcases clientStep_byName h with e | ⟨n, p, hf, _, e⟩ | ⟨n, e⟩
    · exact .inl e
    · exact .inr (.inl ⟨n, p, hf, e⟩)
    · exact .inr (.inr ⟨_, e⟩)
  | proc p k =>
    rcases procStep_byName h with ⟨_, e⟩ | ⟨_, e⟩
    · exact .inl e
    · exact .inr (.inr ⟨_, e⟩)

theorem namesUnique_step : ∀ st e st', NamesUnique st → stepEv st e = some st' → NamesUnique st' := by
  intro st e st' hi h
  unfold NamesUnique
  rcases stepEv_byName h with e | ⟨n, p, hf, e⟩ | ⟨f, e⟩ <;> rw [e]
  · exact hi
  · exact nodup_keys_snoc p hi hf
  · exact nodup_keys_filter f hi

theorem namesUnique_run (cap : Nat) (evs : List Ev) : NamesUnique (run (St.init cap) evs) :=
  run_induct evs _ (by simp [NamesUnique, St.init]) namesUnique_step

/-- The registry, the handles and the life of a process task. Clause by clause, what cannot happen:
* `blank`: a pid `Node::spawn` has not allocated yet has a task or a registry entry;
* `inReg`: `by_pid` lists a pid that `registry.insert` never put there, or one whose task is past its `by_pid.remove`;
* `fresh`: in the window of `spawn` between starting the task and `registry.insert`, the process has left its receive
  loop, got a message or dropped its mailbox (nobody can have a handle yet);
* `spawn2`, `spawn2_inj`: a `spawn` about to call `registry.insert` does so for a process already inserted or no longer
  in its loop; two `spawn`s insert the same pid;
* `holdC`, `holdP`: a client task (a terminating process task) holds a handle that did not come out of `registry.get`;
* `names`: a name in `by_name` whose owner is not in `by_pid`, other than in the window between the two accesses of
  `registry.remove` (`by_pid.remove`, then `by_name.retain`);
* `closedDead`: a mailbox whose receiver is dropped while the process task still runs;
* `goneOut`: a process past `by_pid.remove` that is in `by_pid` (again), or that never was inserted;
* `sentIns`: a `send` that returned `Ok` for a process never inserted. -/
structure RegInv (st : St) : Prop where
  blank : ∀ p, st.nextPid ≤ p → (st.procs p).pc = .none ∧ (st.procs p).inserted = false
  inReg : ∀ p, p ∈ st.byPid → (st.procs p).inserted = true ∧ (st.procs p).pc.gone = false ∧ (st.procs p).pc ≠ .none
  fresh : ∀ p, (st.procs p).inserted = false → (st.procs p).pc ≠ .none →
    (st.procs p).pc = .recv ∧ (st.procs p).mailbox = [] ∧ (st.procs p).closed = false
  spawn2 : ∀ t p, st.cpc t = .spawn2 p → (st.procs p).inserted = false ∧ (st.procs p).pc = .recv
  spawn2_inj : ∀ t t' p, st.cpc t = .spawn2 p → st.cpc t' = .spawn2 p → t = t'
  holdC : ∀ t p, (st.cpc t).holds = some p → (st.procs p).inserted = true
  holdP : ∀ q a, (st.procs q).pc.holds = some a → (st.procs a).inserted = true
  names : ∀ n p, (n, p) ∈ st.byName → p ∈ st.byPid ∨ (st.procs p).pc = .sweep
  closedDead : ∀ p, (st.procs p).closed = true → (st.procs p).pc = .dead
  goneOut : ∀ p, (st.procs p).pc.gone = true → p ∉ st.byPid ∧ (st.procs p).inserted = true
  sentIns : ∀ t e, e ∈ st.sent t → (st.procs e.1).inserted = true

theorem regInv_init (cap : Nat) : RegInv (St.init cap) := by
  constructor <;> simp [St.init]

theorem ins_lt {st : St} (hr : RegInv st) {p : Pid} (h : (st.procs p).inserted = true) : p < st.nextPid := by
  by_cases hp : p < st.nextPid
  · exact hp
  · have := (hr.blank p (Nat.le_of_not_lt hp)).2; rw [this] at h; cases h

theorem pc_lt {st : St} (hr : RegInv st) {p : Pid} (h : (st.procs p).pc ≠ .none) : p < st.nextPid := by
  by_cases hp : p < st.nextPid
  · exact hp
  · exact absurd (hr.blank p (Nat.le_of_not_lt hp)).1 h

theorem regInv_client {st st' : St} {t : Tid} (hi : RegInv st) (h : clientStep st t = some st') : RegInv st' := by
  have hP := clientStep_record h
  have hB := clientStep_byPid h
  have hlt := @pc_lt st hi
  have hilt := @ins_lt st hi
  have spawn2_old : ∀ q, st.cpc t = .spawn2 q → q < st.nextPid := fun q hs =>
    hlt (by rw [(hi.spawn2 t q hs).2]; simp)
  have hmem : ∀ q, q ∈ st'.byPid → q ∈ st.byPid ∨ st.cpc t = .spawn2 q := by
    intro q hq
    rcases hB with e | ⟨p, hs, e⟩
    · left; rwa [e] at hq
    · rw [e] at hq
      rcases mem_pidIns.mp hq with rfl | hm
      · right; exact hs
      · left; exact hm
  have hmem' : ∀ q, q ∈ st.byPid → q ∈ st'.byPid := fun q => clientStep_byPid_mono h
  have hins : ∀ q, (st.procs q).inserted = true → (st'.procs q).inserted = true := by
    intro q hq
    rcases hP q with ⟨_, _, h2, _⟩ | ⟨rfl, _, _⟩ | ⟨_, _, h2, _⟩
    · rw [h2]; exact hq
    · exact absurd (hilt hq) (Nat.lt_irrefl _)
    · exact h2
  constructor
  · -- blank
    intro q hq
    have hq0 : st.nextPid ≤ q := Nat.le_trans (clientStep_nextPid_le h) hq
    rcases hP q with ⟨_, h1, h2, _⟩ | ⟨rfl, _, hn⟩ | ⟨hs, _⟩
    · rw [h1, h2]; exact hi.blank q hq0
    · rw [hn] at hq; exact absurd hq (Nat.not_succ_le_self _)
    · exact absurd (spawn2_old q hs) (Nat.not_lt.mpr hq0)
  · -- inReg
    intro q hq
    rcases hP q with ⟨hns, h1, h2, _⟩ | ⟨rfl, ⟨tr, hs1, _⟩, _⟩ | ⟨hs, h1, h2, _⟩
    · rcases hmem q hq with hm | hs
      · rw [h1, h2]; exact hi.inReg q hm
      · exact absurd hs hns
    · rcases hmem _ hq with hm | hs
      · exact absurd (hi.blank st.nextPid (Nat.le_refl _)).1 (hi.inReg _ hm).2.2
      · rw [hs1] at hs; cases hs
    · have := hi.spawn2 t q hs
      rw [h1, h2, this.2]; simp
  · -- fresh
    intro q hq1 hq2
    rcases hP q with ⟨hns, h1, h2, h3, h4, _⟩ | ⟨rfl, ⟨tr, hs1, e⟩, _⟩ | ⟨hs, h1, h2, _⟩
    · rw [h1, h3]; rw [h2] at hq1; rw [h1] at hq2
      have := hi.fresh q hq1 hq2
      refine ⟨this.1, ?_, this.2.2⟩
      rcases h4 with h4 | h4
      · rw [h4]; exact this.2.1
      · have := hi.holdC t q h4; rw [this] at hq1; cases hq1
    · rw [e]; simp
    · rw [h2] at hq1; cases hq1
  · -- spawn2
    intro t' p hs
    by_cases ht : t' = t
    · subst ht
      obtain ⟨rfl, tr, hs1⟩ := (clientStep_cpc h).2.1 _ hs
      rcases hP st.nextPid with ⟨_, _, _, _, _, hk⟩ | ⟨_, ⟨tr', hs1', e⟩, _⟩ | ⟨hs2, _⟩
      · exact absurd rfl (hk tr hs1)
      · rw [e]; simp
      · rw [hs1] at hs2; cases hs2
    · rw [clientStep_cpc_ne h ht] at hs
      have old := hi.spawn2 t' p hs
      rcases hP p with ⟨_, h1, h2, _⟩ | ⟨rfl, _, _⟩ | ⟨hs2, _⟩
      · rw [h1, h2]; exact old
      · exact absurd (hlt (p := st.nextPid) (by rw [old.2]; simp)) (Nat.lt_irrefl _)
      · exact absurd (hi.spawn2_inj _ _ _ hs hs2) ht
  · -- spawn2_inj
    intro t1 t2 p h1 h2
    by_cases e1 : t1 = t <;> by_cases e2 : t2 = t
    · rw [e1, e2]
    · subst e1
      obtain ⟨rfl, _⟩ := (clientStep_cpc h).2.1 _ h1
      rw [clientStep_cpc_ne h e2] at h2
      exact absurd (hlt (p := st.nextPid) (by rw [(hi.spawn2 _ _ h2).2]; simp)) (Nat.lt_irrefl _)
    · subst e2
      obtain ⟨rfl, _⟩ := (clientStep_cpc h).2.1 _ h2
      rw [clientStep_cpc_ne h e1] at h1
      exact absurd (hlt (p := st.nextPid) (by rw [(hi.spawn2 _ _ h1).2]; simp)) (Nat.lt_irrefl _)
    · rw [clientStep_cpc_ne h e1] at h1
      rw [clientStep_cpc_ne h e2] at h2
      exact hi.spawn2_inj _ _ _ h1 h2
  · -- holdC
    intro t' p hh
    by_cases ht : t' = t
    · subst ht
      exact hins p (hi.inReg p ((clientStep_cpc h).2.2 p hh)).1
    · rw [clientStep_cpc_ne h ht] at hh
      exact hins p (hi.holdC t' p hh)
  · -- holdP
    intro q a hh
    rcases hP q with ⟨_, h1, _⟩ | ⟨rfl, ⟨tr, _, e⟩, _⟩ | ⟨_, h1, _⟩
    · rw [h1] at hh; exact hins a (hi.holdP q a hh)
    · rw [e] at hh; simp at hh
    · rw [h1] at hh; exact hins a (hi.holdP q a hh)
  · -- names
    intro n p hm
    have hpc : ∀ q, (st.procs q).pc = .sweep → (st'.procs q).pc = .sweep := by
      intro q hq
      rcases hP q with ⟨_, h1, _⟩ | ⟨rfl, _, _⟩ | ⟨_, h1, _⟩
      · rw [h1]; exact hq
      · exact absurd (hlt (p := st.nextPid) (by rw [hq]; simp)) (Nat.lt_irrefl _)
      · rw [h1]; exact hq
    have keep : ∀ p, (n, p) ∈ st.byName → p ∈ st'.byPid ∨ (st'.procs p).pc = .sweep := fun p hm =>
      (hi.names n p hm).imp (hmem' p) (hpc p)
    rcases clientStep_byName h with e | ⟨n', p', _, hp', e⟩ | ⟨n', e⟩ <;> rw [e] at hm
    · exact keep p hm
    · rcases List.mem_append.mp hm with hm | hm
      · exact keep p hm
      · cases List.mem_singleton.mp hm
        exact .inl (hmem' _ hp')
    · exact keep p (mem_nameDel.mp hm).1
  · -- closedDead
    intro q hq
    rcases hP q with ⟨_, h1, _, h3, _⟩ | ⟨rfl, ⟨tr, _, e⟩, _⟩ | ⟨_, h1, _, h3, _⟩
    · rw [h3] at hq; rw [h1]; exact hi.closedDead q hq
    · rw [e] at hq; simp at hq
    · rw [h3] at hq; rw [h1]; exact hi.closedDead q hq
  · -- goneOut
    intro q hq
    rcases hP q with ⟨hns, h1, h2, _⟩ | ⟨rfl, ⟨tr, _, e⟩, _⟩ | ⟨hs, h1, _⟩
    · rw [h1] at hq
      have := hi.goneOut q hq
      refine ⟨?_, by rw [h2]; exact this.2⟩
      intro hm
      rcases hmem q hm with hx | hx
      · exact this.1 hx
      · exact hns hx
    · rw [e] at hq; simp at hq
    · rw [h1, (hi.spawn2 t q hs).2] at hq; simp at hq
  · -- sentIns
    intro t' e he
    rcases clientStep_sent h t' with hs | ⟨p, m, hc, hs⟩
    · rw [hs] at he; exact hins _ (hi.sentIns t' e he)
    · rw [hs] at he
      rcases List.mem_append.mp he with he | he
      · exact hins _ (hi.sentIns t' e he)
      · simp only [List.mem_singleton] at he
        subst he
        exact hins _ (hi.holdC t p hc)

theorem regInv_start (st : St) (t : Tid) (c : CPc) (hi : RegInv st) (hidle : c.holds = none) (hns : ∀ p, c ≠ .spawn2 p) :
    RegInv (st.setC t c) :=
  -- only the three facts about the program counters of the client tasks see the change
  have hc : ∀ t', (st.setC t c).cpc t' = c ∨ (st.setC t c).cpc t' = st.cpc t' := fun t' => by
    simp only [St.setC, upd_apply]; split <;> simp
  { hi with
    spawn2 := fun t' p h => (hc t').elim (fun e => absurd (e ▸ h) (hns p)) (fun e => hi.spawn2 t' p (e ▸ h))
    spawn2_inj := fun t1 t2 p h1 h2 =>
      (hc t1).elim (fun e => absurd (e ▸ h1) (hns p)) fun e1 =>
        (hc t2).elim (fun e => absurd (e ▸ h2) (hns p)) fun e2 => hi.spawn2_inj t1 t2 p (e1 ▸ h1) (e2 ▸ h2)
    holdC := fun t' p h =>
      (hc t').elim (fun e => by rw [e, hidle] at h; cases h) (fun e => hi.holdC t' p (e ▸ h)) }

theorem regInv_proc {st st' : St} {p : Pid} {k : Nat} (hi : RegInv st) (h : procStep st p k = some st') : RegInv st' := by
  obtain ⟨gcpc, gsent, gnext, _, _, _, _⟩ := procStep_globals h
  have hO := fun q (hq : q ≠ p) => procStep_record (q := q) h hq
  obtain ⟨sIns, sNone', sNone, sHold, sClosed, sDead, sRecv⟩ := procStep_self h
  have hB := procStep_byPid h
  have pIns : (st.procs p).inserted = true := by
    cases hins : (st.procs p).inserted with
    | true => rfl
    | false =>
      have := hi.fresh p hins sNone
      exact absurd this.2.1 (sRecv this.1)
  have hins : ∀ q, (st'.procs q).inserted = (st.procs q).inserted := by
    intro q
    by_cases hq : q = p
    · subst hq; exact sIns
    · exact (hO q hq).2.1
  have hmem : ∀ q, q ∈ st'.byPid → q ∈ st.byPid := by
    intro q hq
    rcases hB with ⟨e, _⟩ | ⟨_, e, _⟩
    · rwa [e] at hq
    · rw [e] at hq; exact (mem_pidDel.mp hq).1
  constructor
  · -- blank
    intro q hq
    rw [gnext] at hq
    by_cases hqp : q = p
    · subst hqp; exact absurd (hi.blank q hq).1 sNone
    · rw [(hO q hqp).1, hins q]; exact hi.blank q hq
  · -- inReg
    intro q hq
    have old := hi.inReg q (hmem q hq)
    rw [hins q]
    by_cases hqp : q = p
    · subst hqp
      refine ⟨old.1, ?_, sNone'⟩
      rcases hB with ⟨_, e⟩ | ⟨_, e, _⟩
      · rw [e]; exact old.2.1
      · rw [e] at hq; exact absurd rfl (mem_pidDel.mp hq).2
    · rw [(hO q hqp).1]; exact old
  · -- fresh
    intro q hq1 hq2
    rw [hins q] at hq1
    by_cases hqp : q = p
    · subst hqp; rw [pIns] at hq1; cases hq1
    · obtain ⟨h1, _, h3, h4⟩ := hO q hqp
      rw [h1] at hq2 ⊢
      rw [h3]
      have := hi.fresh q hq1 hq2
      refine ⟨this.1, ?_, this.2.2⟩
      rcases h4 with h4 | h4
      · rw [h4]; exact this.2.1
      · have := hi.holdP p q h4; rw [this] at hq1; cases hq1
  · -- spawn2
    intro t q hs
    rw [gcpc] at hs
    have old := hi.spawn2 t q hs
    have hqp : q ≠ p := by intro e; subst e; rw [pIns] at old; cases old.1
    rw [hins q, (hO q hqp).1]; exact old
  · -- spawn2_inj
    intro t1 t2 q h1 h2
    rw [gcpc] at h1 h2
    exact hi.spawn2_inj t1 t2 q h1 h2
  · -- holdC
    intro t q hh
    rw [gcpc] at hh
    rw [hins q]; exact hi.holdC t q hh
  · -- holdP
    intro q a hh
    rw [hins a]
    by_cases hqp : q = p
    · subst hqp; exact (hi.inReg a (sHold a hh)).1
    · rw [(hO q hqp).1] at hh; exact hi.holdP q a hh
  · -- names
    intro n q hm
    rcases procStep_byName h with ⟨hnsw, e⟩ | ⟨hsw, e⟩
    · rw [e] at hm
      rcases hi.names n q hm with hx | hx
      · rcases hB with ⟨e', _⟩ | ⟨_, e', hp'⟩
        · left; rwa [e']
        · by_cases hqp : q = p
          · subst hqp; right; exact hp'
          · left; rw [e']; exact mem_pidDel.mpr ⟨hx, hqp⟩
      · right
        by_cases hqp : q = p
        · subst hqp; exact absurd hx hnsw
        · rw [(hO q hqp).1]; exact hx
    · rw [e] at hm
      obtain ⟨hm, hne⟩ := mem_nameSweep.mp hm
      have hqp : q ≠ p := hne
      rcases hi.names n q hm with hx | hx
      · left
        rcases hB with ⟨e', _⟩ | ⟨hc, _, _⟩
        · rwa [e']
        · rw [hsw] at hc; cases hc
      · right; rw [(hO q hqp).1]; exact hx
  · -- closedDead
    intro q hq
    by_cases hqp : q = p
    · subst hqp
      rcases sClosed hq with hc | hd
      · exact absurd (hi.closedDead q hc) sDead
      · exact hd
    · rw [(hO q hqp).2.2.1] at hq; rw [(hO q hqp).1]; exact hi.closedDead q hq
  · -- goneOut
    intro q hq
    rw [hins q]
    by_cases hqp : q = p
    · subst hqp
      refine ⟨?_, pIns⟩
      rcases hB with ⟨e, eg⟩ | ⟨_, e, _⟩
      · rw [e]; rw [eg] at hq; exact (hi.goneOut q hq).1
      · rw [e]; intro hm; exact (mem_pidDel.mp hm).2 rfl
    · rw [(hO q hqp).1] at hq
      have := hi.goneOut q hq
      exact ⟨fun hm => this.1 (hmem q hm), this.2⟩
  · -- sentIns
    intro t e he
    rw [gsent] at he
    rw [hins]; exact hi.sentIns t e he

theorem regInv_step : ∀ st e st', RegInv st → stepEv st e = some st' → RegInv st' := by
  intro st e st' hi h
  cases e with
  | start t op =>
    obtain ⟨_, rfl⟩ := stepEv_start h
    exact regInv_start st t op.entry hi (by cases op <;> rfl) (by intro p; cases op <;> simp [Op.entry])
  | cont t => exact regInv_client hi h
  | proc p k => exact regInv_proc hi h

theorem regInv_run (cap : Nat) (evs : List Ev) : RegInv (run (St.init cap) evs) :=
  run_induct evs _ (regInv_init cap) regInv_step

theorem rank_step {st st' : St} {e : Ev} (hi : RegInv st) (h : stepEv st e = some st') (p : Pid) :
    (st.procs p).pc.rank ≤ (st'.procs p).pc.rank := by
  cases e with
  | start t op => obtain ⟨_, rfl⟩ := stepEv_start h; exact Nat.le_refl _
  | cont t =>
    rcases clientStep_record h p with ⟨_, h1, _⟩ | ⟨rfl, _, _⟩ | ⟨_, h1, _⟩
    · rw [h1]; exact Nat.le_refl _
    · rw [(hi.blank st.nextPid (Nat.le_refl _)).1]; exact Nat.zero_le _
    · rw [h1]; exact Nat.le_refl _
  | proc q k =>
    by_cases hq : p = q
    · subst hq; exact procStep_rank h
    · rw [(procStep_record h hq).1]; exact Nat.le_refl _

theorem rank_run {st : St} (hi : RegInv st) (evs : List Ev) (p : Pid) :
    (st.procs p).pc.rank ≤ ((run st evs).procs p).pc.rank :=
  (run_induct (P := fun s => RegInv s ∧ (st.procs p).pc.rank ≤ (s.procs p).pc.rank) evs st ⟨hi, Nat.le_refl _⟩
    (fun s e s' hs h => ⟨regInv_step s e s' hs.1 h, Nat.le_trans hs.2 (rank_step hs.1 h p)⟩)).2

theorem gone_forever {st : St} {p : Pid} (hi : RegInv st) (hf : (st.procs p).pc.gone = true) (evs : List Ev) :
    ((run st evs).procs p).pc.gone = true :=
  (gone_iff_rank _).mpr (Nat.le_trans ((gone_iff_rank _).mp hf) (rank_run hi evs p))

theorem swept_forever {st : St} {p : Pid} (hi : RegInv st) (hf : (st.procs p).pc.swept = true) (evs : List Ev) :
    ((run st evs).procs p).pc.swept = true :=
  (swept_iff_rank _).mpr (Nat.le_trans ((swept_iff_rank _).mp hf) (rank_run hi evs p))

theorem terminating_forever {st : St} {p : Pid} (hi : RegInv st) (hf : (st.procs p).pc.terminating = true) (evs : List Ev) :
    ((run st evs).procs p).pc.terminating = true :=
  (terminating_iff_rank _).mpr (Nat.le_trans ((terminating_iff_rank _).mp hf) (rank_run hi evs p))

/-- the handled sequence changes only by the process's own receive step -/
theorem handled_frame {st st' : St} {e : Ev} {p : Pid} (hi : RegInv st) (h : stepEv st e = some st')
    (hf : (st.procs p).pc.terminating = true) : (st'.procs p).handled = (st.procs p).handled := by
  cases e with
  | start t op => obtain ⟨_, rfl⟩ := stepEv_start h; rfl
  | cont t =>
    rcases clientStep_own h p with ⟨rfl, _⟩ | ⟨_, _, _, _, _, e⟩
    · rw [(hi.blank _ (Nat.le_refl _)).1] at hf; cases hf
    · rw [e]
  | proc q k =>
    by_cases hq : p = q
    · subst hq
      rcases procStep_queue h with ⟨hpc, _⟩ | ⟨e, _⟩
      · rw [hpc] at hf; cases hf
      · exact e
    · obtain ⟨_, _, e⟩ := procStep_own h hq
      rw [e]

theorem handled_frozen {st : St} {p : Pid} (hi : RegInv st) (hf : (st.procs p).pc.terminating = true) (evs : List Ev) :
    ((run st evs).procs p).handled = (st.procs p).handled :=
  (run_induct (P := fun s => RegInv s ∧ 2 ≤ (s.procs p).pc.rank ∧ (s.procs p).handled = (st.procs p).handled) evs st
    ⟨hi, (terminating_iff_rank _).mp hf, rfl⟩
    (fun s e s' hs h => ⟨regInv_step s e s' hs.1 h, Nat.le_trans hs.2.1 (rank_step hs.1 h p),
      (handled_frame hs.1 h ((terminating_iff_rank _).mpr hs.2.1)).trans hs.2.2⟩)).2.2

/-- the record of a pid not allocated yet is the default record, in every field (`RegInv.blank` says so of `pc` and
`inserted` only): the ghost fields of a new process start empty -/
def Blank (st : St) : Prop := ∀ q, st.nextPid ≤ q → st.procs q = {}

theorem blank_client {st st' : St} {t : Tid} (hr : RegInv st) (hi : Blank st) (h : clientStep st t = some st') : Blank st' := by
  intro q hq
  have hold : ∀ p, (st.cpc t).holds = some p → p < st.nextPid := fun p hp => ins_lt hr (hr.holdC t p hp)
  -- a record that is written belongs to a pid below `nextPid`
  have hne : ∀ {p}, p < st.nextPid → st.nextPid ≤ q → q ≠ p := fun hp hq => Nat.ne_of_gt (Nat.lt_of_lt_of_le hp hq)
  rcases clientStep_procs h with ⟨(⟨e, en, _⟩ | ⟨tr, e, _, en, _⟩ | ⟨p, e, hc, en, _⟩), _⟩ | ⟨p, r, e, hc, en, _⟩ |
    ⟨p, s, m, e, hc, _, en, _⟩ <;> rw [en] at hq <;> rw [e]
  · exact hi q hq
  · rw [upd_ne _ _ (Nat.ne_of_gt hq)]; exact hi q (Nat.le_of_succ_le hq)
  · rw [upd_ne _ _ (hne (pc_lt hr (by rw [(hr.spawn2 t p hc).2]; exact nofun)) hq)]; exact hi q hq
  · rw [upd_ne _ _ (hne (hold p hc) hq)]; exact hi q hq
  · rw [upd_ne _ _ (hne (hold p hc) hq)]; exact hi q hq

theorem blank_proc {st st' : St} {p : Pid} {k : Nat} (hr : RegInv st) (hi : Blank st) (h : procStep st p k = some st') : Blank st' := by
  intro q hq
  rw [(procStep_globals h).2.2.1] at hq
  have hp : q ≠ p := Nat.ne_of_gt (Nat.lt_of_lt_of_le (pc_lt hr (procStep_self h).2.2.1) hq)
  rcases procStep_other h hp with e | ⟨m, hh, _, _⟩
  · rw [e]; exact hi q hq
  · exact absurd (ins_lt hr (hr.holdP p q hh)) (Nat.not_lt.mpr hq)

/-- With unallocated records blank, the allocation of `clientStep_own` is a change of `pc` and `trap` only. -/
theorem clientStep_ghost {st st' : St} {t : Tid} (hb : Blank st) (h : clientStep st t = some st') (q : Pid) :
    ∃ pc tr mb acc ls ms ins, st'.procs q =
      { st.procs q with pc := pc, trap := tr, mailbox := mb, accepted := acc, links := ls, monitors := ms, inserted := ins } := by
  rcases clientStep_own h q with ⟨rfl, tr, e⟩ | ⟨_, _, _, _, _, e⟩ <;> rw [e]
  · rw [hb _ (Nat.le_refl _)]; exact ⟨_, _, _, _, _, _, _, rfl⟩
  · exact ⟨_, _, _, _, _, _, _, rfl⟩

theorem clientStep_accepted {st st' : St} {t : Tid} (hb : Blank st) (h : clientStep st t = some st') :
    ((∀ a, (st'.procs a).accepted = (st.procs a).accepted) ∧
      st'.sent = st.sent ∧ st'.sentNL = st.sentNL ∧ st'.sentNM = st.sentNM) ∨
    ∃ q s m, (∀ a, (st'.procs a).accepted = (st.procs a).accepted ++ if a = q then [(s, m)] else []) ∧
      Booked st st' t q s m := by
  rcases clientStep_procs h with ⟨(⟨e, _⟩ | ⟨tr, e, _⟩ | ⟨p, e, _⟩), h1, h2, h3, _⟩ |
    ⟨p, r, e, _, _, _, h1, h2, h3, (⟨l, rfl, _⟩ | ⟨l, rfl, _⟩)⟩ | ⟨p, s, m, e, _, _, _, _, _, _, hk⟩ <;> rw [e]
  · exact .inl ⟨fun _ => rfl, h1, h2, h3⟩
  · exact .inl ⟨upd_field Proc.accepted _ (by rw [hb _ (Nat.le_refl _)]), h1, h2, h3⟩
  · exact .inl ⟨upd_field Proc.accepted _ rfl, h1, h2, h3⟩
  · exact .inl ⟨upd_field Proc.accepted _ rfl, h1, h2, h3⟩
  · exact .inl ⟨upd_field Proc.accepted _ rfl, h1, h2, h3⟩
  · exact .inr ⟨p, s, m, fun a => by rw [upd_push], hk⟩

/-- How often the books say the notice `x` was delivered to `a`: the terminating task counts its own deliveries in its
`sentL` / `sentM`, a client task the `noproc` notice it sends for a late entry in `sentNL` / `sentNM`. -/
def booked (st : St) (a : Pid) : Msg → Nat
  | .exit p => (st.procs p).sentL.count a
  | .monExit p r => (st.procs p).sentM.count (a, r)
  | .exitNoproc p => st.sentNL.count (p, a)
  | .monNoproc p r => st.sentNM.count (p, (a, r))
  | .regular _ _ => 0

/-- A step keeps "accepted as often as booked" for every receiver and every notice: a delivery is one more on both sides.
`ExitCount`, `MonCount` (below) and `ExitNCount`, `MonNCount` (Lemmas/ProcsLate.lean) are this for the four kinds of
notice. -/
theorem booked_client {st st' : St} {t : Tid} (hb : Blank st) (h : clientStep st t = some st') (a : Pid) {x : Msg}
    (hx : ∀ i f, x ≠ .regular i f) (hi : st.timesAccepted a x = booked st a x) : st'.timesAccepted a x = booked st' a x := by
  have hs : ∀ p, (st'.procs p).sentL = (st.procs p).sentL ∧ (st'.procs p).sentM = (st.procs p).sentM := fun p => by
    obtain ⟨_, _, _, _, _, _, _, e⟩ := clientStep_ghost hb h p
    rw [e]; exact ⟨rfl, rfl⟩
  unfold St.timesAccepted at hi ⊢
  rcases clientStep_accepted hb h with ⟨ha, _, h1, h2⟩ |
    ⟨q, s, m, ha, (⟨i, f, rfl, rfl, _, h1, h2⟩ | ⟨b, rfl, rfl, _, h1, h2⟩ | ⟨b, r, rfl, rfl, _, h1, h2⟩)⟩
  · rw [ha, hi]; cases x <;> simp only [booked, hs, h1, h2]
  all_goals
    rw [ha, count_grow, hi]
    cases x
    case regular => exact absurd rfl (hx _ _)
    all_goals simp [booked, hs, h1, h2, List.count_append, List.count_singleton]
  -- both sides count the delivery under the same equations, written in different order
  all_goals simp only [and_comm, and_left_comm, eq_comm]

theorem booked_proc {st st' : St} {p : Pid} {k : Nat} (h : procStep st p k = some st') (a : Pid) (x : Msg)
    (hi : st.timesAccepted a x = booked st a x) : st'.timesAccepted a x = booked st' a x := by
  obtain ⟨_, _, h1, _, _, h2, _⟩ := procStep_late h
  unfold St.timesAccepted at hi ⊢
  rcases procStep_accepted h with ha | ⟨b, _, _, ha⟩ | ⟨b, r, _, _, ha⟩
  · rw [(ha a).1, hi]; cases x <;> simp only [booked, ha, h1, h2]
  all_goals
    rw [(ha a).1, count_grow, hi]
    cases x <;> simp [booked, ha, h1, h2, List.count_append, count_opt]
  all_goals simp only [and_comm, and_left_comm, eq_comm]

def Fifo (st : St) : Prop := ∀ p, (st.procs p).accepted.map (·.2) = (st.procs p).handled ++ (st.procs p).mailbox

theorem fifo_client {st st' : St} {t : Tid} (hi : Fifo st) (h : clientStep st t = some st') : Fifo st' := by
  intro q
  rcases clientStep_procs h with ⟨(⟨e, _⟩ | ⟨tr, e, _⟩ | ⟨p, e, _⟩), _⟩ | ⟨p, r, e, _, _, _, _, _, _, (⟨l, rfl, _⟩ | ⟨l, rfl, _⟩)⟩ |
    ⟨p, s, m, e, _⟩ <;> rw [e]
  · exact hi q
  · rw [upd_apply]; split
    · rfl
    · exact hi q
  case inr.inr =>
    rw [upd_push]
    simp only [List.map_append, hi q, List.append_assoc]
    split <;> rfl
  all_goals
    rw [upd_apply]; split
    · subst q; exact hi p
    · exact hi q

theorem fifo_proc {st st' : St} {p : Pid} {k : Nat} (hi : Fifo st) (h : procStep st p k = some st') : Fifo st' := by
  intro q
  by_cases hq : q = p
  · subst hq
    rcases procStep_queue h with ⟨_, m, hm, hh, ha⟩ | ⟨hh, d, hm, ha⟩
    · rw [ha, hh, hi q, hm, List.append_assoc]; rfl
    · rw [ha, hh, hm, List.map_append, hi q, List.append_assoc]
  · rcases procStep_other h hq with e | ⟨m, _, _, e⟩ <;> rw [e]
    · exact hi q
    · simp only [Proc.push, List.map_append, hi q, List.append_assoc]; rfl

def SenderOrder (st : St) : Prop := ∀ t p, st.acceptedFrom p t = st.sentTo t p

theorem senderOrder_client {st st' : St} {t : Tid} (hb : Blank st) (hi : SenderOrder st) (h : clientStep st t = some st') :
    SenderOrder st' := by
  intro t' q
  have hq := hi t' q
  simp only [St.acceptedFrom, St.sentTo] at hq ⊢
  rcases clientStep_accepted hb h with ⟨ha, hs, _⟩ |
    ⟨p, s, m, ha, (⟨i, f, rfl, rfl, hs, _⟩ | ⟨a, rfl, rfl, hs, _⟩ | ⟨b, r, rfl, rfl, hs, _⟩)⟩ <;> rw [ha, hs]
  · exact hq
  · -- a `send` of `t`: one more entry on both sides exactly for the pair (`t`, receiver)
    rw [upd_apply, List.filterMap_append, hq]
    by_cases ht : t' = t <;> by_cases hp : q = p
    · simp [ht, hp]
    · simp [ht, hp]; exact fun e => hp e.symm
    · simp [ht, hp]; exact fun e => ht e.symm
    · simp [ht, hp]
  -- a `noproc` notice comes from `.late t`, not from `.client _`: whether or not `q` is its receiver, `acceptedFrom`
  -- does not see it
  all_goals
    rw [List.filterMap_append, hq]
    split <;> simp

theorem senderOrder_proc {st st' : St} {p : Pid} {k : Nat} (hi : SenderOrder st) (h : procStep st p k = some st') :
    SenderOrder st' := by
  intro t' q
  have hq := hi t' q
  simp only [St.acceptedFrom, St.sentTo] at hq ⊢
  rw [(procStep_globals h).2.1]
  rcases procStep_accepted h with ha | ⟨b, _, _, ha⟩ | ⟨b, r, _, _, ha⟩ <;> rw [(ha q).1]
  · exact hq
  -- an exit or monitor notice comes from `.proc p`: `acceptedFrom` does not see it
  all_goals
    rw [List.filterMap_append, hq]
    split <;> simp

/-- p-local conservation: every process of the link snapshot is still to be visited, was sent the notice, or was skipped -/
def LinkCons (st : St) : Prop := ∀ p a,
  ((st.procs p).pc.startedL = true →
    (st.procs p).pc.todoL.count a + (st.procs p).sentL.count a + (st.procs p).skipL.count a = (st.procs p).snapL.count a) ∧
  ((st.procs p).pc.startedL = false → (st.procs p).sentL = [] ∧ (st.procs p).skipL = [])

theorem todoL_of_not_started {pc : PPc} (h : pc.startedL = false) : pc.todoL = [] := by
  cases pc <;> first | rfl | cases h

theorem linkCons_client {st st' : St} {t : Tid} (hi : LinkCons st) (h : clientStep st t = some st') : LinkCons st' := by
  intro q a
  rcases clientStep_own h q with ⟨_, tr, e⟩ | ⟨_, _, _, _, _, e⟩ <;> rw [e]
  · simp [PPc.startedL]
  · exact hi q a

theorem linkCons_proc {st st' : St} {p : Pid} {k : Nat} (hi : LinkCons st) (h : procStep st p k = some st') : LinkCons st' := by
  intro q a
  by_cases hq : q = p
  · subst hq
    rcases procStep_phaseL h with ⟨hpc, e⟩ | ⟨hs, _, hn, _, _, hv⟩
    · -- the snapshot is taken: everything is still to do
      have := (hi q a).2 (by rw [hpc]; rfl)
      rw [e]; simp [PPc.startedL, PPc.todoL, this]
    · rw [hs, hn]; exact hv.cons todoL_of_not_started (hi q a)
  · obtain ⟨_, _, e⟩ := procStep_own h hq
    rw [e]; exact hi q a

/-- the notices in a mailbox's history are the ones the terminated process counted -/
def ExitCount (st : St) : Prop := ∀ p a, st.timesAccepted a (.exit p) = (st.procs p).sentL.count a

theorem nodup_setIns {α : Type} [DecidableEq α] {x : α} {l : List α} (h : l.Nodup) : (setIns x l).Nodup := by
  unfold setIns
  split
  · exact h
  · exact nodup_snoc h ‹_›

theorem SetEdit.nodup {α β : Type} [DecidableEq α] {closed : Bool} {l l' : List α} {e : α → β} {late late' : List β}
    (h : SetEdit closed l l' e late late') (hl : l.Nodup) : l'.Nodup := by
  rcases h with ⟨x, _, hx, rfl, _⟩ | ⟨_, (⟨x, _, rfl⟩ | ⟨_, f, rfl⟩)⟩
  · exact nodup_snoc hl hx
  · exact nodup_setIns hl
  · exact hl.filter f

def LinksNodup (st : St) : Prop := ∀ p, (st.procs p).links.Nodup ∧ (st.procs p).snapL.Nodup ∧
  (st.procs p).monitors.Nodup ∧ (st.procs p).snapM.Nodup

theorem linksNodup_client {st st' : St} {t : Tid} (hi : LinksNodup st) (h : clientStep st t = some st') : LinksNodup st' := by
  intro q
  rcases clientStep_procs h with ⟨(⟨e, _⟩ | ⟨tr, e, _⟩ | ⟨p, e, _⟩), _⟩ |
    ⟨p, r, e, _, _, _, _, _, _, (⟨l, rfl, _, hl⟩ | ⟨l, rfl, _, hl⟩)⟩ | ⟨p, s, m, e, _⟩ <;> rw [e]
  · exact hi q
  · rw [upd_apply]; split
    · simp
    · exact hi q
  all_goals
    rw [upd_apply]; split
    · subst q
      first
        | exact hi p
        | exact ⟨hl.nodup (hi p).1, (hi p).2⟩
        | exact ⟨(hi p).1, (hi p).2.1, hl.nodup (hi p).2.2.1, (hi p).2.2.2⟩
    · exact hi q

theorem linksNodup_proc {st st' : St} {p : Pid} {k : Nat} (hi : LinksNodup st) (h : procStep st p k = some st') : LinksNodup st' := by
  intro q
  by_cases hq : q = p
  · subst hq
    obtain ⟨h1, h2, h3, h4⟩ := hi q
    rcases procStep_phaseL h with ⟨_, e⟩ | ⟨_, _, el, _, ek, _⟩
    · rw [e]; exact ⟨h1, h1, h3, h4⟩
    · rcases procStep_phaseM h with ⟨_, e⟩ | ⟨_, _, em, _, en, _⟩
      · rw [e]; exact ⟨h1, h2, h3, h3⟩
      · rw [el, ek, em, en]; exact ⟨h1, h2, h3, h4⟩
  · obtain ⟨_, _, e⟩ := procStep_own h hq
    rw [e]; exact hi q

theorem clientStep_alive {st st' : St} {t : Tid} (hb : Blank st) (h : clientStep st t = some st') :
    (∀ a, (st.procs a).pc.gone = true → (st'.procs a).pc.gone = true) ∧
    (∀ a, a ∈ st.byPid → a ∈ st'.byPid ∨ (st'.procs a).pc.gone = true) := by
  refine ⟨fun a ha => ?_, fun a ha => .inl ?_⟩
  · rcases clientStep_own h a with ⟨rfl, _⟩ | ⟨_, _, _, _, _, e⟩
    · rw [hb _ (Nat.le_refl _)] at ha; cases ha
    · rw [e]; exact ha
  · exact clientStep_byPid_mono h ha

theorem procStep_alive {st st' : St} {p : Pid} {k : Nat} (h : procStep st p k = some st') :
    (∀ a, (st.procs a).pc.gone = true → (st'.procs a).pc.gone = true) ∧
    (∀ a, a ∈ st.byPid → a ∈ st'.byPid ∨ (st'.procs a).pc.gone = true) := by
  refine ⟨fun a ha => ?_, fun a ha => ?_⟩
  · by_cases hap : a = p
    · subst hap; exact procStep_gone h ha
    · rw [(procStep_record h hap).1]; exact ha
  · rcases procStep_byPid h with ⟨e, _⟩ | ⟨_, e, hp⟩
    · rw [e]; exact .inl ha
    · by_cases hap : a = p
      · subst hap; rw [hp]; exact .inr rfl
      · rw [e]; exact .inl (mem_pidDel.mpr ⟨ha, hap⟩)

/-- The entries a `Visit` step skips stand for processes (`tgt`) that were not in the snapshot `V` of `by_pid` or are gone
after the step, given that this held for the entries skipped before and that the snapshot lists only registered or gone
processes. -/
theorem Visit.skip_dead {α : Type} {tgt : α → Pid} {byPid V : List Pid} {closed gone gone' : Pid → Bool}
    {T S K T' S' K' : List α} (hv : Visit (tgt · ∈ byPid) (closed <| tgt ·) T S K T' S' K')
    (hg : ∀ a, gone a = true → gone' a = true) (hc : ∀ a, closed a = true → gone a = true)
    (h1 : ∀ x, x ∈ K → tgt x ∉ V ∨ gone (tgt x) = true) (h2 : ∀ a, a ∈ V → a ∈ byPid ∨ gone a = true)
    {x : α} (hx : x ∈ K') : tgt x ∉ V ∨ gone' (tgt x) = true := by
  rcases hv.skip hx with hx | hx | hx
  · exact (h1 x hx).imp_right (hg _)
  · by_cases hxv : tgt x ∈ V
    · exact (h2 _ hxv).elim (fun h => absurd h hx) (fun h => .inr (hg _ h))
    · exact .inl hxv
  · exact .inr (hg _ (hc _ hx))

/-- A link target the terminating task skipped (`registry.get` found nothing, or the mailbox was closed) was not in
`by_pid` when `get_links` ran (`liveL`) or is past its own `by_pid.remove` now; and what was in `by_pid` then is there
still or is past that point. So no live process of the snapshot goes without its notice. -/
def SkipInv (st : St) : Prop :=
  (∀ p a, a ∈ (st.procs p).skipL → a ∉ (st.procs p).liveL ∨ (st.procs a).pc.gone = true) ∧
  (∀ p a, a ∈ (st.procs p).liveL → a ∈ st.byPid ∨ (st.procs a).pc.gone = true)

theorem skipInv_client {st st' : St} {t : Tid} (hb : Blank st) (hi : SkipInv st) (h : clientStep st t = some st') : SkipInv st' := by
  obtain ⟨hg, hm⟩ := clientStep_alive hb h
  refine ⟨fun q a ha => ?_, fun q a ha => ?_⟩ <;> obtain ⟨_, _, _, _, _, _, _, e⟩ := clientStep_ghost hb h q <;>
    rw [e] at ha
  · rw [e]; exact (hi.1 q a ha).imp_right (hg a)
  · exact (hi.2 q a ha).elim (hm a) (fun h => .inr (hg a h))

theorem skipInv_proc {st st' : St} {p : Pid} {k : Nat} (hr : RegInv st) (hc : LinkCons st) (hi : SkipInv st)
    (h : procStep st p k = some st') : SkipInv st' := by
  obtain ⟨hg, hm⟩ := procStep_alive h
  have h2 : ∀ q a, a ∈ (st.procs q).liveL → a ∈ st'.byPid ∨ (st'.procs a).pc.gone = true := fun q a ha =>
    (hi.2 q a ha).elim (hm a) (fun h => .inr (hg a h))
  refine ⟨fun q a ha => ?_, fun q a ha => ?_⟩ <;> by_cases hq : q = p
  · subst hq
    rcases procStep_phaseL h with ⟨hpc, e⟩ | ⟨_, _, _, hl, _, hv⟩
    · -- nothing was skipped before the snapshot
      rw [e] at ha
      rw [((hc q a).2 (by rw [hpc]; rfl)).2] at ha; cases ha
    · rw [hl]
      exact hv.skip_dead (tgt := id) (gone := fun a => (st.procs a).pc.gone) hg
        (fun a ha => by rw [hr.closedDead a ha]; rfl) (hi.1 q) (hi.2 q) ha
  · obtain ⟨_, _, e⟩ := procStep_own h hq
    rw [e] at ha ⊢; exact (hi.1 q a ha).imp_right (hg a)
  · subst hq
    rcases procStep_phaseL h with ⟨_, e⟩ | ⟨_, _, _, hl, _, _⟩
    · rw [e] at ha; exact hm a ha
    · rw [hl] at ha; exact h2 q a ha
  · obtain ⟨_, _, e⟩ := procStep_own h hq
    rw [e] at ha; exact h2 q a ha

/-- `LinkCons` for the monitor notices; an entry is a pair `(watcher, reference)` -/
def MonCons (st : St) : Prop := ∀ p (x : Pid × Ref),
  ((st.procs p).pc.linksDone = true →
    (st.procs p).pc.todoM.count x + (st.procs p).sentM.count x + (st.procs p).skipM.count x = (st.procs p).snapM.count x) ∧
  ((st.procs p).pc.linksDone = false → (st.procs p).sentM = [] ∧ (st.procs p).skipM = [])

theorem todoM_of_not_linksDone {pc : PPc} (h : pc.linksDone = false) : pc.todoM = [] := by
  cases pc <;> first | rfl | cases h

theorem monCons_client {st st' : St} {t : Tid} (hi : MonCons st) (h : clientStep st t = some st') : MonCons st' := by
  intro q x
  rcases clientStep_own h q with ⟨_, tr, e⟩ | ⟨_, _, _, _, _, e⟩ <;> rw [e]
  · simp [PPc.linksDone]
  · exact hi q x

theorem monCons_proc {st st' : St} {p : Pid} {k : Nat} (hi : MonCons st) (h : procStep st p k = some st') : MonCons st' := by
  intro q x
  by_cases hq : q = p
  · subst hq
    rcases procStep_phaseM h with ⟨hpc, e⟩ | ⟨hs, _, hn, _, _, hv⟩
    · have := (hi q x).2 (by rw [hpc]; rfl)
      rw [e]; simp [PPc.linksDone, PPc.todoM, this]
    · rw [hs, hn]; exact hv.cons todoM_of_not_linksDone (hi q x)
  · obtain ⟨_, _, e⟩ := procStep_own h hq
    rw [e]; exact hi q x

def MonCount (st : St) : Prop := ∀ p a r, st.timesAccepted a (.monExit p r) = (st.procs p).sentM.count (a, r)

def SkipInvM (st : St) : Prop :=
  (∀ p (x : Pid × Ref), x ∈ (st.procs p).skipM → x.1 ∉ (st.procs p).liveM ∨ (st.procs x.1).pc.gone = true) ∧
  (∀ p a, a ∈ (st.procs p).liveM → a ∈ st.byPid ∨ (st.procs a).pc.gone = true)

theorem skipInvM_client {st st' : St} {t : Tid} (hb : Blank st) (hi : SkipInvM st) (h : clientStep st t = some st') : SkipInvM st' := by
  obtain ⟨hg, hm⟩ := clientStep_alive hb h
  refine ⟨fun q x ha => ?_, fun q a ha => ?_⟩ <;> obtain ⟨_, _, _, _, _, _, _, e⟩ := clientStep_ghost hb h q <;>
    rw [e] at ha
  · rw [e]; exact (hi.1 q x ha).imp_right (hg _)
  · exact (hi.2 q a ha).elim (hm a) (fun h => .inr (hg a h))

theorem skipInvM_proc {st st' : St} {p : Pid} {k : Nat} (hr : RegInv st) (hc : MonCons st) (hi : SkipInvM st)
    (h : procStep st p k = some st') : SkipInvM st' := by
  obtain ⟨hg, hm⟩ := procStep_alive h
  have h2 : ∀ q a, a ∈ (st.procs q).liveM → a ∈ st'.byPid ∨ (st'.procs a).pc.gone = true := fun q a ha =>
    (hi.2 q a ha).elim (hm a) (fun h => .inr (hg a h))
  refine ⟨fun q x ha => ?_, fun q a ha => ?_⟩ <;> by_cases hq : q = p
  · subst hq
    rcases procStep_phaseM h with ⟨hpc, e⟩ | ⟨_, _, _, hl, _, hv⟩
    · rw [e] at ha
      rw [((hc q x).2 (by rw [hpc]; rfl)).2] at ha; cases ha
    · rw [hl]
      exact hv.skip_dead (tgt := Prod.fst) (gone := fun a => (st.procs a).pc.gone) hg
        (fun a ha => by rw [hr.closedDead a ha]; rfl) (hi.1 q) (hi.2 q) ha
  · obtain ⟨_, _, e⟩ := procStep_own h hq
    rw [e] at ha ⊢; exact (hi.1 q x ha).imp_right (hg _)
  · subst hq
    rcases procStep_phaseM h with ⟨_, e⟩ | ⟨_, _, _, hl, _, _⟩
    · rw [e] at ha; exact hm a ha
    · rw [hl] at ha; exact h2 q a ha
  · obtain ⟨_, _, e⟩ := procStep_own h hq
    rw [e] at ha; exact h2 q a ha

/-- What holds after every schedule (`allInv_run`), apart from late entries (`AllInv2`). What each part rules out:
* `reg`, `blank`: see `RegInv`, `Blank`;
* `fifo`: a message accepted by a mailbox that is lost, handled twice or handled out of order
  (`accepted = handled ++ mailbox`);
* `order`: a `send` that returned `Ok` and is missing from the receiver's history, or two `send`s of one task to one
  process accepted in the other order;
* `names`: a name twice in `by_name`;
* `linkCons`, `monCons`: an entry of the snapshot `get_links` (`get_monitors`) took that the loop forgets or visits twice;
* `exitCount`, `monCount`: an `Exit` (`MonitorExit`) in a mailbox that the terminating task did not send, or sent once and
  delivered twice;
* `nodup`: an entry twice in a link or monitor set;
* `skip`, `skipM`: a target skipped although it was alive, see `SkipInv`. -/
structure AllInv (st : St) : Prop where
  reg : RegInv st
  blank : Blank st
  fifo : Fifo st
  order : SenderOrder st
  names : NamesUnique st
  linkCons : LinkCons st
  exitCount : ExitCount st
  nodup : LinksNodup st
  skip : SkipInv st
  monCons : MonCons st
  monCount : MonCount st
  skipM : SkipInvM st

theorem allInv_init (cap : Nat) : AllInv (St.init cap) := by
  refine ⟨regInv_init cap, ?_, ?_, ?_, ?_, ?_, ?_, ?_, ?_, ?_, ?_, ?_⟩
  · intro q _; rfl
  · intro p; rfl
  · intro t p; rfl
  · simp [NamesUnique, St.init]
  · intro p a; simp [St.init, PPc.startedL]
  · intro p a; simp [St.init, St.timesAccepted]
  · intro p; simp [St.init]
  · constructor <;> simp [St.init]
  · intro p a; simp [St.init, PPc.linksDone]
  · intro p a r; simp [St.init, St.timesAccepted]
  · constructor <;> simp [St.init]

theorem allInv_step : ∀ st e st', AllInv st → stepEv st e = some st' → AllInv st' := by
  intro st e st' hi h
  have hreg := regInv_step st e st' hi.reg h
  have hnames := namesUnique_step st e st' hi.names h
  cases e with
  | start t op =>
    obtain ⟨_, rfl⟩ := stepEv_start h
    exact ⟨hreg, hi.blank, hi.fifo, hi.order, hnames, hi.linkCons, hi.exitCount, hi.nodup, hi.skip, hi.monCons, hi.monCount, hi.skipM⟩
  | cont t =>
    exact ⟨hreg, blank_client hi.reg hi.blank h, fifo_client hi.fifo h, senderOrder_client hi.blank hi.order h, hnames,
      linkCons_client hi.linkCons h, fun p a => booked_client hi.blank h a nofun (hi.exitCount p a), linksNodup_client hi.nodup h,
      skipInv_client hi.blank hi.skip h, monCons_client hi.monCons h,
      fun p a r => booked_client hi.blank h a nofun (hi.monCount p a r),
      skipInvM_client hi.blank hi.skipM h⟩
  | proc p k =>
    exact ⟨hreg, blank_proc hi.reg hi.blank h, fifo_proc hi.fifo h, senderOrder_proc hi.order h, hnames,
      linkCons_proc hi.linkCons h, fun p a => booked_proc h a _ (hi.exitCount p a), linksNodup_proc hi.nodup h,
      skipInv_proc hi.reg hi.linkCons hi.skip h, monCons_proc hi.monCons h, fun p a r => booked_proc h a _ (hi.monCount p a r),
      skipInvM_proc hi.reg hi.monCons hi.skipM h⟩

theorem allInv_run (cap : Nat) (evs : List Ev) : AllInv (run (St.init cap) evs) :=
  run_induct evs _ (allInv_init cap) allInv_step

theorem fifo_run (cap : Nat) (evs : List Ev) : Fifo (run (St.init cap) evs) := (allInv_run cap evs).fifo

theorem senderOrder_run (cap : Nat) (evs : List Ev) : SenderOrder (run (St.init cap) evs) := (allInv_run cap evs).order

theorem blank_run (cap : Nat) (evs : List Ev) : Blank (run (St.init cap) evs) := (allInv_run cap evs).blank

theorem linksDone_started {pc : PPc} (h : pc.linksDone = true) : pc.startedL = true ∧ pc.todoL = [] := by
  cases pc <;> simp_all [PPc.linksDone, PPc.startedL, PPc.todoL]

theorem monsDone_linksDone {pc : PPc} (h : pc.monsDone = true) : pc.linksDone = true ∧ pc.todoM = [] := by
  cases pc <;> simp_all [PPc.linksDone, PPc.monsDone, PPc.todoM]

end Edp.Impl.Procs
