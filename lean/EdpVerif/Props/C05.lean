import EdpVerif.Lemmas.FramingTimeout
import EdpVerif.Lemmas.FramingWrite
/-
C05 — framing is invariant under how the transport splits the byte stream.
Property theorems only; the model is EdpVerif/Impl/Framing.lean, helper lemmas are in EdpVerif/Lemmas/Framing.lean
(read side), FramingTimeout.lean (the retrying caller) and FramingWrite.lean (write side).

Vocabulary: a read script `evs : List Ev` says what every successive `poll_read` of the transport does; `Clean evs`
means it only returns `Pending` or a non-empty read (a live connection); `payload evs` is the byte stream it delivers;
an exhausted script is end of stream. `readAll cap mode evs` calls `read_framed` until its first error and lists every
result; `recvAll cap evs` does the same with the second copy of the loop (`receive_message_from_read_half`).
-/
namespace Edp.Props.C05
open Edp Edp.Framing

/-- the constants and step orders the translator reads from framing.rs / connection.rs / transport.rs are the ones the
model is written for, and the protocol's: a 2-byte prefix during the handshake and a 4-byte prefix afterwards in all
five places that deal with it (`length_prefix_size`, `frame_message`, `write_framed`, `read_framed`, the second copy);
the caps are the model's (`framingCap`, `connCap` ARE the generated values) and lie below what the prefix can say, so
the cap test is never vacuous; `read_framed` and the second copy test for the tick and the cap BEFORE they allocate
and read the body; `write_framed` writes length, data, flush in this order; every socket read of the second copy and
every operation of `FramedTransport` sits under a timeout whose error is classified as recoverable (the premise of
the timeout theorems below). -/
theorem C05_model_constants_are_the_sources :
    Gen.FRAME_PREFIX_SIZE = (Mode.prefixSize .handshake, Mode.prefixSize .distribution) ∧
    Gen.FRAME_PREFIX_SIZE = (2, 4) ∧
    Gen.FRAME_MESSAGE_WIDTH = Gen.FRAME_PREFIX_SIZE ∧ Gen.WRITE_FRAMED_WIDTH = Gen.FRAME_PREFIX_SIZE ∧
    Gen.READ_FRAMED_WIDTH = Gen.FRAME_PREFIX_SIZE ∧ Gen.RH_PREFIX_WIDTH = Mode.prefixSize .distribution ∧
    framingCap = Gen.FRAMING_MAX_MESSAGE_SIZE ∧ connCap = Gen.CONN_MAX_MESSAGE_SIZE ∧
    0 < connCap ∧ connCap ≤ framingCap ∧ framingCap < 256 ^ Mode.prefixSize .distribution ∧
    Gen.CONN_PASS_THROUGH = 112 ∧
    Gen.READ_FRAMED_STEPS = ["len", "tick", "cap", "alloc", "body"] ∧
    Gen.RH_STEPS = ["len", "tick", "cap", "alloc", "body", "marker", "decode"] ∧
    Gen.WRITE_FRAMED_STEPS = ["len", "data", "flush"] ∧
    Gen.RH_TIMEOUT_READS = 2 ∧ Gen.RH_TICK_CONTINUES = true ∧ Gen.TRANSPORT_OPS_UNDER_TIMEOUT = true ∧
    Gen.TIMEOUT_IS_RECOVERABLE = true ∧ Gen.SEND_RAW_CHECKS_CAP = true := by
  decide

/-- the streaming writer puts the one-shot frame on the wire, through every sink behaviour (partial acceptance,
`Pending`, zero writes, failures, a stall that outlasts the write timeout — at every position) and every behaviour of
`poll_flush`: what the sink accepted is always a prefix of `frame_message`'s bytes; on success it is all of them,
followed by exactly one completed flush; on failure no flush completed, and either strictly fewer bytes were accepted
or the error is the flush's; fewer bytes than the frame on the wire always come with an error (never a silent short
frame); and a sink that never fails, stalls or accepts zero bytes makes it succeed. -/
theorem C05_writer_eq_oneshot (mode : Mode) (msg : Bytes) (s : List WEv) (fl : List FEv) :
    (writeFramed mode msg s fl).chunks.flatten <+: frame mode msg ∧
    ((writeFramed mode msg s fl).res = .ok () →
      (writeFramed mode msg s fl).chunks.flatten = frame mode msg ∧ (writeFramed mode msg s fl).flushes = 1) ∧
    (∀ e, (writeFramed mode msg s fl).res = .error e → (writeFramed mode msg s fl).flushes = 0 ∧
      ((writeFramed mode msg s fl).chunks.flatten.length < (frame mode msg).length ∨ (flushAll fl).1 = .error e)) ∧
    ((writeFramed mode msg s fl).chunks.flatten.length < (frame mode msg).length →
      ∃ e, (writeFramed mode msg s fl).res = .error e) ∧
    (GoodSink s → GoodFlush fl → (writeFramed mode msg s fl).res = .ok ()) := by
  obtain ⟨h1, h2, h3, h4⟩ := writeFramed_spec mode msg s fl
  exact ⟨h1, h2, h3, h4, fun hs hf => (writeFramed_good mode msg s fl hs hf).1⟩

example : GoodSink [.accept 1, .pending, .accept 3] := by simp [GoodSink]
example : GoodFlush [.pending, .done] := by simp [GoodFlush]
example : (writeFramed .handshake [7, 8] [.accept 1, .pending, .accept 3]).chunks = [[0], [2], [7, 8]] := by decide
example : (writeFramed .distribution [7, 8] [.accept 3, .accept 0]).chunks = [[0, 0, 0]] := by decide
example : (writeFramed .handshake [7] [] [.pending, .fail]).res = .error .io ∧
    (writeFramed .handshake [7] [] [.pending, .fail]).chunks.flatten = frame .handshake [7] := ⟨by rfl, by decide⟩
example : (writeFramed .handshake [7] [.accept 2, .stall]).res = .error .timeout ∧
    (writeFramed .handshake [7] [.accept 2, .stall]).chunks = [[0, 1]] := ⟨by rfl, by decide⟩

/-- **Write, then read.** Messages that fit, written one after the other by the streaming writer through any sink that
does not fail (however it splits and delays the acceptance), arrive on a wire that any clean transport — whatever ITS
segmentation — turns back into exactly these messages, in order, then end of stream; every write reports success. -/
theorem C05_write_then_read (mode : Mode) (msgs : List Bytes)
    (h : ∀ m ∈ msgs, fits mode m ∧ m.length ≤ framingCap) (s : List WEv) (fl : List FEv) (hs : GoodSink s)
    (hf : GoodFlush fl) (evs : List Ev) (hc : Clean evs)
    (hp : payload evs = (writeMany mode msgs s fl).2.flatten) :
    (writeMany mode msgs s fl).1 = msgs.map (fun _ => .ok ()) ∧
      readAll framingCap mode evs = msgs.map .ok ++ [.error .eof] := by
  obtain ⟨w1, w2⟩ := writeMany_good mode msgs s fl hs hf
  refine ⟨w1, ?_⟩
  simpa [readAll_nil] using readAll_clean framingCap mode [] msgs evs h hc (by rw [hp, w2])

example : (writeMany .handshake [[7], []] [.accept 1, .pending, .accept 1, .accept 1] [.pending]).2
    = [[0], [1], [7], [0, 0]] := by decide

/-- **The property fails for a write that outlasts the write timeout.** `FramedTransport::write` is
`timeout(d, write_framed)`; when it fires after the sink took part of the frame, that part stays on the wire,
`Error::Timeout` is classified as recoverable, and the caller's retry puts a whole frame behind the partial one. The
peer reads two messages, neither of which was sent. -/
theorem C05_not_write_delay_invariant :
    ∃ (msg : Bytes) (s : List WEv), fits .handshake msg ∧ msg.length ≤ framingCap ∧
      (∀ e ∈ s, e ≠ .fail ∧ e ≠ .accept 0) ∧
      (writeMany .handshake [msg, msg] s []).1 = [.error .timeout, .ok ()] ∧
      readAll framingCap .handshake ((writeMany .handshake [msg, msg] s []).2.map .chunk)
        = [.ok [0, 0, 3], .ok [7], .error .eof] ∧ [0, 0, 3] ≠ msg ∧ [7] ≠ msg :=
  ⟨[0, 1, 7], [.accept 2, .accept 1, .stall], by decide, by decide, by decide, by rfl, by rfl, by decide, by decide⟩

/-- what remains true: as long as no write or flush stalls past the timeout (guard: no `stall` event; failures, zero
writes, partial acceptance allowed), no write reports `Timeout` and the wire is a prefix of the frames of the
messages, in order — a reader sees messages that were sent, then at worst an end of stream inside a frame. -/
theorem C05_write_delay_partial (mode : Mode) (msgs : List Bytes) (s : List WEv) (fl : List FEv)
    (hs : ∀ e ∈ s, e ≠ WEv.stall) (hf : ∀ e ∈ fl, e ≠ FEv.stall) :
    (∀ r ∈ (writeMany mode msgs s fl).1, r ≠ .error .timeout) ∧
      (writeMany mode msgs s fl).2.flatten <+: (msgs.map (frame mode)).flatten :=
  writeMany_nostall mode msgs s fl hs hf

example : (writeMany .handshake [[7], [8]] [.accept 2, .fail] []) = ([.error .io], [[0, 1]]) := by rfl

/-- **Split invariance.** For every list of messages that fit the length prefix and the cap, and every clean script
whose byte stream is the concatenation of their frames — however it is cut into reads, with `Pending` anywhere —
`read_framed` returns exactly the messages, in order, and then reports end of stream. -/
theorem C05_split_invariance (mode : Mode) (msgs : List Bytes)
    (h : ∀ m ∈ msgs, fits mode m ∧ m.length ≤ framingCap) (evs : List Ev) (hc : Clean evs)
    (hp : payload evs = (msgs.map (frame mode)).flatten) :
    readAll framingCap mode evs = msgs.map .ok ++ [.error .eof] := by
  simpa [readAll_nil] using readAll_clean framingCap mode [] msgs evs h hc hp

example : readAll framingCap .handshake [.chunk [0], .pending, .chunk [1, 7, 0], .chunk [0]]
    = [.ok [7], .ok []] ++ [.error .eof] :=
  C05_split_invariance .handshake [[7], []] (by decide) _ (by simp [Clean]) (by decide)

/-- the same in compositional form: whatever follows the frames in the script (more data, end of stream, a failure) is
seen by the reads that follow, untouched -/
theorem C05_split_invariance_then (mode : Mode) (msgs : List Bytes)
    (h : ∀ m ∈ msgs, fits mode m ∧ m.length ≤ framingCap) (c tail : List Ev) (hc : Clean c)
    (hp : payload c = (msgs.map (frame mode)).flatten) :
    readAll framingCap mode (c ++ tail) = msgs.map .ok ++ readAll framingCap mode tail :=
  readAll_clean framingCap mode tail msgs c h hc hp

example : readAll framingCap .distribution ([.chunk [0, 0], .chunk [0, 1, 9]] ++ [.fail])
    = [.ok [9]] ++ readAll framingCap .distribution [.fail] :=
  C05_split_invariance_then .distribution [[9]] (by decide) _ _ (by simp [Clean]) (by decide)

/-- two transports that deliver the same frames give the same results, whatever their segmentation -/
theorem C05_chunking_irrelevant (mode : Mode) (msgs : List Bytes)
    (h : ∀ m ∈ msgs, fits mode m ∧ m.length ≤ framingCap) (evs₁ evs₂ : List Ev) (hc₁ : Clean evs₁) (hc₂ : Clean evs₂)
    (hp₁ : payload evs₁ = (msgs.map (frame mode)).flatten) (hp₂ : payload evs₂ = (msgs.map (frame mode)).flatten) :
    readAll framingCap mode evs₁ = readAll framingCap mode evs₂ := by
  rw [C05_split_invariance mode msgs h evs₁ hc₁ hp₁, C05_split_invariance mode msgs h evs₂ hc₂ hp₂]

example : readAll framingCap .handshake [.chunk [0, 1, 5]] = readAll framingCap .handshake [.chunk [0], .pending, .chunk [1], .chunk [5]] :=
  C05_chunking_irrelevant .handshake [[5]] (by decide) _ _ (by simp [Clean]) (by simp [Clean]) (by decide) (by decide)

/-- **Never a short message (all scripts).** On every script whatsoever — end of stream, failures and empty reads
anywhere — a message returned by `read_framed` is exactly the next frame of the delivered stream: the declared length
is its length, it fits, it is within the cap, and the script that is left delivers exactly the bytes after the frame. -/
theorem C05_ok_is_exact_frame (mode : Mode) (evs : List Ev) (m : Bytes)
    (h : (readFramed framingCap mode evs).res = .ok m) :
    payload evs = frame mode m ++ payload (readFramed framingCap mode evs).rest ∧ fits mode m ∧
      m.length ≤ framingCap := by
  obtain ⟨h1, h2, h3, _⟩ := readFramed_ok framingCap mode evs m h
  exact ⟨h1, h2, h3⟩

example : (readFramed framingCap .handshake [.chunk [0], .chunk [2, 4], .pending, .chunk [4, 9]]).res = .ok [4, 4] := by rfl

/-- a zero length is a tick: an empty message, nothing allocated, the rest of the stream untouched -/
theorem C05_tick (mode : Mode) (c : List Ev) (rest : Bytes) (tail : List Ev) (hc : Clean c)
    (hp : payload c = frame mode [] ++ rest) :
    ∃ c', Clean c' ∧ payload c' = rest ∧ readFramed framingCap mode (c ++ tail) = ⟨.ok [], c' ++ tail, 0⟩ := by
  obtain ⟨c', k1, k2, k4⟩ := readFramed_clean framingCap mode c [] rest tail hc hp
    (fits_nil mode) (Nat.zero_le _)
  exact ⟨c', k1, k2, k4⟩

example : payload [.chunk [0, 0, 0], .pending, .chunk [0, 5]] = frame .distribution [] ++ [5] := by decide

/-- a declared length above the cap is refused as soon as the length bytes are in, whatever their chunking, and no body
buffer is requested (`allocRequested = 0`) -/
theorem C05_cap (c : List Ev) (len : Nat) (rest : Bytes) (tail : List Ev) (hc : Clean c)
    (hp : payload c = beN 4 len ++ rest) (hl : len < 2 ^ 32) (hcap : framingCap < len) :
    ∃ c', Clean c' ∧ payload c' = rest ∧
      readFramed framingCap .distribution (c ++ tail) = ⟨.error (.tooLarge len), c' ++ tail, 0⟩ :=
  readFramed_clean_overcap framingCap .distribution c len rest tail hc hp (by simpa [Mode.prefixSize] using hl) hcap

example : payload [.chunk [16, 0], .pending, .chunk [0, 1, 3]] = beN 4 (framingCap + 1) ++ [3] := by decide

/-- on every script, in both modes: the body buffer requested is never larger than the cap -/
theorem C05_alloc_bounded (mode : Mode) (evs : List Ev) :
    (readFramed framingCap mode evs).allocRequested ≤ framingCap :=
  readFramed_alloc_le framingCap mode evs

/-- **End of stream inside a frame is an error, never a short message**: a clean script that delivers a strict
prefix of a frame and then ends (script exhausted, or an explicit 0-byte read followed by anything) -/
theorem C05_eof_inside (mode : Mode) (c : List Ev) (m missing : Bytes) (tail : List Ev) (hc : Clean c)
    (hp : payload c ++ missing = frame mode m) (hmiss : missing ≠ []) (hf : fits mode m) (hcap : m.length ≤ framingCap)
    (ht : tail = [] ∨ ∃ t, tail = .eof :: t) :
    (readFramed framingCap mode (c ++ tail)).res = .error .eof :=
  readFramed_clean_short framingCap mode c m missing tail hc hp hmiss hf hcap ht

example : payload [.chunk [0], .pending, .chunk [3, 1]] ++ [2, 3] = frame .handshake [1, 2, 3] := by decide

/-- why the property is about messages that fit: `data.len() as u16` wraps, so a 65536-byte message in handshake mode is
framed with length 0 and reads back as a tick (followed by its bytes misread as frames) -/
theorem C05_unfit_length_wraps (msg : Bytes) (hl : msg.length = 65536) (c : List Ev) (hc : Clean c)
    (hp : payload c = frame .handshake msg) :
    ¬ fits .handshake msg ∧ (readFramed framingCap .handshake c).res = .ok [] := by
  refine ⟨by unfold fits; rw [hl]; decide, ?_⟩
  have hfr : frame .handshake msg = frame .handshake [] ++ msg := by
    unfold frame
    rw [hl, beN_mod]
    rfl
  obtain ⟨c', _, _, k3⟩ := C05_tick .handshake c msg [] hc (by rw [hp, hfr])
  rw [List.append_nil] at k3
  rw [k3]

example : (List.replicate 65536 (0 : UInt8)).length = 65536 := List.length_replicate ..

/-- **The property fails for delays that outlast the read timeout.** `FramedTransport::read` wraps `read_framed` in
`tokio::time::timeout`; when it fires inside a frame the bytes already consumed are dropped with the future, and
`Error::Timeout` is classified as recoverable. A caller that calls again is out of step with the stream: for the
single message `[0, 1, 7]` delivered as `[0, 3]`, a stall, `[0, 1, 7]`, the retry returns the message `[7]`, which
was never sent. -/
theorem C05_not_delay_invariant :
    ∃ (msg : Bytes) (evs : List Ev), fits .handshake msg ∧ msg.length ≤ framingCap ∧
      payload evs = frame .handshake msg ∧ (∀ e ∈ evs, e ≠ .eof ∧ e ≠ .fail ∧ e ≠ .chunk []) ∧
      readRetry framingCap .handshake evs = [.error .timeout, .ok [7], .error .eof] ∧ [7] ≠ msg :=
  ⟨[0, 1, 7], [.chunk [0, 3], .stall, .chunk [0, 1, 7]], by decide, by decide, by decide, by decide, by rfl, by decide⟩

/-- what remains true: as long as no read stalls past the timeout (guard: `Clean evs`, which excludes `stall`), the
retrying caller sees exactly the messages and then end of stream -/
theorem C05_delay_partial (mode : Mode) (msgs : List Bytes)
    (h : ∀ m ∈ msgs, fits mode m ∧ m.length ≤ framingCap) (evs : List Ev) (hc : Clean evs)
    (hp : payload evs = (msgs.map (frame mode)).flatten) :
    readRetry framingCap mode evs = msgs.map .ok ++ [.error .eof] := by
  simpa [readRetry_nil] using readRetry_clean framingCap mode [] msgs evs h hc hp

example : Clean [.chunk [0], .pending, .chunk [1, 5]] ∧
    payload [.chunk [0], .pending, .chunk [1, 5]] = ([[5]].map (frame .handshake)).flatten := by
  refine ⟨by simp [Clean], by decide⟩

/-- **What a timeout leaves behind (all frames, all positions).** The script delivers, cleanly, a strict prefix of
the frame of `m` — nothing at all when the stall is at a frame boundary — and then stalls past the timeout. The
caller gets `Timeout`; every byte consumed so far is dropped with the read future; the retry reads from the first byte
after the stall. So at a frame boundary nothing is lost, and inside a frame the stream is re-entered in the middle of
the frame (`C05_not_delay_invariant` is an instance). -/
theorem C05_timeout_drops_consumed_bytes (mode : Mode) (c : List Ev) (m missing : Bytes) (tail : List Ev)
    (hc : Clean c) (hp : payload c ++ missing = frame mode m) (hmiss : missing ≠ [])
    (hf : fits mode m) (hcap : m.length ≤ framingCap) :
    (readFramed framingCap mode (c ++ .stall :: tail)).res = .error .timeout ∧
    (readFramed framingCap mode (c ++ .stall :: tail)).rest = tail ∧
    readRetry framingCap mode (c ++ .stall :: tail) = .error .timeout :: readRetry framingCap mode tail := by
  obtain ⟨h1, h2⟩ := readFramed_cut framingCap mode c m missing (.stall :: tail) .timeout tail hc hp hmiss hf hcap rfl
  exact ⟨h1, h2, by rw [readRetry_unfold, h1, h2]⟩

example : payload [.chunk [0], .pending, .chunk [3, 0]] ++ [1, 7] = frame .handshake [0, 1, 7] := by decide

/-- the retrying caller, compositional form (its fuel is adequate: `readRetry_unfold`): whole frames delivered cleanly
come out in order and whatever follows — a stall, more data, a failure — is seen by the reads that follow -/
theorem C05_retry_split_invariance_then (mode : Mode) (msgs : List Bytes)
    (h : ∀ m ∈ msgs, fits mode m ∧ m.length ≤ framingCap) (c tail : List Ev) (hc : Clean c)
    (hp : payload c = (msgs.map (frame mode)).flatten) :
    readRetry framingCap mode (c ++ tail) = msgs.map .ok ++ readRetry framingCap mode tail :=
  readRetry_clean framingCap mode tail msgs c h hc hp

/-- **Timeouts between frames are harmless**: frames, a delay that outlasts the timeout exactly at a frame boundary,
more frames — the retrying caller sees every message, in order, with one `Timeout` in between, then end of stream.
(By induction with the two theorems above this extends to any number of such delays.) -/
theorem C05_timeout_between_frames_harmless (mode : Mode) (msgs₁ msgs₂ : List Bytes)
    (h₁ : ∀ m ∈ msgs₁, fits mode m ∧ m.length ≤ framingCap) (h₂ : ∀ m ∈ msgs₂, fits mode m ∧ m.length ≤ framingCap)
    (c₁ c₂ : List Ev) (hc₁ : Clean c₁) (hc₂ : Clean c₂) (hp₁ : payload c₁ = (msgs₁.map (frame mode)).flatten)
    (hp₂ : payload c₂ = (msgs₂.map (frame mode)).flatten) :
    readRetry framingCap mode (c₁ ++ .stall :: c₂)
      = msgs₁.map .ok ++ .error .timeout :: (msgs₂.map .ok ++ [.error .eof]) := by
  rw [readRetry_clean framingCap mode _ msgs₁ c₁ h₁ hc₁ hp₁, readRetry_unfold, readFramed_at_cut _ _ rfl,
    C05_delay_partial mode msgs₂ h₂ c₂ hc₂ hp₂]

example : readRetry framingCap .handshake ([.chunk [0, 1], .chunk [5]] ++ .stall :: [.pending, .chunk [0, 0]])
    = [.ok [5]] ++ .error .timeout :: ([.ok []] ++ [.error .eof]) :=
  C05_timeout_between_frames_harmless .handshake [[5]] [[]] (by decide) (by decide) _ _ (by simp [Clean])
    (by simp [Clean]) (by decide) (by decide)

/-- **A transport that is cut off inside a frame is an error, never a short message** — whatever the cut is: the end of
the script, a 0-byte read (`eof` or an empty chunk), an I/O failure, a stall past the timeout; and what the next
read sees is the script after the cut (generalises `C05_eof_inside` to every kind of cut). -/
theorem C05_cut_inside_frame_is_error (mode : Mode) (c : List Ev) (m missing : Bytes) (tail : List Ev) (e : RErr)
    (r : List Ev) (hc : Clean c) (hp : payload c ++ missing = frame mode m) (hmiss : missing ≠ [])
    (hf : fits mode m) (hcap : m.length ≤ framingCap) (ht : cutErr tail = some (e, r)) :
    (readFramed framingCap mode (c ++ tail)).res = .error e ∧ (readFramed framingCap mode (c ++ tail)).rest = r :=
  readFramed_cut framingCap mode c m missing tail e r hc hp hmiss hf hcap ht

example : cutErr [.chunk [], .chunk [9]] = some (.eof, [.chunk [9]]) ∧ cutErr [.fail] = some (.io, []) ∧
    cutErr ([] : List Ev) = some (.eof, []) := by decide

/-- `FramedTransport` never frames one direction differently from the other: after any sequence of its operations the
framer's mode is the deframer's (so what one transport writes, a peer transport that went through the same mode
switches reads, by `C05_write_then_read`); and without a stream `read`, `write`, `write_raw` report it and touch
nothing. -/
theorem C05_transport_modes_agree (cap : Nat) (ops : List TOp) :
    (tstate cap TState.new ops).fm = (tstate cap TState.new ops).dm := by
  suffices h : ∀ (ops : List TOp) (st : TState), st.fm = st.dm → (tstate cap st ops).fm = (tstate cap st ops).dm from
    h ops TState.new rfl
  intro ops
  induction ops with
  | nil => intro st h; exact h
  | cons op r ih =>
    intro st h
    apply ih
    cases op <;> simp [tstep, h]

example : trun 100 TState.new [.write [7], .connect, .setMode .distribution, .write [7], .takeRead, .isConnected]
    = [.noStream, .unit, .unit, .wire [0, 0, 0, 1, 7], .bool true, .bool false] := by rfl

/-- split invariance of the second copy: ticks are skipped, every other body is handed on, in order, whatever the
segmentation; then end of stream is reported -/
theorem C05_rh_split_invariance (bodies : List Bytes)
    (h : ∀ m ∈ bodies, fits .distribution m ∧ m.length ≤ connCap) (evs : List Ev) (hc : Clean evs)
    (hp : payload evs = (bodies.map (frame .distribution)).flatten) :
    recvAll connCap evs = (bodies.filter (· ≠ [])).map .ok ++ [.error .eof] := by
  simpa [recvAll_nil] using recvAll_clean connCap [] bodies evs h hc hp

example : recvAll connCap [.chunk [0, 0, 0], .chunk [0, 0], .pending, .chunk [0, 0, 1, 112]]
    = ([[], [112]].filter (· ≠ [])).map .ok ++ [.error .eof] :=
  C05_rh_split_invariance [[], [112]] (by decide) _ (by simp [Clean]) (by decide)

/-- compositional form -/
theorem C05_rh_split_invariance_then (bodies : List Bytes)
    (h : ∀ m ∈ bodies, fits .distribution m ∧ m.length ≤ connCap) (c tail : List Ev) (hc : Clean c)
    (hp : payload c = (bodies.map (frame .distribution)).flatten) :
    recvAll connCap (c ++ tail) = (bodies.filter (· ≠ [])).map .ok ++ recvAll connCap tail :=
  recvAll_clean connCap tail bodies c h hc hp

example : payload [.chunk [0, 0, 0], .chunk [0, 0], .pending, .chunk [0, 0, 1, 112]]
    = ([[], [112]].map (frame .distribution)).flatten := by decide

/-- on every script: a body returned by the second copy is a complete, non-empty frame of the stream that follows some
number of ticks; never a short one; and the script left over delivers exactly what follows -/
theorem C05_rh_ok_is_exact_frame (evs : List Ev) (m : Bytes) (h : (recvBody connCap evs).res = .ok m) :
    m ≠ [] ∧ m.length ≤ connCap ∧
    ∃ j, payload evs = (List.replicate j (frame .distribution [])).flatten ++ frame .distribution m
      ++ payload (recvBody connCap evs).rest := by
  obtain ⟨_, h2, h3, _, _, h6⟩ := recvBodyF_ok connCap _ evs m h
  exact ⟨h2, h3, h6⟩

example : (recvBody connCap [.chunk [0, 0, 0, 0, 0, 0], .chunk [0, 2, 112, 1]]).res = .ok [112, 1] := by rfl

/-- over the (smaller) cap of the second copy: refused before the body buffer is requested -/
theorem C05_rh_cap (c : List Ev) (len : Nat) (rest : Bytes) (tail : List Ev) (hc : Clean c)
    (hp : payload c = beN 4 len ++ rest) (hl : len < 2 ^ 32) (hcap : connCap < len) :
    ∃ c', Clean c' ∧ payload c' = rest ∧
      recvBody connCap (c ++ tail) = ⟨.error (.tooLarge len), c' ++ tail, 0⟩ :=
  recvBody_clean_overcap connCap c len rest tail hc hp (by simpa using hl) hcap

example : payload [.chunk [4], .chunk [0, 0, 1]] = beN 4 (connCap + 1) ++ [] := by decide

/-- on every script: the second copy never requests a body buffer above its cap -/
theorem C05_rh_alloc_bounded (evs : List Ev) : (recvBody connCap evs).allocRequested ≤ connCap :=
  recvBodyF_alloc_le connCap _ evs

/-- the second copy under a timeout (each of its two `read_exact`s has its own): a stall after a strict prefix of a
non-tick frame — nothing at a boundary — gives `Timeout`, drops what was consumed, and the next call starts after
the stall -/
theorem C05_rh_timeout_drops_consumed_bytes (c : List Ev) (m missing : Bytes) (tail : List Ev)
    (hc : Clean c) (hp : payload c ++ missing = frame .distribution m) (hmiss : missing ≠ [])
    (hf : fits .distribution m) (hcap : m.length ≤ connCap) :
    (recvBody connCap (c ++ .stall :: tail)).res = .error .timeout ∧
    (recvBody connCap (c ++ .stall :: tail)).rest = tail ∧
    recvRetry connCap (c ++ .stall :: tail) = .error .timeout :: recvRetry connCap tail := by
  obtain ⟨h1, h2⟩ := recvBody_cut connCap c m missing (.stall :: tail) .timeout tail hc hp hmiss hf hcap rfl
  exact ⟨h1, h2, by rw [recvRetry_unfold, h1, h2]⟩

example : payload [.chunk [0, 0, 0, 5]] ++ [0, 0, 0, 1, 9] = frame .distribution [0, 0, 0, 1, 9] := by decide

/-- the finding in the second copy: the body `[0,0,0,1,9]` delivered as length bytes, a stall, the body — the retry
takes the body's first four bytes for a length and hands on the body `[9]`, which was never sent -/
theorem C05_rh_not_delay_invariant :
    ∃ (body : Bytes) (evs : List Ev), fits .distribution body ∧ body.length ≤ connCap ∧
      payload evs = frame .distribution body ∧ (∀ e ∈ evs, e ≠ .eof ∧ e ≠ .fail ∧ e ≠ .chunk []) ∧
      recvRetry connCap evs = [.error .timeout, .ok [9], .error .eof] ∧ [9] ≠ body :=
  ⟨[0, 0, 0, 1, 9], [.chunk [0, 0, 0, 5], .stall, .chunk [0, 0, 0, 1, 9]], by decide, by decide, by decide, by decide,
    by rfl, by decide⟩

/-- the two copies disagree about what is too large: a length between the caps is read by `read_framed` and refused by
`receive_message_from_read_half` -/
theorem C05_caps_differ : connCap < framingCap := by decide

end Edp.Props.C05
