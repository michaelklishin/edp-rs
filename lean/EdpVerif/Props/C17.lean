import EdpVerif.Generated.MiscC19
import EdpVerif.Lemmas.Rpc
import EdpVerif.Lemmas.RpcMore
import EdpVerif.Impl.RpcTerm
import EdpVerif.Generated.MiscC17pid
/-!
# C17 — each remote call gets its own reply; nothing is left behind afterwards

Theorems about the small-step model `Impl/Rpc.lean` of `Node::rpc_call_raw_with_timeout`, the `Send` arm of
`Node::route_message` and the receiver tasks (crates/edp_node/src/node.rs). Every theorem quantifies over

* every start state of the node's pid allocator `a` and every local node name `n`,
* every schedule `σ : List Step` — any number of calls (a call is a natural number; it exists once it takes its first
  step), any number of receiver tasks, every interleaving of their atomic steps,
* every behaviour of the environment, which is part of the schedule: the peer's messages (`rStart r msg` with an
  arbitrary `msg`: replies in any order, twice, late, to unknown pids, under a foreign node name, never), lookups that
  find no connection, writes that fail, timers that fire at any moment, call futures dropped at any suspension point,
  other allocations, processes spawned and gone, receiver tasks that stop and take their connection out of the table
  (`rStop r`), `Node::start` giving the allocator another creation at any time (`start c`).

The wrappers (`rpc_call_with_timeout`, `rpc_call`, the `erlang_*` calls) are covered through `wrapOutcome` and the
term-level model `Impl/RpcTerm.lean`; the `.._as_in_source` theorems tie the model to what the translator reads from the source
(`Generated/MiscC17.lean`: steps and awaits of `rpc_call_raw_with_timeout`, key text, route arm, wrappers, every use of
the node's allocator; `Generated/MiscC17pid.lean`: the fields of `Node` and where the reply pid comes from;
`Generated/MiscC19.lean`: the arms of `route_message`).

`run` skips a step that is not enabled, so "every list of steps" is "every execution".
`B = MAXP * U32 = 2^52` is the period of the pid allocator (C16).
-/
namespace Edp.Props.C17
open Edp.Impl.Rpc
open Edp.Impl.PidAlloc (Pid Sh Res alloc seqState seqAlloc MAXP U32 Sh.new)

abbrev reach (a : Sh) (n : Nat) (σ : List Step) : St := run (St.init a n) σ

/-- the inductive invariant (entries, outcomes, addressing, allocation indices, mutex) holds after every schedule -/
theorem C17_invariants_hold_on_every_run (a : Sh) (n : Nat) (σ : List Step) : Inv a (reach a n σ) :=
  inv_run σ (inv_init a n)

example : (reach (Sh.new 8) 0 [.begin 0, .insert 0]).pending = [(⟨1, 0, 8⟩, 0)] := by decide

/-- the allocator of a node with creation 8 (first pid 1.0.8); `a0` and the schedules that follow serve the examples -/
def a0 : Sh := Sh.new 8
/-- call `i` registers, sends its request and waits -/
def reqSteps (i : Nat) : List Step := [.begin i, .insert i, .lookup i (some 0), .lock i, .send i true, .unlock i]
/-- receiver 0 routes a message -/
def route (node id body : Nat) : List Step := [.rStart 0 ⟨node, ⟨id, 0, 8⟩, body⟩, .rRemove 0, .rSend 0]
def good : List Step := reqSteps 0 ++ route 0 1 7 ++ [.recvReply 0, .finish 0]
def timedOut : List Step := reqSteps 0 ++ [.timeout 0, .timeoutRemove 0, .finish 0]
def twoCalls : List Step := reqSteps 0 ++ reqSteps 1
def noConnRun : List Step := [.begin 0, .insert 0, .lookup 0 none, .finish 0]
def sendErrRun : List Step := [.begin 0, .insert 0, .lookup 0 (some 0), .lock 0, .send 0 false, .finish 0]
def dropRun : List Step := [.begin 0, .insert 0, .lookup 0 (some 0), .lock 0, .drop 0]
/-- the timer fires between the receiver's `remove` and its `send` -/
def raceRun : List Step :=
  reqSteps 0 ++ [.rStart 0 ⟨0, ⟨1, 0, 8⟩, 7⟩, .rRemove 0, .timeout 0, .rSend 0, .timeoutRemove 0, .finish 0]

/-- A call that returns a reply returns a message the peer addressed to that call's own reply pid, with the body
that message carried: `m` is the position of the message in the log of everything the receivers were given. -/
theorem C17_no_misdelivery (a : Sh) (n : Nat) (σ : List Step) (i m b : Nat)
    (h : ((reach a n σ).callers i).out = some (.reply m b)) :
    ∃ msg, (reach a n σ).inbox[m]? = some msg ∧ msg.pid = ((reach a n σ).callers i).key ∧ msg.body = b :=
  (C17_invariants_hold_on_every_run a n σ).addr.out i m b h

example : ((reach a0 0 good).callers 0).out = some (.reply 0 7) ∧
    (reach a0 0 good).inbox[0]? = some ⟨0, ⟨1, 0, 8⟩, 7⟩ ∧ ((reach a0 0 good).callers 0).key = ⟨1, 0, 8⟩ := by decide
/-- two calls, replies in the opposite order of the requests: each gets its own -/
example : let s := reach a0 0 (twoCalls ++ route 0 2 22 ++ route 0 1 11 ++ [.recvReply 0, .recvReply 1, .finish 0, .finish 1])
    (s.callers 0).out = some (.reply 1 11) ∧ (s.callers 1).out = some (.reply 0 22) ∧ s.pending = [] := by decide

/-- the same for a value that sits in a call's channel, for a sender a receiver task holds, and for a result on its
way out: nothing is ever in flight towards a call that was not addressed to its key -/
theorem C17_in_flight_is_addressed (a : Sh) (n : Nat) (σ : List Step) (i m b : Nat) :
    let s := reach a n σ
    (((s.callers i).val = some (m, b) ∨ (s.callers i).pc = .exiting (.reply m b) ∨ ∃ r, s.recv r = .holding i m b) →
      ∃ msg, s.inbox[m]? = some msg ∧ msg.pid = (s.callers i).key ∧ msg.body = b) := by
  intro s h
  have hi := (C17_invariants_hold_on_every_run a n σ).addr
  rcases h with h | h | ⟨r, h⟩
  · exact hi.reply i m b (.inl h)
  · exact hi.reply i m b (.inr (.inl h))
  · exact (hi.hold r i m b h).1

example : ((reach a0 0 (reqSteps 0 ++ route 0 1 7)).callers 0).val = some (0, 7) := by decide

/-- a call is over exactly when it has an outcome -/
theorem C17_one_outcome (a : Sh) (n : Nat) (σ : List Step) (i : Nat) :
    ((reach a n σ).callers i).pc = .done ↔ ((reach a n σ).callers i).out ≠ none :=
  (C17_invariants_hold_on_every_run a n σ).done i

example : ((reach a0 0 good).callers 0).pc = .done ∧ ((reach a0 0 (reqSteps 0)).callers 0).out = none := by decide

/-- the outcome of a call never changes: whatever happens afterwards (duplicates of its reply, late replies, other
calls) it is not given a second result -/
theorem C17_outcome_final (a : Sh) (n : Nat) (σ τ : List Step) (i : Nat) (o : Outcome)
    (h : ((reach a n σ).callers i).out = some o) : ((reach a n (σ ++ τ)).callers i).out = some o := by
  rw [reach, run_append]
  exact out_run τ (C17_invariants_hold_on_every_run a n σ) i o h

/-- a duplicate of the reply after the call returned: logged, found no entry, the outcome stays -/
example : ((reach a0 0 (good ++ route 0 1 8)).callers 0).out = some (.reply 0 7) ∧
    (reach a0 0 (good ++ route 0 1 8)).inbox.length = 2 ∧ (reach a0 0 (good ++ route 0 1 8)).pending = [] := by decide

/-- every entry of the table belongs to a call that is still running (registered, not yet returned or dropped) and is
filed under that call's key -/
theorem C17_entries_belong_to_running_calls (a : Sh) (n : Nat) (σ : List Step) (k : Pid) (i : Nat)
    (h : (k, i) ∈ (reach a n σ).pending) :
    ((reach a n σ).callers i).key = k ∧ ((reach a n σ).callers i).pc.armed = true :=
  (C17_invariants_hold_on_every_run a n σ).entry k i h

example : (reach a0 0 twoCalls).pending = [(⟨2, 0, 8⟩, 1), (⟨1, 0, 8⟩, 0)] := by decide

/-- a call that is over — returned with a reply, a timeout, a cancellation, a missing connection, a failed write, or
dropped by its owner — has no entry, and neither has a call that has not registered yet -/
theorem C17_no_entry_of_finished_call (a : Sh) (n : Nat) (σ : List Step) (k : Pid) (i : Nat)
    (h : ((reach a n σ).callers i).pc = .done ∨ ((reach a n σ).callers i).pc = .start ∨
         ((reach a n σ).callers i).pc = .allocated) : (k, i) ∉ (reach a n σ).pending := by
  intro hm
  have := ((C17_invariants_hold_on_every_run a n σ).entry k i hm).2
  rcases h with h | h | h <;> rw [h] at this <;> simp [Pc.armed] at this

/-- every exit path ends with `done` and an empty table: reply, timeout, no connection, failed write, dropped (while
holding the connection mutex, which is released), timer firing between the receiver's `remove` and `send` -/
example : ∀ σ ∈ [good, timedOut, noConnRun, sendErrRun, dropRun, raceRun],
    ((reach a0 0 σ).callers 0).pc = .done ∧ (reach a0 0 σ).pending = [] ∧ (reach a0 0 σ).lock 0 = none := by decide
example : [good, timedOut, noConnRun, sendErrRun, dropRun, raceRun].map (fun σ => ((reach a0 0 σ).callers 0).out) =
    [some (.reply 0 7), some .timeout, some .noConn, some .sendErr, some .dropped, some .timeout] := by decide

/-- once every call that was started is over, the table is empty — on every exit path and under every schedule -/
theorem C17_clean_at_quiescence (a : Sh) (n : Nat) (σ : List Step) (h : (reach a n σ).quiescent) :
    (reach a n σ).pending = [] := by
  apply List.eq_nil_iff_forall_not_mem.mpr
  rintro ⟨k, i⟩ hm
  have harm := ((C17_invariants_hold_on_every_run a n σ).entry k i hm).2
  rcases h i with h | h <;> rw [h] at harm <;> simp [Pc.armed] at harm

example : (reach a0 0 good).quiescent := by
  intro i
  by_cases h : i = 0
  · subst h; exact .inr (by decide)
  · -- every step of `good` is call 0's or no call's
    have hf : ∀ e ∈ good, Step.caller? e = some 0 ∨ Step.caller? e = none := by decide
    exact .inl (pc_frame_run good (St.init a0 0) i fun e he => by rcases hf e he with h' | h' <;> simp [h', Ne.symm h])

/-- two calls whose reply pids were allocated differ in (id, serial) as long as the node has allocated at most
`2^52` pids (calls, spawned processes and messages sent together) -/
theorem C17_keys_distinct (a : Sh) (n : Nat) (σ : List Step) (i j : Nat) (hij : i ≠ j)
    (hb : (reach a n σ).nalloc ≤ MAXP * U32)
    (hi : ((reach a n σ).callers i).pc ≠ .start) (hj : ((reach a n σ).callers j).pc ≠ .start)
    (hoi : ((reach a n σ).callers i).out ≠ some .allocFail) (hoj : ((reach a n σ).callers j).out ≠ some .allocFail) :
    (((reach a n σ).callers i).key.id, ((reach a n σ).callers i).key.serial) ≠
      (((reach a n σ).callers j).key.id, ((reach a n σ).callers j).key.serial) :=
  fun hk => hij (keys_distinct (C17_invariants_hold_on_every_run a n σ).alloc hb hi hj hoi hoj hk)

example : ((reach a0 0 twoCalls).callers 0).key = ⟨1, 0, 8⟩ ∧ ((reach a0 0 twoCalls).callers 1).key = ⟨2, 0, 8⟩ ∧
    (reach a0 0 twoCalls).nalloc ≤ MAXP * U32 := by decide

/-- the pid of a live local process is not the key of any call (same bound) -/
theorem C17_call_keys_differ_from_process_pids (a : Sh) (n : Nat) (σ : List Step) (i : Nat) (p : Pid)
    (hb : (reach a n σ).nalloc ≤ MAXP * U32) (hp : p ∈ (reach a n σ).procs)
    (hi : ((reach a n σ).callers i).pc ≠ .start) (hoi : ((reach a n σ).callers i).out ≠ some .allocFail) :
    ((reach a n σ).callers i).key ≠ p := by
  have ha := (C17_invariants_hold_on_every_run a n σ).alloc
  obtain ⟨q, hq, hp', hne⟩ := ha.procs p hp
  have hlt := (ha.ix i hi).1
  intro hk
  exact sameKey_ne (ha.sameKey hi hoi) hp' (hne i hi) (by omega) (by omega) (by rw [hk])

example : (reach a0 0 (.spawnProc :: reqSteps 0)).procs = [⟨1, 0, 8⟩] ∧
    ((reach a0 0 (.spawnProc :: reqSteps 0)).callers 0).key = ⟨2, 0, 8⟩ := by decide

/-- no message is returned twice: two calls that returned the same inbound message are the same call
(a duplicated reply is two messages; each of them is returned at most once, and by `C17_outcome_final` the call
that took the first keeps it) -/
theorem C17_message_returned_to_one_caller (a : Sh) (n : Nat) (σ : List Step) (i j m b b' : Nat)
    (hb : (reach a n σ).nalloc ≤ MAXP * U32)
    (hi : ((reach a n σ).callers i).out = some (.reply m b))
    (hj : ((reach a n σ).callers j).out = some (.reply m b')) : i = j := by
  have hv := C17_invariants_hold_on_every_run a n σ
  obtain ⟨x, hx1, hx2, _⟩ := hv.addr.out i m b hi
  obtain ⟨y, hy1, hy2, _⟩ := hv.addr.out j m b' hj
  have hxy : x = y := by rw [hx1] at hy1; exact Option.some.inj hy1
  exact keys_distinct hv.alloc hb (hv.addr.started_of_out hi) (hv.addr.started_of_out hj) (by rw [hi]; simp)
    (by rw [hj]; simp) (by rw [← hx2, ← hy2, hxy])

/-- the reply sent twice: the call returns the first; the second finds no entry and is returned to nobody -/
example : let s := reach a0 0 (twoCalls ++ route 0 1 7 ++ route 0 1 7 ++ [.recvReply 0, .finish 0, .recvReply 1])
    (s.callers 0).out = some (.reply 0 7) ∧ (s.callers 1).pc = .waiting ∧ (s.callers 1).val = none := by decide

/-- A reply that arrives after its call is over is delivered to nobody: if call `i` is over after `σ`, then whatever
happens next (`τ`), a message handed to a receiver during `τ` and addressed to `i`'s key is never the result of any
call — not of another call (its key differs), not of `i` (its outcome is final). -/
theorem C17_late_reply_reaches_nobody (a : Sh) (n : Nat) (σ τ : List Step) (i j m b : Nat) (msg : Msg)
    (hb : (reach a n (σ ++ τ)).nalloc ≤ MAXP * U32)
    (hdone : ((reach a n σ).callers i).pc = .done) (hok : ((reach a n σ).callers i).out ≠ some .allocFail)
    (hlate : (reach a n σ).inbox.length ≤ m) (hm : (reach a n (σ ++ τ)).inbox[m]? = some msg)
    (hto : msg.pid = ((reach a n σ).callers i).key) :
    ((reach a n (σ ++ τ)).callers j).out ≠ some (.reply m b) := by
  intro hj
  have hv := C17_invariants_hold_on_every_run a n σ
  have hv' := C17_invariants_hold_on_every_run a n (σ ++ τ)
  have hrun : reach a n (σ ++ τ) = run (reach a n σ) τ := run_append _ σ τ
  -- call i keeps its key and its outcome
  have hsi : ((reach a n σ).callers i).pc ≠ .start := by rw [hdone]; simp
  obtain ⟨hkey, hsi'⟩ := key_run τ (reach a n σ) i hsi
  rw [← hrun] at hkey hsi'
  obtain ⟨o, ho⟩ := Option.ne_none_iff_exists'.mp ((hv.done i).mp hdone)
  have ho' : ((reach a n (σ ++ τ)).callers i).out = some o := C17_outcome_final a n σ τ i o ho
  -- the call that returned message m has the key the message was addressed to
  obtain ⟨x, hx1, hx2, _⟩ := hv'.addr.out j m b hj
  have hx : x = msg := by rw [hm] at hx1; exact (Option.some.inj hx1).symm
  have hij : j = i := by
    refine keys_distinct hv'.alloc hb (hv'.addr.started_of_out hj) hsi' (by rw [hj]; simp)
      (by rw [ho']; rw [ho] at hok; exact hok) ?_
    rw [← hx2, hx, hto, hkey]
  -- but i's outcome was fixed before message m existed
  subst hij
  rw [ho'] at hj
  cases hj
  obtain ⟨y, hy1, _, _⟩ := hv.addr.out j m b ho
  have := (List.getElem?_eq_some_iff.mp hy1).1
  omega

/-- the call timed out; its reply arrives afterwards: nothing changes but the log -/
example : ((reach a0 0 timedOut).callers 0).pc = .done ∧ (reach a0 0 timedOut).inbox.length = 0 ∧
    (reach a0 0 (timedOut ++ route 0 1 9)).inbox[0]? = some ⟨0, ⟨1, 0, 8⟩, 9⟩ ∧
    ((reach a0 0 (timedOut ++ route 0 1 9)).callers 0).out = some .timeout ∧
    (reach a0 0 (timedOut ++ route 0 1 9)).pending = [] := by decide

/-- `RpcCancelled` needs the sender to be dropped without a value; that happens only when another call registers or
removes the same key. While the allocator has not gone round no call ever returns it. -/
theorem C17_never_cancelled (a : Sh) (n : Nat) (σ : List Step) (i : Nat)
    (hb : (reach a n σ).nalloc ≤ MAXP * U32) : ((reach a n σ).callers i).out ≠ some .cancelled :=
  ((tx_run σ (inv_init a n) (tx_init a n) hb).nc i).2

example : (reach a0 0 twoCalls).nalloc = 2 := by decide

/-- while the allocator has not gone round, a sender is dropped unsent only by its own call on its way out -/
theorem C17_sender_dropped_only_on_exit (a : Sh) (n : Nat) (σ : List Step) (i : Nat)
    (hb : (reach a n σ).nalloc ≤ MAXP * U32) (h : ((reach a n σ).callers i).txDropped = true) :
    ((reach a n σ).callers i).pc.over = true :=
  (tx_run σ (inv_init a n) (tx_init a n) hb).tx i h

example : ((reach a0 0 (reqSteps 0 ++ [.timeout 0, .timeoutRemove 0])).callers 0).txDropped = true ∧
    ((reach a0 0 (reqSteps 0 ++ [.timeout 0, .timeoutRemove 0])).callers 0).pc = .exiting .timeout := by decide

/-- a message addressed to a live local process (node name and numbers) is handed to that process; the table, every
call and every receiver stay as they are -/
theorem C17_local_process_first (s : St) (r : Nat) (msg : Msg) (hidle : s.recv r = .idle)
    (hp : msg.node = s.localNode ∧ msg.pid ∈ s.procs) :
    ∃ s', step s (.rStart r msg) = some s' ∧ s'.pending = s.pending ∧ s'.callers = s.callers ∧ s'.recv = s.recv ∧
      s'.procLog = s.procLog ++ [(msg.pid, s.inbox.length)] := by
  refine ⟨{ s with inbox := s.inbox ++ [msg], procLog := s.procLog ++ [(msg.pid, s.inbox.length)] }, ?_, rfl, rfl, rfl, rfl⟩
  simp only [step, hidle, hp, and_self, if_true]

example : let s := reach a0 0 (.spawnProc :: reqSteps 0 ++ [.rStart 0 ⟨0, ⟨1, 0, 8⟩, 5⟩])
    s.procLog = [(⟨1, 0, 8⟩, 0)] ∧ s.pending = [(⟨2, 0, 8⟩, 0)] ∧ s.recv 0 = .idle := by decide
/-- the process's numbers under a foreign node name are not that process: the message is routed (and dropped) -/
example : let s := reach a0 0 (.spawnProc :: reqSteps 0 ++ [.rStart 0 ⟨1, ⟨1, 0, 8⟩, 5⟩, .rRemove 0])
    s.procLog = [] ∧ s.pending = [(⟨2, 0, 8⟩, 0)] ∧ s.recv 0 = .idle := by decide

/-- a message whose numbers are not in the table (unknown pid, a call that is already over, a duplicate of a reply
already taken) changes nothing but the receiver's own program counter -/
theorem C17_unknown_key_dropped (s : St) (r : Nat) (msg : Msg) (m : Nat) (hr : s.recv r = .routing msg m)
    (hk : ∀ i, (msg.pid, i) ∉ s.pending) :
    step s (.rRemove r) = some { s with recv := upd s.recv r .idle } := by
  have : lookupKey s.pending msg.pid = none := by
    cases h : lookupKey s.pending msg.pid with
    | none => rfl
    | some i => exact absurd (lookupKey_some h) (hk i)
  simp only [step, hr, this]

example : let s := reach a0 0 (reqSteps 0 ++ [.rStart 0 ⟨0, ⟨100001, 0, 8⟩, 5⟩])
    s.recv 0 = .routing ⟨0, ⟨100001, 0, 8⟩, 5⟩ 0 ∧ ∀ e ∈ s.pending, e.1 ≠ ⟨100001, 0, 8⟩ := by decide

/-- a value sent to a call whose receiving half is gone (it timed out or was dropped between the receiver's `remove`
and its `send`) is discarded -/
theorem C17_send_after_timeout_is_discarded (s : St) (r i m b : Nat) (hr : s.recv r = .holding i m b)
    (hrx : (s.callers i).rxAlive = false) :
    step s (.rSend r) = some { s with recv := upd s.recv r .idle } := by
  simp [step, hr, hrx]

example : let s := reach a0 0 (reqSteps 0 ++ [.rStart 0 ⟨0, ⟨1, 0, 8⟩, 7⟩, .rRemove 0, .timeout 0])
    s.recv 0 = .holding 0 0 7 ∧ (s.callers 0).rxAlive = false := by decide

/-- at most one call writes its request on a connection at a time -/
theorem C17_send_mutex (a : Sh) (n : Nat) (σ : List Step) (i j : Nat)
    (hi : ((reach a n σ).callers i).pc.holdsLock = true) (hj : ((reach a n σ).callers j).pc.holdsLock = true)
    (hc : ((reach a n σ).callers i).conn = ((reach a n σ).callers j).conn) : i = j := by
  have hl := (C17_invariants_hold_on_every_run a n σ).lock
  have h1 := hl.holder i hi
  have h2 := hl.holder j hj
  rw [hc, h2] at h1
  exact (Option.some.inj h1).symm

/-- the second call cannot take the mutex while the first holds it -/
example : let s := reach a0 0 ([.begin 0, .insert 0, .lookup 0 (some 0), .lock 0] ++ [.begin 1, .insert 1, .lookup 1 (some 0), .lock 1])
    (s.callers 0).pc = .locked ∧ (s.callers 1).pc = .found ∧ s.lock 0 = some 0 := by decide

/-- Each step on which a call gives up — no connection, failed write, timeout, return (the drop guard), dropped by its
owner once registered — leaves no entry under the call's key, whatever the state it is taken in. -/
theorem C17_exit_steps_remove_the_key (s s' : St) (i : Nat) (e : Step)
    (he : e = .lookup i none ∨ e = .send i false ∨ e = .timeoutRemove i ∨ e = .finish i ∨
          (e = .drop i ∧ (s.callers i).pc.armed = true))
    (hs : step s e = some s') (j : Nat) : ((s.callers i).key, j) ∉ s'.pending := by
  have gone : ∀ (t : St), ((s.callers i).key, j) ∉ (t.removeKey (s.callers i).key).pending :=
    fun t hm => (mem_eraseKey.mp hm).2 rfl
  rcases he with rfl | rfl | rfl | rfl | ⟨rfl, harm⟩ <;> cases Next.of_step hs
  case dropEarly hpc => rw [hpc] at harm; cases harm
  all_goals exact gone _

example : step (reach a0 0 (reqSteps 0)) (.drop 0) ≠ none ∧ ((reach a0 0 (reqSteps 0)).callers 0).pc.armed = true := by decide

/-- a call ends only by `finish`, by being dropped, or by the allocator failing before anything was registered -/
theorem C17_calls_end_by_finish_or_drop (s s' : St) (e : Step) (i : Nat) (hs : step s e = some s')
    (h0 : (s.callers i).pc ≠ .done) (h1 : (s'.callers i).pc = .done) :
    e = .finish i ∨ e = .drop i ∨ (e = .begin i ∧ (s'.callers i).out = some .allocFail) := by
  rcases ends_step (Next.of_step hs) i with ⟨_, hp⟩ | ⟨_, _, _, he⟩
  · exact absurd (hp.mp h1) h0
  · exact he

example : ((reach a0 0 (reqSteps 0 ++ [.timeout 0, .timeoutRemove 0])).callers 0).pc ≠ .done ∧
    ((reach a0 0 timedOut).callers 0).pc = .done := by decide

/-- The reply arrives. A call is waiting with its entry in the table; a message addressed to its reply pid is given
to an idle receiver. The receiver's three steps and the call's two make the call return exactly that message
(its number in the log and its body), while the allocator has not gone round. -/
theorem C17_reply_is_delivered (a : Sh) (n : Nat) (σ : List Step) (i r : Nat) (msg : Msg)
    (hb : (reach a n σ).nalloc ≤ MAXP * U32)
    (hw : ((reach a n σ).callers i).pc = .waiting)
    (hm : (((reach a n σ).callers i).key, i) ∈ (reach a n σ).pending)
    (hr : (reach a n σ).recv r = .idle) (hto : msg.pid = ((reach a n σ).callers i).key) :
    ((reach a n (σ ++ [.rStart r msg, .rRemove r, .rSend r, .recvReply i, .finish i])).callers i).out =
      some (.reply (reach a n σ).inbox.length msg.body) := by
  have hv := C17_invariants_hold_on_every_run a n σ
  have hnp : ¬(msg.node = (reach a n σ).localNode ∧ msg.pid ∈ (reach a n σ).procs) := by
    rintro ⟨_, hp⟩
    have hout : ((reach a n σ).callers i).out ≠ some .allocFail := by
      intro h
      have := (hv.done i).mpr (by rw [h]; simp)
      rw [hw] at this; cases this
    exact C17_call_keys_differ_from_process_pids a n σ i msg.pid hb hp (by rw [hw]; simp) hout hto.symm
  rw [reach, run_append]
  exact reply_delivered hv (rx_run σ (rx_init a n)) hb i r msg hw hm hr hto hnp

example : ((reach a0 0 (reqSteps 0)).callers 0).pc = .waiting ∧
    (((reach a0 0 (reqSteps 0)).callers 0).key, 0) ∈ (reach a0 0 (reqSteps 0)).pending ∧
    (reach a0 0 (reqSteps 0)).recv 0 = .idle := by decide

/-- When the receiver task of a connection stops (`receive_message_from_read_half` failed: the peer closed, a read
error, the tick time passed) it takes the connection out of the table for good: the receiver takes no further step,
hands no further message to anybody, and no later call finds that connection (`lookup` with that id is not enabled;
such a call returns `NodeNotConnected`). -/
theorem C17_stopped_connection_is_never_found_again (a : Sh) (n : Nat) (σ τ : List Step) (r : Nat)
    (h : (reach a n σ).recv r = .stopped) :
    (reach a n (σ ++ τ)).recv r = .stopped ∧ (reach a n (σ ++ τ)).conns r = false ∧
      (∀ i, step (reach a n (σ ++ τ)) (.lookup i (some r)) = none) ∧
      (∀ msg, step (reach a n (σ ++ τ)) (.rStart r msg) = none) ∧
      step (reach a n (σ ++ τ)) (.rRemove r) = none ∧ step (reach a n (σ ++ τ)) (.rSend r) = none := by
  have hst : (reach a n (σ ++ τ)).recv r = .stopped := by
    rw [reach, run_append]; exact stopped_run τ _ r h
  have hc : (reach a n (σ ++ τ)).conns r = false := ((conn_run (σ ++ τ) (conn_init a n)) r).mpr hst
  refine ⟨hst, hc, ?_, ?_, ?_, ?_⟩
  · intro i; simp [step, hc]
  · intro msg; simp [step, hst]
  · simp [step, hst]
  · simp [step, hst]

example : (reach a0 0 (reqSteps 0 ++ [.rStop 0])).recv 0 = .stopped ∧
    ((reach a0 0 (reqSteps 0 ++ [.rStop 0, .begin 1, .insert 1, .lookup 1 (some 0)])).callers 1).pc = .inserted ∧
    ((reach a0 0 (reqSteps 0 ++ [.rStop 0, .begin 1, .insert 1, .lookup 1 none, .finish 1])).callers 1).out = some .noConn := by
  decide

/-- What happens to the calls that are outstanding when their connection goes away: nothing tells them. A call that
waits for its reply, with nothing addressed to its key in flight (no receiver routing such a message or holding its
sender, its channel empty), and to whose key no message is handed to a receiver from now on — because the receiver of
its connection stopped, or because the peer never answers — never returns a reply, a connection error or
`RpcCancelled`: it stays waiting, with its entry, until ITS OWN timer fires or its owner drops it. (While the
allocator has not gone round.) So outstanding calls of a lost connection end by their timeout (`DEFAULT_RPC_TIMEOUT`
for `rpc_call`), not promptly. -/
theorem C17_unanswered_call_waits_for_its_timeout (a : Sh) (n : Nat) (σ τ : List Step) (i : Nat)
    (hb : (reach a n (σ ++ τ)).nalloc ≤ MAXP * U32)
    (hw : ((reach a n σ).callers i).pc = .waiting) (hval : ((reach a n σ).callers i).val = none)
    (hroute : ∀ r msg m, (reach a n σ).recv r = .routing msg m → msg.pid ≠ ((reach a n σ).callers i).key)
    (hhold : ∀ r m b, (reach a n σ).recv r ≠ .holding i m b)
    (hτ : ∀ r msg, Step.rStart r msg ∈ τ → msg.pid ≠ ((reach a n σ).callers i).key) :
    let c := (reach a n (σ ++ τ)).callers i
    (c.pc = .waiting ∧ c.val = none ∧ c.out = none) ∨ (c.pc = .timedOut ∧ c.out = none) ∨
      (c.pc = .exiting .timeout ∧ c.out = none) ∨
      (c.pc = .done ∧ (c.out = some .timeout ∨ c.out = some .dropped)) := by
  intro c
  have hv := C17_invariants_hold_on_every_run a n σ
  have hv' := C17_invariants_hold_on_every_run a n (σ ++ τ)
  have hrun : reach a n (σ ++ τ) = run (reach a n σ) τ := run_append _ σ τ
  have hbσ : (reach a n σ).nalloc ≤ MAXP * U32 := by
    rw [hrun] at hb; exact Nat.le_trans (nalloc_run τ _) hb
  have ht := tx_run σ (inv_init a n) (tx_init a n) hbσ
  have hu : Unans (reach a n σ) i := ⟨hroute, hhold, Or.inl ⟨hw, hval⟩⟩
  have hu' := unans_run τ hv ht (by rw [← hrun]; exact hb) i hu hτ
  rw [← hrun] at hu'
  have hnone : c.pc ≠ .done → c.out = none := fun h => Classical.not_not.mp (mt (hv'.done i).mpr h)
  rcases hu'.pcs with ⟨h1, h2⟩ | h1 | h1 | h
  · exact .inl ⟨h1, h2, hnone (by rw [h1]; simp)⟩
  · exact .inr (.inl ⟨h1, hnone (by rw [h1]; simp)⟩)
  · exact .inr (.inr (.inl ⟨h1, hnone (by rw [h1]; simp)⟩))
  · exact .inr (.inr (.inr h))

/-- the receiver stops while call 0 waits: the call is still waiting with its entry afterwards, and ends by its timer -/
example : (reach a0 0 (reqSteps 0)).recv = (fun _ => .idle) ∧ ((reach a0 0 (reqSteps 0)).callers 0).val = none ∧
    ((reach a0 0 (reqSteps 0 ++ [.rStop 0])).callers 0).pc = .waiting ∧
    (reach a0 0 (reqSteps 0 ++ [.rStop 0])).pending = [(⟨1, 0, 8⟩, 0)] ∧
    ((reach a0 0 (reqSteps 0 ++ [.rStop 0, .timeout 0, .timeoutRemove 0, .finish 0])).callers 0).out = some .timeout ∧
    (reach a0 0 (reqSteps 0 ++ [.rStop 0, .timeout 0, .timeoutRemove 0, .finish 0])).pending = [] :=
  ⟨rfl, by decide, by decide, by decide, by decide, by decide⟩

/-- once every call is over no connection mutex is held either -/
theorem C17_no_mutex_held_at_quiescence (a : Sh) (n : Nat) (σ : List Step) (h : (reach a n σ).quiescent) (c : Nat) :
    (reach a n σ).lock c = none := by
  cases hl : (reach a n σ).lock c with
  | none => rfl
  | some i =>
    have := ((C17_invariants_hold_on_every_run a n σ).lock.held c i hl).1
    rcases h i with h | h <;> rw [h] at this <;> simp [Pc.holdsLock] at this

example : (reach a0 0 dropRun).lock 0 = none ∧ (reach a0 0 [.begin 0, .insert 0, .lookup 0 (some 0), .lock 0]).lock 0 = some 0 := by
  decide

/-- The wrapper's result is a function of the raw call's own outcome: a value it returns is the unwrapped body of a
message that was addressed to this call's reply pid; an error of the raw call is passed on unchanged; a reply of the
wrong shape becomes a conversion error of THIS call. The wrapper touches no shared state, so everything above holds for
wrapped calls as it stands. `unwrap` is any function on bodies (it stands for `into_rex_response`). -/
theorem C17_wrapped_reply_is_own (unwrap : Nat → Option Nat) (a : Sh) (n : Nat) (σ : List Step) (i : Nat) (o : Outcome)
    (ho : ((reach a n σ).callers i).out = some o) :
    (∀ m v, wrapOutcome unwrap o = .value m v →
      ∃ msg, (reach a n σ).inbox[m]? = some msg ∧ msg.pid = ((reach a n σ).callers i).key ∧ unwrap msg.body = some v) ∧
    (∀ m, wrapOutcome unwrap o = .badShape m →
      ∃ msg, (reach a n σ).inbox[m]? = some msg ∧ msg.pid = ((reach a n σ).callers i).key ∧ unwrap msg.body = none) ∧
    (∀ e, wrapOutcome unwrap o = .err e → e = o ∧ ∀ m b, o ≠ .reply m b) := by
  cases o with
  | reply m' b =>
    obtain ⟨msg, h1, h2, rfl⟩ := C17_no_misdelivery a n σ i m' b ho
    cases hu : unwrap msg.body <;> simp only [wrapOutcome, hu]
    · exact ⟨nofun, fun _ hw => by cases hw; exact ⟨msg, h1, h2, hu⟩, nofun⟩
    · exact ⟨fun _ _ hw => by cases hw; exact ⟨msg, h1, h2, hu⟩, nofun, nofun⟩
  | _ => exact ⟨nofun, nofun, fun _ hw => by cases hw; exact ⟨rfl, nofun⟩⟩

example : wrapOutcome (fun b => if b = 7 then some 70 else none) (.reply 0 7) = .value 0 70 ∧
    wrapOutcome (fun b => if b = 7 then some 70 else none) (.reply 0 8) = .badShape 0 ∧
    wrapOutcome (fun _ => none) .timeout = .err .timeout := by decide

/-- a wrapped value is returned to one caller only (while the allocator has not gone round) -/
theorem C17_wrapped_value_returned_to_one_caller (unwrap : Nat → Option Nat) (a : Sh) (n : Nat) (σ : List Step)
    (i j m v v' : Nat) (oi oj : Outcome) (hb : (reach a n σ).nalloc ≤ MAXP * U32)
    (hi : ((reach a n σ).callers i).out = some oi) (hj : ((reach a n σ).callers j).out = some oj)
    (hwi : wrapOutcome unwrap oi = .value m v) (hwj : wrapOutcome unwrap oj = .value m v') : i = j := by
  cases oi <;> simp only [wrapOutcome] at hwi <;> try cases hwi
  cases oj <;> simp only [wrapOutcome] at hwj <;> try cases hwj
  split at hwi <;> cases hwi
  split at hwj <;> cases hwj
  exact C17_message_returned_to_one_caller a n σ i j m _ _ hb hi hj

example : ((reach a0 0 good).callers 0).out = some (.reply 0 7) ∧ wrapOutcome (fun b => some (b + 1)) (.reply 0 7) = .value 0 8 := by
  decide

/-- arity, atom and index of `OwnedTerm::into_rex_response` as the translator reads them from term.rs -/
private theorem rex_response_eq : Gen.REX_RESPONSE = (2, "rex", 1) := by decide

open Edp.Impl.RpcTerm in
/-- `into_rex_response` (arity, atom and index as read from term.rs) accepts exactly the pairs `{rex, Result}` and
returns `Result`; everything else — another atom, another arity, a non-tuple, an improper shape — is an error -/
theorem C17_rex_response_shape (t v : Term) :
    intoRexResponse t = some v ↔ t = .tuple [.atom (strBytes "rex"), v] := by
  have hg := rex_response_eq
  cases t with
  | tuple l =>
    -- by the length of the tuple, then by its first element
    rcases l with _ | ⟨x, _ | ⟨y, _ | ⟨z, l⟩⟩⟩
    case cons.cons.nil => cases x <;> simp [intoRexResponse, hg]
    all_goals simp [intoRexResponse, hg]
  | _ => simp [intoRexResponse]

open Edp.Impl.RpcTerm in
example : intoRexResponse (.tuple [.atom (strBytes "rex"), .int 5]) = some (.int 5) ∧
    intoRexResponse (.tuple [.atom (strBytes "rexx"), .int 5]) = none ∧
    intoRexResponse (.tuple [.atom (strBytes "rex"), .int 5, .int 6]) = none ∧
    intoRexResponse (.tuple [.atom (strBytes "rex")]) = none ∧
    intoRexResponse (.atom (strBytes "rex")) = none ∧
    intoRexResponse (.tuple [.bin (strBytes "rex"), .int 5]) = none := by
  refine ⟨?_, ?_, ?_, ?_, ?_, ?_⟩ <;> simp [intoRexResponse, rex_response_eq, strBytes] <;> decide

open Edp.Impl.RpcTerm in
/-- the request is `{ReplyPid, {call, Module, Function, Args, user}}`, sent to the registered name `rex`: the reply pid
inside it is the call's own key, so a conforming peer answers to that key -/
theorem C17_request_is_the_rex_call (reply : PidF) (m f : Bytes) (args : List Term) :
    callRequest reply m f args =
      .tuple [.pid reply, .tuple [.atom (strBytes "call"), .atom m, .atom f, .list args, .atom (strBytes "user")]] ∧
    Gen.RPC_REQUEST_TO = "rex" := by
  have hg : Gen.RPC_REQUEST_SHAPE = ["atom:call", "atom=module", "atom=function", "list=args", "atom:user"] := by decide
  refine ⟨?_, by decide⟩
  rw [callRequest, hg]
  rfl

open Edp.Impl.RpcTerm in
example : erlangTarget "erlang_memory" = some (strBytes "erlang", strBytes "memory") := by decide

/-- The steps of `rpc_call_raw_with_timeout` as the translator lists them from node.rs — allocation, every access to
`pending_rpcs` and `connections`, every `.await`, every early return, `?` and `expect`, in source order — are the steps
the model reads the function as (`sourceSteps`). A new await, removal or early return changes the list. -/
theorem C17_model_steps_are_the_source_steps : Gen.RPC_CALL_STEPS = sourceSteps.map (·.1) := by decide

example : Gen.RPC_CALL_STEPS.length = 22 := by decide

/-- Every `.await` of the source is a program counter at which the model lets the owner drop the future (`drop` is
enabled there in every state), and every program counter at which `drop` is enabled is an `.await` of the source. -/
theorem C17_every_await_is_a_drop_point :
    (∀ t ∈ Gen.RPC_CALL_STEPS, isAwait t = true → ∃ pc, awaitPc t = some pc ∧ pc.suspended = true ∧
      ∀ (s : St) (i : Nat), (s.callers i).pc = pc → (step s (.drop i)).isSome = true) ∧
    (∀ pc : Pc, pc.suspended = true → ∃ t ∈ Gen.RPC_CALL_STEPS, isAwait t = true ∧ awaitPc t = some pc) := by
  constructor
  · have key : ∀ t ∈ Gen.RPC_CALL_STEPS, isAwait t = true → (awaitPc t).any Pc.suspended = true := by decide
    intro t ht ha
    obtain ⟨pc, h1, h2⟩ := (Option.any_eq_true _ _).mp (key t ht ha)
    exact ⟨pc, h1, h2, fun s i hpc => by simp [step, hpc, h2]⟩
  · intro pc hpc
    cases pc <;> simp [Pc.suspended] at hpc
    · exact ⟨"yield:rpc:before_insert", by decide, by decide, rfl⟩
    · exact ⟨"yield:rpc:after_insert", by decide, by decide, rfl⟩
    · exact ⟨"await:lock", by decide, by decide, rfl⟩
    · exact ⟨"await:send_to_name", by decide, by decide, rfl⟩
    · exact ⟨"yield:rpc:after_send", by decide, by decide, rfl⟩
    · exact ⟨"await:timeout", by decide, by decide, rfl⟩
    · exact ⟨"yield:rpc:timed_out", by decide, by decide, rfl⟩

example : (Gen.RPC_CALL_STEPS.filter isAwait).length = 8 := by decide

/-- Both places that build the key of `pending_rpcs` — the caller and `route_message` — use the format string and the
pid fields the model's `keyChars` stands for; the drop guard removes that key; the `Send`/`SendTt` arm asks the registry
first and touches the table only at the one `remove`, followed by the `send` into the channel. -/
theorem C17_key_and_route_arm_as_in_source (p : Pid) :
    keyCharsFrom Gen.RPC_KEY_FORMAT_CALL p = keyChars p ∧ keyCharsFrom Gen.RPC_KEY_FORMAT_ROUTE p = keyChars p ∧
    Gen.RPC_GUARD_DROP = ["pending.remove.key"] ∧
    Gen.ROUTE_SEND_ARM_STEPS = ["payload?", "pid?", "registry.get", "process.send", "else",
      "yield:route:before_pending_remove", "pending.remove", "sender.send"] ∧
    Gen.ROUTE_ARMS.head? = some (["Send", "SendTt"], ["to_pid"], "Regular", ["get", "rpc"]) := by
  have h1 : Gen.RPC_KEY_FORMAT_CALL = ("{}.{}.{}", ["id", "serial", "creation"]) := by decide
  have h2 : Gen.RPC_KEY_FORMAT_ROUTE = ("{}.{}.{}", ["id", "serial", "creation"]) := by decide
  refine ⟨by rw [h1]; exact renderFmt_key p, by rw [h2]; exact renderFmt_key p, by decide, by decide, by decide⟩

example : keyCharsFrom Gen.RPC_KEY_FORMAT_CALL ⟨12, 0, 345⟩ = "12.0.345".toList := by decide

open Edp.Impl.RpcTerm in
/-- The wrappers as read from node.rs and erlang_mod_fns.rs: each awaits exactly one call and nothing else;
`rpc_call_with_timeout` is the only one that changes the result (`into_rex_response`), `rpc_call` and `rpc_call_raw`
supply the default timeout of 10 s; the six `erlang_*` functions are `rpc_call`s to module `erlang`. -/
theorem C17_wrappers_as_in_source :
    Gen.RPC_WRAPPERS = [("rpc_call", "rpc_call_with_timeout", "DEFAULT_RPC_TIMEOUT", ""),
      ("rpc_call_with_timeout", "rpc_call_raw_with_timeout", "timeout", "rex"),
      ("rpc_call_raw", "rpc_call_raw_with_timeout", "DEFAULT_RPC_TIMEOUT", "")] ∧
    Gen.DEFAULT_RPC_TIMEOUT_MS = 10000 ∧ Gen.REX_RESPONSE = (2, "rex", 1) ∧
    Gen.ERLANG_MOD_FNS.map (fun e => (e.1, e.2.1, e.2.2.1, e.2.2.2.1, e.2.2.2.2.1)) =
      [("erlang_system_info", "item", "rpc_call", "erlang", "system_info"),
       ("erlang_statistics", "item", "rpc_call", "erlang", "statistics"),
       ("erlang_memory", "", "rpc_call", "erlang", "memory"),
       ("erlang_processes", "", "rpc_call", "erlang", "processes"),
       ("erlang_process_info", "pid,items", "rpc_call", "erlang", "process_info"),
       ("erlang_list_to_pid", "pid_str", "rpc_call", "erlang", "list_to_pid")] ∧
    (∀ e ∈ Gen.ERLANG_MOD_FNS, (erlangTarget e.1).isSome = true) := by
  refine ⟨by decide, by decide, rex_response_eq, by decide, by decide⟩

example : Gen.ERLANG_MOD_FNS.length = 6 := by decide

/-- `connect` and `rpc_call*` do not ask whether the node was started, so calls may be made before `Node::start`, with
reply pids that carry the placeholder creation. `start` only changes the creation the allocator stamps on NEW pids
(`set_creation`): the counters go on, so a call that allocates after `start` gets an `(id, serial)` no earlier call has —
also when EPMD assigns the very creation the node had before (1). The earlier call keeps its key. -/
theorem C17_reply_pids_fresh_across_start (a : Sh) (n : Nat) (σ τ : List Step) (c i j : Nat)
    (hb : (reach a n (σ ++ .start c :: τ)).nalloc ≤ MAXP * U32)
    (hi : ((reach a n σ).callers i).pc ≠ .start) (hj : ((reach a n σ).callers j).pc = .start)
    (hj' : ((reach a n (σ ++ .start c :: τ)).callers j).pc ≠ .start)
    (hoi : ((reach a n (σ ++ .start c :: τ)).callers i).out ≠ some .allocFail)
    (hoj : ((reach a n (σ ++ .start c :: τ)).callers j).out ≠ some .allocFail) :
    ((reach a n (σ ++ .start c :: τ)).callers i).key = ((reach a n σ).callers i).key ∧
    (((reach a n (σ ++ .start c :: τ)).callers i).key.id, ((reach a n (σ ++ .start c :: τ)).callers i).key.serial) ≠
      (((reach a n (σ ++ .start c :: τ)).callers j).key.id, ((reach a n (σ ++ .start c :: τ)).callers j).key.serial) := by
  have hrun : reach a n (σ ++ .start c :: τ) = run (reach a n σ) (.start c :: τ) := run_append _ σ _
  obtain ⟨hk, hi'⟩ := key_run (.start c :: τ) (reach a n σ) i hi
  rw [← hrun] at hk hi'
  refine ⟨hk, ?_⟩
  have hij : i ≠ j := by intro h; subst h; exact hi hj
  exact C17_keys_distinct a n _ i j hij hb hi' hj' hoi hoj

/-- a node that was not started (creation 1): call 0; it times out; `start` with EPMD assigning creation 1 again; call 1
gets `<2.0.1>`, not `<1.0.1>`; the late reply to call 0 arrives while call 1 waits and reaches nobody -/
example : let s := reach (Sh.new 1) 0 (reqSteps 0 ++ [.timeout 0, .timeoutRemove 0, .finish 0, .start 1] ++ reqSteps 1 ++
      [.rStart 0 ⟨0, ⟨1, 0, 1⟩, 2⟩, .rRemove 0])
    (s.callers 0).key = ⟨1, 0, 1⟩ ∧ (s.callers 1).key = ⟨2, 0, 1⟩ ∧ (s.callers 1).pc = .waiting ∧ (s.callers 1).val = none ∧
      s.recv 0 = .idle ∧ s.pending = [(⟨2, 0, 1⟩, 1)] := by decide
/-- with creation 7 assigned: new pids carry it, the counters go on -/
example : ((reach (Sh.new 1) 0 (reqSteps 0 ++ [.start 7] ++ reqSteps 1)).callers 1).key = ⟨2, 0, 7⟩ ∧
    ((reach (Sh.new 1) 0 (reqSteps 0 ++ [.start 7] ++ reqSteps 1)).callers 0).key = ⟨1, 0, 1⟩ := by decide

/-- Every use of the node's allocator and of its creation cell anywhere in node.rs, as the translator lists them, is a
part of the model: the allocator is built once (`with_hidden`), `start` calls `set_creation` on it (it does not replace
it: an assignment would be listed as `start:=new` / `=?`), and `allocate` is called by `spawn`, `send_remote` and
`rpc_call_raw_with_timeout` only (`spawnProc`, `otherAlloc`, `begin`). `self.creation` is stored by `start` and read by
`make_reference` / `creation()`; no call reads it. -/
theorem C17_allocator_uses_as_in_source :
    Gen.NODE_PID_ALLOCATOR_USES = ["struct::field", "with_hidden:let=new", "with_hidden:,init", "start:.set_creation()",
      "spawn:.allocate()", "send_remote:.allocate()", "rpc_call_raw_with_timeout:.allocate()"] ∧
    Gen.NODE_CREATION_USES = ["start:.store()", "make_reference:.load()", "creation:.load()"] ∧
    (∀ u ∈ Gen.NODE_PID_ALLOCATOR_USES, (allocUseStep u).isSome = true) ∧
    (∀ u ∈ Gen.NODE_CREATION_USES, (creationUseStep u).isSome = true) ∧
    (∀ (s : St) (c : Nat), step s (.start c) = some { s with alloc := s.alloc.setCreation c }) := by
  refine ⟨by decide, by decide, by decide, by decide, fun _ _ => rfl⟩

example : allocUseStep "start:=new" = none ∧ allocUseStep "start:.set_creation()" = some "start" := by decide

/-- The real table is keyed by the text `"{id}.{serial}.{creation}"`. Different triples have different texts, so keying
the model's table by the triple loses nothing (and two calls share an entry only if their triples are equal). -/
theorem C17_key_text_injective (p q : Pid) (h : keyText p = keyText q) : p = q := keyText_inj h

example : keyText ⟨12, 0, 345⟩ = "12.0.345" := by decide

end Edp.Props.C17

namespace Edp.Props.C17
open Edp Edp.Impl Edp.Impl.Rpc

/-- The model's `begin` step draws the reply pid of a call from the node's allocator, once per call, and from nowhere
else.  Regenerated from node.rs: `reply_to_pid` is bound exactly once, to `self.pid_allocator.allocate().expect(_)`; the
function touches no other part of the node than the allocator, the table of outstanding calls and the table of
connections; and the node has no field besides the eleven the models of C16–C19 know (a pool or cache of reply pids — a
later call picking up the pid of an answered one, whose late duplicate reply it would then take for its own — is a new
field, another initializer, or another `self.` access). -/
theorem C17_reply_pid_is_one_fresh_allocation_per_call :
    Gen.RPC_REPLY_PID_INIT = "self.pid_allocator.allocate().expect(_)" ∧
    Gen.RPC_SELF_FIELDS = ["pid_allocator", "pending_rpcs", "connections"] ∧
    Gen.NODE_FIELDS = ["name", "cookie", "creation", "pid_allocator", "reference_counter", "registry", "connections",
      "pending_rpcs", "started", "listen_port", "hidden"] ∧
    (Gen.RPC_CALL_STEPS.filter (· == "allocate")).length = 1 := by
  decide

example : Gen.RPC_CALL_STEPS.head? = some "allocate" := by decide

end Edp.Props.C17
