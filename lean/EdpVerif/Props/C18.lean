import EdpVerif.Generated.MiscC18
import EdpVerif.Generated.MiscRegistry
import EdpVerif.Generated.MiscState
import EdpVerif.Lemmas.ProcsLate
import EdpVerif.Lemmas.Behaviours
import EdpVerif.Lemmas.ProcsK
import EdpVerif.Lemmas.RegistryLocks
/-
C18 — local processes: ordered exactly-once delivery, exit notices, name lifecycle.
Property theorems only; the model is EdpVerif/Impl/Procs.lean (small-step semantics of the registry, the mailboxes, the
process tasks and the `Node` calls, one step per locked access), the inductive invariants are in EdpVerif/Lemmas/Procs.lean and
ProcsLate.lean.

A schedule is a list of events: `Ev.start t op` (client task `t`, between calls, calls `op`), `Ev.cont t` (task `t` takes the
next atomic step of its call), `Ev.proc p k` (the task of process `p` takes its next step). Task and process ids are arbitrary
naturals; every task may make any number of calls. All statements quantify over every mailbox capacity and every schedule
unless a hypothesis says otherwise; a step that would block is skipped by `run`.

The former known findings kf-c18-late-link / kf-c18-late-monitor (defects of edp-rs this property brought up, recorded
under these ids in known_findings.json while they were open; their story is in notes/C18.md) are repaired in the code
(closed link / monitor sets, `noproc` notices); `C18_exit_notice_for_every_link` / `C18_monitor_notice_for_every_monitor` are the unguarded statements.
-/
namespace Edp.Props.C18
open Edp Edp.Impl.Procs

/-! ## A. delivery: exactly once, in order -/

/-- FIFO, exactly once: at every moment of every schedule, what a process's mailbox has accepted (a send returned Ok) is, in
order, what its handler has been given followed by what is still queued. So nothing is handled twice, nothing is invented,
nothing overtakes; a message that was accepted and is neither handled nor queued does not exist. -/
theorem C18_fifo_exactly_once (cap : Nat) (evs : List Ev) (p : Pid) :
    let st := run (St.init cap) evs
    (st.procs p).accepted.map (·.2) = (st.procs p).handled ++ (st.procs p).mailbox :=
  (allInv_run cap evs).fifo p

set_option maxRecDepth 8000 in
example : ((run (St.init 8) (callEvs 0 (.spawn true) ++ callEvs 0 (.send 0 5 false) ++ callEvs 0 (.send 0 6 false) ++
    [.proc 0 0])).procs 0).handled = [.regular 5 false] := by decide

/-- each message is handled at most as often as it was accepted, and the handled sequence is a prefix of the accepted one -/
theorem C18_handled_at_most_once (cap : Nat) (evs : List Ev) (p : Pid) (m : Msg) :
    let st := run (St.init cap) evs
    (st.procs p).handled.count m + (st.procs p).mailbox.count m = st.timesAccepted p m ∧
      (st.procs p).handled <+: (st.procs p).accepted.map (·.2) := by
  intro st
  have h := C18_fifo_exactly_once cap evs p
  simp only at h
  refine ⟨?_, ?_⟩
  · show _ = ((st.procs p).accepted.map (·.2)).count m
    rw [h, List.count_append]
  · rw [h]; exact List.prefix_append _ _

/-- per-sender order: the messages a process accepted from one client task are exactly the messages that task's sends
returned Ok for, in the order the task issued them (by pid or by name alike) -/
theorem C18_per_sender_order (cap : Nat) (evs : List Ev) (t : Tid) (p : Pid) :
    let st := run (St.init cap) evs
    st.acceptedFrom p t = st.sentTo t p :=
  (allInv_run cap evs).order t p

set_option maxRecDepth 8000 in
example : (run (St.init 8) (callEvs 0 (.spawn true) ++ callEvs 1 (.send 0 5 false) ++ callEvs 0 (.send 0 6 false) ++
    callEvs 1 (.send 0 7 false))).sentTo 1 0 = [.regular 5 false, .regular 7 false] := by decide

/-- progress: a process in its loop with a queued message can always take its step, and that step hands the OLDEST queued
message to the handler; it stays in the loop unless the handler fails on it -/
theorem C18_live_process_handles_head (st : St) (p : Pid) (k : Nat) (m : Msg) (rest : List Msg)
    (hpc : (st.procs p).pc = .recv) (hq : (st.procs p).mailbox = m :: rest) :
    ∃ st', procStep st p k = some st' ∧ (st'.procs p).handled = (st.procs p).handled ++ [m] ∧
      (st'.procs p).mailbox = rest ∧
      (st'.procs p).pc = (if m.fails (st.procs p).trap then .exiting else .recv) := by
  have hstep : procStep st p k = some (st.modP p fun q =>
      { q with mailbox := rest, handled := q.handled ++ [m], pc := if m.fails q.trap then .exiting else .recv }) := by
    unfold procStep; rw [hpc]; simp only [hq]
  exact ⟨_, hstep, by simp [St.modP], by simp [St.modP], by simp [St.modP]⟩

/-- what happens to messages still queued (or accepted later) when a process terminates: once a process has left its loop
its handled sequence never changes again, whatever happens afterwards — those messages are dropped with the mailbox -/
theorem C18_handled_frozen_after_loop (cap : Nat) (evs more : List Ev) (p : Pid)
    (h : ((run (St.init cap) evs).procs p).pc.terminating = true) :
    ((run (St.init cap) (evs ++ more)).procs p).handled = ((run (St.init cap) evs).procs p).handled := by
  rw [run_append]
  exact handled_frozen (allInv_run cap evs).reg h more

/-- the window is real (dismissed candidate, not a violation: the process is not live any more): a send to a process that
has left its loop but is still in the registry returns Ok and the message is never handled -/
theorem C18_send_to_terminating_is_accepted_and_dropped :
    ∃ evs : List Ev, let st := run (St.init 1000) evs
      st.out.getLast? = some (0, .ok) ∧ (st.procs 0).pc = .dead ∧ st.timesAccepted 0 (.regular 9 false) = 1 ∧
        (.regular 9 false) ∉ (st.procs 0).handled :=
  ⟨callEvs 0 (.spawn true) ++ callEvs 0 (.send 0 7 true) ++ [.proc 0 0, .proc 0 0] ++
      callEvs 0 (.send 0 9 false) ++ [.proc 0 0, .proc 0 0, .proc 0 0, .proc 0 0], by decide⟩

/-! ## B. exit notices -/

/-- at most once, and only to a process of the link set: under every schedule a mailbox accepts `Exit{from: p}` at most
once, and only if `p` has left its loop and the receiver was in `p`'s link set when `p` read it -/
theorem C18_exit_at_most_once (cap : Nat) (evs : List Ev) (p a : Pid) :
    let st := run (St.init cap) evs
    st.timesAccepted a (.exit p) ≤ 1 ∧
      (1 ≤ st.timesAccepted a (.exit p) → a ∈ (st.procs p).snapL ∧ (st.procs p).pc.startedL = true) := by
  dsimp only
  have hi := allInv_run cap evs
  exact notice_at_most_once (hi.exitCount p a) (hi.linkCons p a) (hi.nodup p).2.1

/-- never two: under every schedule a mailbox accepts at most one exit notice about `p`, whatever its reason — the one the
terminating task sends to its link set, or the `noproc` one `Node::link` sends for a link that reached the closed set;
repeating the `link`, or `unlink` followed by `link`, after the set was closed does not produce a second one -/
theorem C18_exit_notice_never_twice (cap : Nat) (evs : List Ev) (p a : Pid) :
    let st := run (St.init cap) evs
    st.timesAccepted a (.exit p) + st.timesAccepted a (.exitNoproc p) ≤ 1 := by
  dsimp only
  have hi := allInv2_run cap evs
  have := (notice_account (hi.base.exitCount p a) (hi.exitN p a) (hi.closed p).1 (hi.lsplit p a) (hi.base.linkCons p a)
    hi.lateL).1
  have := List.nodup_iff_count.mp (hi.base.nodup p).1 a
  omega

/-- never zero (the full statement; formerly known finding kf-c18-late-link): when `p` is through with its links, EVERY
process in `p`'s link set — whether the link was there when `p` collected the set or was accepted afterwards, from either
side of `link` — has accepted exactly one exit notice about `p` (reason `error` or `noproc`), unless it was not in the
registry when its notice was due (`liveL` / `noRegL`), has itself left the registry, or the `link` call that came late is
still running: then exactly one client task is inside that call and owes the notice (`C18_late_notice_is_sent`) -/
theorem C18_exit_notice_for_every_link (cap : Nat) (evs : List Ev) (p a : Pid) :
    let st := run (St.init cap) evs
    (st.procs p).pc.linksDone = true → a ∈ (st.procs p).links →
      st.timesAccepted a (.exit p) + st.timesAccepted a (.exitNoproc p) = 1 ∨
        (st.timesAccepted a (.exit p) + st.timesAccepted a (.exitNoproc p) = 0 ∧
          (a ∉ (st.procs p).liveL ∨ (st.procs a).pc.gone = true ∨ (p, a) ∈ st.noRegL ∨
            ∃ t, (st.cpc t).pendL = some (p, a) ∧ ∀ t', (st.cpc t').pendL = some (p, a) → t' = t)) := by
  dsimp only
  have hi := allInv2_run cap evs
  generalize run (St.init cap) evs = st at hi ⊢
  intro hdone hm
  obtain ⟨hs, ht⟩ := linksDone_started hdone
  refine (notice_exactly_one (hi.base.exitCount p a) (hi.exitN p a) (hi.closed p).1 (hi.lsplit p a) (hi.base.linkCons p a)
    hi.lateL (hi.base.nodup p).1 hm hs (by rw [ht]; rfl)).imp_right (And.imp_right ?_)
  rintro (e | e | e | e)
  · exact (hi.base.skip.1 p a e).imp_right .inl
  · exact .inr (.inl (hi.skipN.1 _ e))
  · exact .inr (.inr (.inl e))
  · exact .inr (.inr (.inr e))

set_option maxRecDepth 8000 in
example : let st := run (St.init 8) (callEvs 0 (.spawn true) ++ callEvs 0 (.spawn true) ++ callEvs 0 (.link 0 1) ++
    callEvs 0 (.send 1 7 true) ++ List.replicate 5 (.proc 1 0))
    (st.procs 1).pc.linksDone = true ∧ st.timesAccepted 0 (.exit 1) = 1 := by decide

set_option maxRecDepth 8000 in
/-- the former witness of kf-c18-late-link: `link(0, 1)` completes after process 1 has closed its link set and before it leaves
the registry — process 0 now gets the `noproc` notice, once -/
example : let st := run (St.init 1000) (callEvs 0 (.spawn true) ++ callEvs 0 (.spawn true) ++ callEvs 0 (.send 1 7 true) ++
    [.proc 1 0, .proc 1 0] ++ callEvs 0 (.link 0 1) ++ [.proc 1 0, .proc 1 0, .proc 1 0, .proc 1 0])
    st.out.getLast? = some (0, .ok) ∧ (st.procs 1).pc = .dead ∧ 0 ∈ (st.procs 1).links ∧
      st.timesAccepted 0 (.exit 1) = 0 ∧ st.timesAccepted 0 (.exitNoproc 1) = 1 := by decide

set_option maxRecDepth 8000 in
/-- and from the other side: `link(1, 0)` with the terminating process as `from` -/
example : let st := run (St.init 1000) (callEvs 0 (.spawn true) ++ callEvs 0 (.spawn true) ++ callEvs 0 (.send 1 7 true) ++
    [.proc 1 0, .proc 1 0] ++ callEvs 0 (.link 1 0) ++ callEvs 0 (.unlink 0 1) ++ callEvs 0 (.link 0 1) ++
    [.proc 1 0, .proc 1 0, .proc 1 0, .proc 1 0])
    (st.procs 1).pc = .dead ∧ st.timesAccepted 0 (.exit 1) = 0 ∧ st.timesAccepted 0 (.exitNoproc 1) = 1 := by decide

/-- the link set a terminating process notifies is its link set at the step that reads it (`close_links`), "live" is
membership of `by_pid` at that same step, and the same step closes the set -/
theorem C18_links_read_in_one_step (st : St) (p : Pid) (k : Nat) (h : (st.procs p).pc = .exiting) :
    ∃ st', procStep st p k = some st' ∧ (st'.procs p).snapL = (st.procs p).links ∧ (st'.procs p).liveL = st.byPid ∧
      (st'.procs p).pc = .notifyL (st.procs p).links ∧ (st'.procs p).closedL = true := by
  have hstep : procStep st p k = some (st.modP p fun q =>
      { q with pc := .notifyL q.links, closedL := true, snapL := q.links, liveL := st.byPid }) := by
    unfold procStep; rw [h]
  exact ⟨_, hstep, by simp [St.modP], by simp [St.modP], by simp [St.modP], by simp [St.modP]⟩

/-- the same for monitors, with the monitor's own reference: a mailbox accepts `MonitorExit{monitored: p, reference: r}` at
most once, and only if the pair (receiver, r) was in `p`'s monitor set when `p` read it -/
theorem C18_monitor_at_most_once (cap : Nat) (evs : List Ev) (p a : Pid) (r : Ref) :
    let st := run (St.init cap) evs
    st.timesAccepted a (.monExit p r) ≤ 1 ∧
      (1 ≤ st.timesAccepted a (.monExit p r) → (a, r) ∈ (st.procs p).snapM ∧ (st.procs p).pc.linksDone = true) := by
  dsimp only
  have hi := allInv_run cap evs
  exact notice_at_most_once (hi.monCount p a r) (hi.monCons p (a, r)) (hi.nodup p).2.2.2

/-- never two notices for one monitor, whatever the reason -/
theorem C18_monitor_notice_never_twice (cap : Nat) (evs : List Ev) (p a : Pid) (r : Ref) :
    let st := run (St.init cap) evs
    st.timesAccepted a (.monExit p r) + st.timesAccepted a (.monNoproc p r) ≤ 1 := by
  dsimp only
  have hi := allInv2_run cap evs
  have := (notice_account (hi.base.monCount p a r) (hi.monN p a r) (hi.closed p).2 (hi.msplit p (a, r))
    (hi.base.monCons p (a, r)) hi.lateM).1
  have := List.nodup_iff_count.mp (hi.base.nodup p).2.2.1 (a, r)
  omega

/-- never zero (the full statement; formerly known finding kf-c18-late-monitor): when `p` is through with its monitors,
EVERY monitor `(a, r)` in `p`'s monitor set — collected by `p` or accepted afterwards — has been answered by exactly one
`MonitorExit{monitored: p, reference: r}` in `a`'s mailbox (reason `error` or `noproc`), with the exceptions of
`C18_exit_notice_for_every_link` -/
theorem C18_monitor_notice_for_every_monitor (cap : Nat) (evs : List Ev) (p a : Pid) (r : Ref) :
    let st := run (St.init cap) evs
    (st.procs p).pc.monsDone = true → (a, r) ∈ (st.procs p).monitors →
      st.timesAccepted a (.monExit p r) + st.timesAccepted a (.monNoproc p r) = 1 ∨
        (st.timesAccepted a (.monExit p r) + st.timesAccepted a (.monNoproc p r) = 0 ∧
          (a ∉ (st.procs p).liveM ∨ (st.procs a).pc.gone = true ∨ (p, (a, r)) ∈ st.noRegM ∨
            ∃ t, (st.cpc t).pendM = some (p, (a, r)) ∧ ∀ t', (st.cpc t').pendM = some (p, (a, r)) → t' = t)) := by
  dsimp only
  have hi := allInv2_run cap evs
  generalize run (St.init cap) evs = st at hi ⊢
  intro hdone hm
  obtain ⟨hs, ht⟩ := monsDone_linksDone hdone
  refine (notice_exactly_one (hi.base.monCount p a r) (hi.monN p a r) (hi.closed p).2 (hi.msplit p (a, r))
    (hi.base.monCons p (a, r)) hi.lateM (hi.base.nodup p).2.2.1 hm hs (by rw [ht]; rfl)).imp_right (And.imp_right ?_)
  rintro (e | e | e | e)
  · exact (hi.base.skipM.1 p (a, r) e).imp_right .inl
  · exact .inr (.inl (hi.skipN.2 _ e))
  · exact .inr (.inr (.inl e))
  · exact .inr (.inr (.inr e))

set_option maxRecDepth 8000 in
example : let st := run (St.init 8) (callEvs 0 (.spawn true) ++ callEvs 0 (.spawn true) ++ callEvs 0 (.monitor 0 1) ++
    callEvs 0 (.monitor 0 1) ++ callEvs 0 (.send 1 7 true) ++ List.replicate 8 (.proc 1 0))
    (st.procs 1).pc.monsDone = true ∧ st.timesAccepted 0 (.monExit 1 0) = 1 ∧ st.timesAccepted 0 (.monExit 1 1) = 1 := by
  decide

set_option maxRecDepth 8000 in
/-- the former witness of kf-c18-late-monitor: `monitor(0, 1)` returns its reference after process 1 has closed its monitor
set and before it leaves the registry — process 0 gets `MonitorExit{1, that reference, noproc}`, once -/
example : let st := run (St.init 1000) (callEvs 0 (.spawn true) ++ callEvs 0 (.spawn true) ++ callEvs 0 (.send 1 7 true) ++
    [.proc 1 0, .proc 1 0, .proc 1 0] ++ callEvs 0 (.monitor 0 1) ++ [.proc 1 0, .proc 1 0, .proc 1 0])
    st.out.getLast? = some (0, .ref 0) ∧ (st.procs 1).pc = .dead ∧ (0, 0) ∈ (st.procs 1).monitors ∧
      st.timesAccepted 0 (.monExit 1 0) = 0 ∧ st.timesAccepted 0 (.monNoproc 1 0) = 1 := by decide

/-- the owed notice is really sent: a client task that holds the receiver's handle after a refused `add_link`
(`signal_noproc_exit`) can take its step whenever the receiver's mailbox is open and not full, the step puts
`Exit{from: b, noproc}` at the end of `a`'s queue, and the `link` call returns Ok -/
theorem C18_late_notice_is_sent (st : St) (t : Tid) (a b : Pid) (hpc : st.cpc t = .lkD a b)
    (hopen : (st.procs a).closed = false) (hroom : (st.procs a).mailbox.length < st.cap) :
    ∃ st', clientStep st t = some st' ∧ (st'.procs a).mailbox = (st.procs a).mailbox ++ [.exitNoproc b] ∧
      st'.out = st.out ++ [(t, .ok)] ∧ st'.cpc t = .idle := by
  have hstep : clientStep st t = some ({ st.deliver (.late t) a (.exitNoproc b) with sentNL := st.sentNL ++ [(b, a)] }.ret t .ok) := by
    unfold clientStep; rw [hpc]; simp only [hopen, hroom, ↓reduceIte, Bool.false_eq_true]
  exact ⟨_, hstep, by simp [St.ret, St.deliver, St.modP, Proc.push], by simp [St.ret, St.deliver, St.modP], by simp [St.ret]⟩

/-- a closed set is frozen: `unlink` / `demonitor` on a process that has collected its links / monitors changes nothing, so
the sets keep recording who is (or was) notified -/
theorem C18_closed_set_is_frozen (st : St) (t : Tid) (a b : Pid) (r : Ref) :
    (st.cpc t = .lk4 false a b → (st.procs b).closedL = true →
      ∃ st', clientStep st t = some st' ∧ st'.procs = st.procs ∧ st'.out = st.out ++ [(t, .ok)]) ∧
    (st.cpc t = .dem2 a b r → (st.procs b).closedM = true →
      ∃ st', clientStep st t = some st' ∧ st'.procs = st.procs ∧ st'.out = st.out ++ [(t, .ok)]) := by
  refine ⟨fun hpc hc => ⟨st.ret t .ok, ?_, rfl, rfl⟩, fun hpc hc => ⟨st.ret t .ok, ?_, rfl, rfl⟩⟩
  · unfold clientStep; rw [hpc]; simp [hc]
  · unfold clientStep; rw [hpc]; simp [hc]

/-- unlink / demonitor BEFORE the process collects its sets: no notice. A process that is not in `p`'s link (monitor) set
when `p` closes it and does not link (monitor) afterwards never gets a notice about `p` -/
theorem C18_no_notice_without_link (cap : Nat) (evs : List Ev) (p a : Pid) (r : Ref) :
    let st := run (St.init cap) evs
    (a ∉ (st.procs p).links → st.timesAccepted a (.exit p) + st.timesAccepted a (.exitNoproc p) = 0) ∧
    ((a, r) ∉ (st.procs p).monitors → st.timesAccepted a (.monExit p r) + st.timesAccepted a (.monNoproc p r) = 0) := by
  dsimp only
  have hi := allInv2_run cap evs
  constructor <;> intro hm
  · have := (notice_account (hi.base.exitCount p a) (hi.exitN p a) (hi.closed p).1 (hi.lsplit p a) (hi.base.linkCons p a)
      hi.lateL).1
    rw [List.count_eq_zero.mpr hm] at this
    omega
  · have := (notice_account (hi.base.monCount p a r) (hi.monN p a r) (hi.closed p).2 (hi.msplit p (a, r))
      (hi.base.monCons p (a, r)) hi.lateM).1
    rw [List.count_eq_zero.mpr hm] at this
    omega

set_option maxRecDepth 8000 in
example : let st := run (St.init 8) (callEvs 0 (.spawn true) ++ callEvs 0 (.spawn true) ++ callEvs 0 (.link 0 1) ++
    callEvs 0 (.monitor 0 1) ++ callEvs 0 (.unlink 1 0) ++ callEvs 0 (.demonitor 0 1 0) ++ callEvs 0 (.send 1 7 true) ++
    List.replicate 8 (.proc 1 0))
    (st.procs 1).pc = .dead ∧ (st.procs 0).accepted = [] := by decide

/-! ## C. names and pids -/

/-- at no time does a name map to two processes: `by_name` is a function under every schedule -/
theorem C18_name_unique (cap : Nat) (evs : List Ev) :
    ((run (St.init cap) evs).byName.map (·.1)).Nodup ∧
      ∀ n p q, (n, p) ∈ (run (St.init cap) evs).byName → (n, q) ∈ (run (St.init cap) evs).byName → p = q := by
  have hn := (allInv_run cap evs).names
  refine ⟨hn, fun n p q hp hq => ?_⟩
  have h1 := nameFind_of_mem hn hp
  have h2 := nameFind_of_mem hn hq
  rw [h1] at h2
  exact Option.some.inj h2

/-- a name is never re-pointed: whatever step any task takes (register, unregister, spawn, the sweep of a terminating
process, …, in any interleaving), a name that resolves to `p` before the step resolves to `p` after it or to nothing — it
reaches another process only through a state in which it is free -/
theorem C18_name_never_repointed (st st' : St) (e : Ev) (n : Name) (p : Pid) (hu : (st.byName.map (·.1)).Nodup)
    (h : stepEv st e = some st') (hn : nameFind n st.byName = some p) :
    nameFind n st'.byName = some p ∨ nameFind n st'.byName = none := by
  cases hq : nameFind n st'.byName with
  | none => exact Or.inr rfl
  | some q =>
    left
    have hm := nameFind_some_mem hq
    have hsub : (n, q) ∈ st.byName := by
      rcases stepEv_byName h with e | ⟨n', p', hf, e⟩ | ⟨f, e⟩ <;> rw [e] at hm
      · exact hm
      · rcases List.mem_append.mp hm with hm | hm
        · exact hm
        · cases List.mem_singleton.mp hm
          rw [hf] at hn; cases hn
      · exact (List.mem_filter.mp hm).1
    have := nameFind_of_mem hu hsub
    rw [hn] at this
    rw [Option.some.inj this]

set_option maxRecDepth 8000 in
example : let st := run (St.init 8) (callEvs 0 (.spawn true) ++ callEvs 0 (.spawn true) ++ callEvs 0 (.register 3 0) ++
    callEvs 1 (.register 3 1))
    nameFind 3 st.byName = some 0 ∧ st.out.getLast? = some (1, .taken) := by decide

/-- `register` on an occupied name fails with `NameAlreadyRegistered` and changes neither table nor any process -/
theorem C18_register_occupied_fails_and_changes_nothing (st : St) (t : Tid) (n : Name) (p q : Pid)
    (hpc : st.cpc t = .reg2 n p) (hp : p ∈ st.byPid) (hocc : nameFind n st.byName = some q) :
    ∃ st', clientStep st t = some st' ∧ st'.out = st.out ++ [(t, .taken)] ∧ st'.byName = st.byName ∧
      st'.byPid = st.byPid ∧ st'.procs = st.procs ∧ st'.nameLock = none := by
  have hstep : clientStep st t = some ({ st with nameLock := none }.ret t .taken) := by
    unfold clientStep; rw [hpc]; simp only [hp, ↓reduceIte, hocc]
  exact ⟨_, hstep, rfl, rfl, rfl, rfl, rfl⟩

/-- `register` for a pid that is not in the registry (terminated, or never spawned) fails with `ProcessNotFound` and changes
nothing (this is the repaired behaviour, see notes/C18.md) -/
theorem C18_register_dead_pid_fails (st : St) (t : Tid) (n : Name) (p : Pid)
    (hpc : st.cpc t = .reg2 n p) (hp : p ∉ st.byPid) :
    ∃ st', clientStep st t = some st' ∧ st'.out = st.out ++ [(t, .noProc)] ∧ st'.byName = st.byName ∧
      st'.byPid = st.byPid ∧ st'.procs = st.procs := by
  have hstep : clientStep st t = some ({ st with nameLock := none }.ret t .noProc) := by
    unfold clientStep; rw [hpc]; simp only [hp, ↓reduceIte]
  exact ⟨_, hstep, rfl, rfl, rfl, rfl⟩

/-- under every schedule a registered name belongs to a process that is in the registry, or to one that is exactly between
the two accesses of `registry.remove` (out of `by_pid`, names not swept yet) -/
theorem C18_names_point_to_registered (cap : Nat) (evs : List Ev) (n : Name) (p : Pid) :
    let st := run (St.init cap) evs
    nameFind n st.byName = some p → p ∈ st.byPid ∨ (st.procs p).pc = .sweep := by
  intro st h
  exact (allInv_run cap evs).reg.names n p (nameFind_some_mem h)

/-- after termination: once the removal steps of a terminated process are complete, its pid does not resolve, no name resolves
to it, a send to it by pid fails — and all of this stays so under every continuation -/
theorem C18_terminated_unresolvable (cap : Nat) (evs more : List Ev) (p : Pid)
    (h : ((run (St.init cap) evs).procs p).pc.swept = true) :
    let st := run (St.init cap) (evs ++ more)
    (st.procs p).pc.swept = true ∧ p ∉ st.byPid ∧ ∀ n, nameFind n st.byName ≠ some p := by
  intro st
  have hi := allInv_run cap (evs ++ more)
  have hsw : (st.procs p).pc.swept = true := by
    show ((run (St.init cap) (evs ++ more)).procs p).pc.swept = true
    rw [run_append]
    exact swept_forever (allInv_run cap evs).reg h more
  have hg : (st.procs p).pc.gone = true := by
    revert hsw; cases (st.procs p).pc <;> simp [PPc.swept]
  have hout := (hi.reg.goneOut p hg).1
  refine ⟨hsw, hout, fun n hn => ?_⟩
  rcases hi.reg.names n p (nameFind_some_mem hn) with h1 | h1
  · exact hout h1
  · rw [h1] at hsw; cases hsw

set_option maxRecDepth 8000 in
example : let st := run (St.init 8) (callEvs 0 (.spawn true) ++ callEvs 0 (.register 3 0) ++ callEvs 0 (.send 0 7 true) ++
    List.replicate 6 (.proc 0 0))
    (st.procs 0).pc.swept = true ∧ nameFind 3 st.byName = none := by decide

/-- no resurrection: a process that has left `by_pid` never comes back, in particular not through the `registry.insert` of
`Node::spawn` running after the process task was started (the task cannot terminate before the insert: nobody can reach its
mailbox) -/
theorem C18_no_resurrection (cap : Nat) (evs more : List Ev) (p : Pid)
    (h : ((run (St.init cap) evs).procs p).pc.gone = true) :
    p ∉ (run (St.init cap) (evs ++ more)).byPid := by
  have hi := allInv_run cap (evs ++ more)
  have hg : ((run (St.init cap) (evs ++ more)).procs p).pc.gone = true := by
    rw [run_append]
    exact gone_forever (allInv_run cap evs).reg h more
  exact (hi.reg.goneOut p hg).1

/-- a process whose `spawn` has not yet reached `registry.insert` is in its loop with an empty mailbox: it cannot have
terminated, so the late insert never registers a dead handle -/
theorem C18_spawn_inserts_a_live_process (cap : Nat) (evs : List Ev) (t : Tid) (p : Pid) :
    let st := run (St.init cap) evs
    st.cpc t = .spawn2 p → (st.procs p).pc = .recv ∧ (st.procs p).mailbox = [] := by
  intro st h
  have hi := (allInv_run cap evs).reg
  have h1 := hi.spawn2 t p h
  exact ⟨h1.2, (hi.fresh p h1.1 (by rw [h1.2]; simp)).2.1⟩

/-- the name can be registered again: in any state where the name is free (as it is once the owner's names are swept), a
`register` of it for a process in the registry, run without interference on `by_name`, returns Ok and the name resolves -/
theorem C18_name_can_be_registered_again (st : St) (t : Tid) (n : Name) (q : Pid)
    (hidle : st.cpc t = .idle) (hlock : st.nameLock = none) (hq : q ∈ st.byPid) (hfree : nameFind n st.byName = none) :
    let st' := run st (callEvs t (.register n q))
    st'.out = st.out ++ [(t, .ok)] ∧ st'.byName = st.byName ++ [(n, q)] ∧ st'.cpc t = .idle := by
  simp [callEvs, run, stepEv, clientStep, hidle, Op.entry, St.setC, St.ret, hlock, hq, hfree, List.replicate]

/-- the sweep releases every name of the terminated process: after the `by_name.retain` step none of them resolves -/
theorem C18_sweep_releases_names (st : St) (p : Pid) (k : Nat) (hpc : (st.procs p).pc = .sweep) (hlock : st.nameLock = none) :
    ∃ st', procStep st p k = some st' ∧ (∀ n, nameFind n st'.byName ≠ some p) ∧
      ∀ n q, q ≠ p → (nameFind n st.byName = some q → (n, q) ∈ st'.byName) := by
  have hstep : procStep st p k = some ({ st with byName := nameSweep p st.byName }.modP p fun q => { q with pc := .closing }) := by
    unfold procStep; rw [hpc]; simp only [hlock]
  refine ⟨_, hstep, ?_, ?_⟩
  · intro n hn
    have := nameFind_some_mem hn
    simp [St.modP] at this
  · intro n q hq hn
    simp [St.modP]
    exact ⟨nameFind_some_mem hn, hq⟩

/-- the `by_name` lock is never held across calls: whenever it is held, the holder is inside `register` and its next step
(always enabled) releases it — `remove` cannot be blocked for good (lock order `by_name` → `by_pid` only) -/
theorem C18_name_lock_is_released (st : St) (t : Tid) (n : Name) (p : Pid) (hpc : st.cpc t = .reg2 n p) :
    ∃ st', clientStep st t = some st' ∧ st'.nameLock = none ∧ st'.cpc t = .idle := by
  unfold clientStep
  rw [hpc]
  simp only
  split
  · split <;> exact ⟨_, rfl, rfl, by simp [St.ret]⟩
  · exact ⟨_, rfl, rfl, by simp [St.ret]⟩

/-! ## D. behaviours -/

/-- a call is answered at most once, and only a call is answered -/
theorem C18_gen_call_answered_at_most_once (body : Term) (res : GsResult) :
    (gsReplies body res).length ≤ 1 := by
  unfold gsReplies
  split <;> simp

/-- a well-formed `{'$gen_call', {Pid, Ref}, Request}` is dispatched to `handle_call` with that request and caller -/
theorem C18_gen_call_wellformed_dispatch (fp : PidF) (node : Bytes) (cr : Nat) (ids : List Nat) (loc : Option Bytes) (req : Term) :
    gsDispatch (.tuple [.atom (atomBytes "$gen_call"), .tuple [.pid fp, .ref node cr ids loc], req]) =
      .call fp (.ref node cr ids loc) req := by
  simp [gsDispatch, isRef]

/-- each call the server replies to is answered exactly once: to the `from` pid of the call, with the call's reference -/
theorem C18_gen_call_reply_to_caller_with_reference (body : Term) (fp : PidF) (r req v : Term)
    (h : gsDispatch body = .call fp r req) :
    gsReplies body (.reply v) = [(fp, .tuple [r, v])] := by
  unfold gsReplies
  rw [h]

/-- casts and plain messages are never answered, and neither is a call the server defers (`NoReply`) or fails on -/
theorem C18_gen_cast_info_never_answered (body : Term) (res : GsResult)
    (h : (∃ q, gsDispatch body = .cast q) ∨ (∃ b, gsDispatch body = .info b) ∨ res = .noReply ∨ res = .err) :
    gsReplies body res = [] := by
  unfold gsReplies
  rcases h with ⟨q, h⟩ | ⟨b, h⟩ | h | h
  · rw [h]
  · rw [h]
  · subst h; split <;> simp_all
  · subst h; split <;> simp_all

example : gsDispatch (.tuple [.atom (atomBytes "$gen_cast"), .atom (atomBytes "stop")]) = .cast (.atom (atomBytes "stop")) := by
  simp [gsDispatch, atomBytes]

/-- the event manager answers each `{'$gen_call', {Pid, Ref}, HandlerId, Request}` exactly once, to the caller, with the
call's reference — also when the handler is missing or fails (`error`); `notify` is never answered -/
theorem C18_gen_event_call_answered_once (frm : Option PidF) (body : Term) (cr : Option Term) (ids : List Term) :
    (geReplies frm body cr ids).length ≤ 1 ∧
      ∀ fp r hid req, geDispatch body = .call fp r hid req →
        geReplies frm body cr ids = [(fp, .tuple [r, cr.getD (.atom (atomBytes "error"))])] := by
  refine ⟨?_, ?_⟩
  · unfold geReplies
    split <;> (try split) <;> simp
  · intro fp r hid req h
    unfold geReplies
    rw [h]

/-! ## E. behaviours, function by function

Model: `Impl/Behaviours.lean` (`gsHandle` / `gsRun`: `GenServerProcess::handle_message` inside the loop of `spawn_process`;
`geHandle` / `geRun`, `notify`, `callHandler`, `addHandler`, `deleteHandler`: `GenEventManager`). The user's callbacks are
arbitrary: their answers are inputs (`GsStep.ans` per message; the oracle `ω uid k` per handler instance and callback), and so
is the registry at the moment a message is handled (`Env`). `Spec/Behaviours.lean` says what is owed, from the OTP shapes.
The code is the repaired one: a reply that cannot be delivered is dropped (before, it ended the behaviour process). -/
end Edp.Props.C18

namespace Edp.Props.C18
open Edp Edp.Impl.Beh Edp.Spec.Beh

/-- the tags, arities, chain order, reply layout and error handling of the two `handle_message` functions, as extracted from
gen_server.rs / gen_event.rs on this run, are what the model transcribes -/
theorem C18_behaviour_tables_are_the_source :
    Gen.GS_DISPATCH = [("call", 3), ("cast", 2)] ∧ Gen.GS_MIN_ARITY = 2 ∧ Gen.GS_FROM_ARITY = 2 ∧
    Gen.GS_REPLY_REF_FIRST = true ∧ Gen.GS_REPLY_ERRORS_PROPAGATED = 0 ∧
    Gen.GE_DISPATCH = [("notify", 2), ("sync_notify", 2), ("call", 4), ("which_handlers", 2)] ∧
    Gen.GE_REPLY_ERRORS_PROPAGATED = 0 := by decide

/-- the atoms in the source are the protocol's: `'$gen_call'`, `'$gen_cast'` of OTP's gen / gen_server, the event manager's own
tags, `ok`, `error`, `normal` -/
theorem C18_behaviour_tags_are_the_protocols :
    Gen.GS_CALL_TAG = tagGenCall ∧ Gen.GS_CAST_TAG = tagGenCast ∧ Gen.GE_CALL_TAG = tagGenCall ∧
    Gen.GE_NOTIFY_TAG = tagNotify ∧ Gen.GE_SYNC_NOTIFY_TAG = tagSyncNotify ∧ Gen.GE_WHICH_TAG = tagWhich ∧
    Gen.GE_ACK_ATOM = atomOk ∧ Gen.GE_CALL_ERROR_ATOM = atomError ∧ Gen.GS_TERMINATE_REASON = atomNormal := by decide

/-- **exactly once, to the caller, with the call's reference, in the order the calls were handled** — for every sequence of
messages of every kind, every behaviour of the callbacks and every registry at every step: what a `GenServerProcess` puts into
mailboxes over its whole life is exactly the list of replies the Spec says it owes: one `{Ref, Reply}` to `Pid` for each
handled `{'$gen_call', {Pid, Ref}, Request}` whose callback answered `Reply` while `Pid` could be reached, in handling order;
nothing for casts, plain messages, malformed calls, `NoReply`, failed callbacks; nothing after the server has ended -/
theorem C18_gen_server_answers_exactly_what_is_owed (steps : List GsStep) :
    sendsOf (gsRun steps).1 = expected (steps.map toSpec) :=
  gsRun_sends steps

example :
    let p : PidF := ⟨[110], 1, 0, 1, none⟩
    let call : Term := .tuple [.atom tagGenCall, .tuple [.pid p, .ref [110] 1 [7] none], .int 5]
    sendsOf (gsRun [⟨.regular none call, .reply (.int 6), fun _ => .live⟩]).1 = [(p, .tuple [.ref [110] 1 [7] none, .int 6])] := by
  rfl

/-- the exact guard of "answered": a well-formed call is answered — once, `{Ref, Reply}`, to its `Pid` — precisely when its
callback returns a reply and the caller is in the registry with an open mailbox; otherwise nothing is sent to anybody -/
theorem C18_gen_call_answered_iff_reply_and_reachable (f : Option PidF) (body : Term) (p : PidF) (r q : Term)
    (ans : GsAns) (env : Env) (h : callOf body = some (p, r, q)) :
    sendsOf (gsHandle ⟨.regular f body, ans, env⟩).1 =
      match ans with
      | .reply v => if env p = .live then [(p, .tuple [r, v])] else []
      | _ => [] := by
  rw [gsHandle_sends]
  simp only [toSpec, toSpecMsg, owed, h]
  cases ans with
  | reply v =>
    simp only [toSpecAns, reachB]
    by_cases hl : env p = .live <;> simp [hl]
  | noReply => rfl
  | err => rfl

example : callOf (.tuple [.atom tagGenCall, .tuple [.pid ⟨[110], 1, 0, 1, none⟩, .ref [110] 1 [7] none], .int 5]) =
    some (⟨[110], 1, 0, 1, none⟩, .ref [110] 1 [7] none, .int 5) := by rfl

/-- every message causes exactly the callback its shape says: a well-formed call `handle_call(Request, Pid)`; anything that
is not a well-formed call — wrong arity, a `from` that is not `{Pid, Reference}` (the alias form `{Pid, [alias|Ref]}` of OTP 24
included), a tag that is not the atom — `handle_cast` for a cast and otherwise `handle_info` with the WHOLE message; an `Exit`
the server's `terminate`; `Control` and the rest nothing. No message shape panics or ends the process. -/
theorem C18_gen_server_one_callback_per_message (s : GsStep) :
    cbsOf (gsHandle s).1 =
      match s.msg with
      | .regular _ body =>
        (match callOf body with
         | some (p, _, q) => [Cb.gsCall q p]
         | none => match gsDispatchB body with
           | .cast q => [Cb.gsCast q]
           | _ => [Cb.gsInfo body])
      | .exit r => [Cb.gsTerminate r]
      | _ => [] :=
  gsHandle_cbs s

/-- the alias form is not a call here: it is handed to `handle_info` and never answered (recorded in notes/C18.md) -/
example :
    let p : PidF := ⟨[110], 1, 0, 1, none⟩
    let body : Term := .tuple [.atom tagGenCall, .tuple [.pid p, .ilist [.atom [97]] (.ref [110] 1 [7] none)], .int 5]
    gsRun [⟨.regular none body, .reply (.int 6), fun _ => .live⟩] = ([.cb (.gsInfo body)], true) := by
  rfl

/-- **the server ends only when a callback fails**: over every history, the process is still in its loop exactly when no
handled message's callback returned `Err` — no shape of message, no unreachable caller, no closed mailbox ends it -/
theorem C18_gen_server_ends_only_on_a_failing_callback (steps : List GsStep) :
    (gsRun steps).2 = survives (steps.map toSpec) :=
  gsRun_alive steps

/-- a reply that cannot be delivered (the caller is registered but its mailbox has lost its receiver, or it is not
registered at all) is dropped: `handle_message` returns Ok, nothing is sent -/
theorem C18_gen_server_undeliverable_reply_is_harmless (f : Option PidF) (body : Term) (v : Term) (env : Env) :
    (gsHandle ⟨.regular f body, .reply v, env⟩).2 = true ∧
    ∀ p r q, callOf body = some (p, r, q) → env p ≠ .live → sendsOf (gsHandle ⟨.regular f body, .reply v, env⟩).1 = [] := by
  constructor
  · rw [gsHandle_ok]; rfl
  · intro p r q h hl
    rw [C18_gen_call_answered_iff_reply_and_reachable f body p r q _ env h]
    simp [hl]

example : (fun (_ : PidF) => Reach.closed) ⟨[110], 1, 0, 1, none⟩ ≠ Reach.live := by decide

/-- replies keep the order of handling across any split of the history: what is sent over `a ++ b` is what is sent over `a`
followed by what is sent over `b`, as long as the server survives `a` -/
theorem C18_gen_server_replies_in_handling_order (a b : List GsStep) (h : (gsRun a).2 = true) :
    sendsOf (gsRun (a ++ b)).1 = sendsOf (gsRun a).1 ++ sendsOf (gsRun b).1 := by
  induction a with
  | nil => rfl
  | cons s rest ih =>
    rw [List.cons_append, gsRun_cons, gsRun_cons]
    rw [gsRun_cons] at h
    split at h
    · cases h
    · rw [if_neg ‹_›, if_neg ‹_›]; simp only [sendsOf_append, ih h, List.append_assoc]

/-- **the event manager answers exactly what is owed**: over every sequence of messages, every state of the handler map and
every behaviour of the handlers, the messages it sends are, in order and in form, one `{Ref, _}` to `Pid` for every
`{'$gen_call', {Pid, Ref}, HandlerId, Request}` (whether the handler exists, replies, removes itself, swaps or fails) and every
`{'$gen_which_handlers', {Pid, Ref}}` whose `Pid` can be reached, one `ok` for every `{'$gen_sync_notify', Event}` whose message
names a reachable sender — and nothing else: `notify`, plain messages and malformed calls are never answered -/
theorem C18_event_manager_answers_exactly_what_is_owed (ω : Oracle) (st : GeSt) (steps : List GeStep) :
    (sendsOf (geRun ω st steps).2).map shape = geExpected (steps.map toSpecEv) :=
  geRun_sends ω steps st

example :
    let p : PidF := ⟨[110], 1, 0, 1, none⟩
    let call : Term := .tuple [.atom tagGenCall, .tuple [.pid p, .ref [110] 1 [7] none], .atom [104], .int 5]
    sendsOf (geRun (fun _ _ => {}) {} [⟨.regular none call, fun _ => .live⟩]).2 =
      [(p, .tuple [.ref [110] 1 [7] none, .atom atomError])] := by
  rfl

/-- no message and no handler behaviour ends the event manager: `handle_message` has no failing path, so every message of a
history is handled, whatever came before it -/
theorem C18_event_manager_handles_every_message (ω : Oracle) (a b : List GeStep) (st : GeSt) :
    (geRun ω st (a ++ b)).2 = (geRun ω st a).2 ++ (geRun ω (geRun ω st a).1 b).2 ∧
    (geRun ω st (a ++ b)).1 = (geRun ω (geRun ω st a).1 b).1 := by
  induction a generalizing st with
  | nil => exact ⟨rfl, rfl⟩
  | cons s rest ih =>
    obtain ⟨h1, h2⟩ := ih (geHandle ω st s).1
    simp only [List.cons_append, geRun]
    exact ⟨by rw [h1, List.append_assoc], h2⟩

/-- **a notify reaches every installed handler exactly once**, in the order of the map (`HashMap`: not the order of
installation; OTP does not promise one either), whatever the handlers answer — also those that remove themselves, swap or
fail during this very event -/
theorem C18_notify_reaches_every_installed_handler_once (ω : Oracle) (st : GeSt) (ev : Term) :
    eventCbs (notify ω st ev).2 = st.hs.map fun e => (e.uid, ev) :=
  eventCbs_notify ω st ev

example : eventCbs (notify (fun _ _ => { kind := .remove }) ⟨[⟨.int 1, 7, .int 1, 1⟩, ⟨.int 2, 8, .int 2, 1⟩]⟩ (.int 0)).2 =
    [(7, .int 0), (8, .int 0)] := by rfl

/-- **a call goes to exactly the handler stored under the named id** (one `handle_call`, for that instance, with that
request), or to nobody when there is none — and the value it is answered with is the handler's reply, or `error` when there is
no such handler, its callback failed, or the handler it swapped in failed to initialise -/
theorem C18_event_call_goes_to_the_named_handler (ω : Oracle) (st : GeSt) (key req : Term) :
    callCbs (callHandler ω st key req).2.1 =
      (match findKey key st.hs with
       | some e => [(e.uid, req)]
       | none => []) ∧
    (callHandler ω st key req).2.2 =
      (match findKey key st.hs with
       | none => none
       | some e =>
         match (ω e.uid e.n).kind with
         | .ok => some (ω e.uid e.n).val
         | .remove => some (ω e.uid e.n).val
         | .err => none
         | .swap => match (ω (ω e.uid e.n).newUid 0).kind with
           | .err => none
           | _ => some (ω e.uid e.n).val) := by
  refine ⟨(callHandler_out ω st key req).2, ?_⟩
  unfold callHandler
  cases hf : findKey key st.hs with
  | none => rfl
  | some e =>
    simp only
    cases hk : (ω e.uid e.n).kind with
    | ok => rfl
    | remove => rfl
    | err => rfl
    | swap => cases hi : (ω (ω e.uid e.n).newUid 0).kind <;> simp

example (ω : Oracle) (e : Entry) (r : List Entry) (req : Term) (h : (e.key == e.key) = true) :
    callCbs (callHandler ω ⟨e :: r⟩ e.key req).2.1 = [(e.uid, req)] := by
  rw [(C18_event_call_goes_to_the_named_handler ω ⟨e :: r⟩ e.key req).1]
  simp [findKey, h]

/-- The state the process model carries IS the state the code keeps (regenerated from the source on every run): a handle
has the pid, the mailbox sender and the two closable sets (`ExitSet`: entries and the closed flag); the registry has the
two tables; a mailbox is one channel; the behaviours keep their callback object, their tags, (the event manager:) the
handler map, and the registry. -/
theorem C18_state_is_the_sources_state :
    Edp.Gen.STRUCT_ProcessHandle =
      ["pid:ExternalPid", "mailbox_sender:mpsc::Sender<Message>", "links:Arc<RwLock<ExitSet<ExternalPid>>>",
       "monitors:Arc<RwLock<ExitSet<(ExternalPid,ExternalReference)>>>"]
    ∧ Edp.Gen.STRUCT_ExitSet = ["entries:HashSet<T>", "closed:bool"]
    ∧ Edp.Gen.STRUCT_ProcessRegistry =
      ["by_pid:Arc<RwLock<HashMap<ExternalPid,ProcessHandle>>>", "by_name:Arc<RwLock<HashMap<Atom,ExternalPid>>>"]
    ∧ Edp.Gen.STRUCT_Mailbox = ["sender:mpsc::Sender<Message>", "receiver:mpsc::Receiver<Message>"]
    ∧ Edp.Gen.STRUCT_GenServerProcess = ["server:T", "call_tag:Atom", "cast_tag:Atom", "registry:Arc<ProcessRegistry>"]
    ∧ Edp.Gen.STRUCT_GenEventManager =
      ["handlers:HashMap<String,HandlerEntry>", "notify_tag:Atom", "sync_notify_tag:Atom", "call_tag:Atom",
       "which_handlers_tag:Atom", "registry:Arc<ProcessRegistry>"]
    ∧ Edp.Gen.PROCESS_WIDE_STATE = [] := by decide

end Edp.Props.C18

namespace Edp.Props.C18
open Edp Edp.Impl Edp.Impl.Procs Edp.Impl.ProcsK

/-! ## F. bounded mailboxes: a full mailbox delays, it never drops

A mailbox is a bounded channel (`Mailbox::new`: `mpsc::channel(DEFAULT_MAILBOX_CAPACITY)`). Everything above is proved for
EVERY capacity and EVERY schedule of the model in which a mailbox send WAITS while the target is full — those schedules
include the ones in which a process does not take messages for as long as the schedule likes. That the code really uses the
waiting form at every place that puts a `Message` into a mailbox is a fact about the source: it is regenerated on every run
(`Generated/MiscMailbox.lean`) and the model's sending steps are given the form as a parameter (`Impl/ProcsK.lean`). -/

/-- **capacity and send forms are the source's**: `Node::spawn` hands every process `Mailbox::new()`, a channel of
`DEFAULT_MAILBOX_CAPACITY` (> 0) messages; crates/edp_node/src builds a `Message` in thirteen places, every one as the argument
of `ProcessHandle::send(..).await` (none bound to a name and handed to something else); `ProcessHandle::send` is the only
method of the handle that touches `mailbox_sender`, and it is `mailbox_sender.send(msg).await` — the form that waits for
room. Hence every sending step of the model (`srcForms`) and every reply of the behaviours has the waiting form. Changing
one site to `try_send` / `send_timeout` / a new method of the handle changes a table and breaks this. -/
theorem C18_mailbox_capacity_and_send_forms_are_the_sources :
    0 < Gen.MAILBOX_DEFAULT_CAPACITY ∧ Gen.MAILBOX_NEW_CHANNEL_ARG = "DEFAULT_MAILBOX_CAPACITY" ∧
    Gen.NODE_SPAWN_MAILBOX = "Mailbox::new()" ∧
    Gen.PROCESS_HANDLE_SENDER_METHODS = ["send"] ∧ Chan.handleSendForm = .await ∧
    Gen.MAILBOX_CHANNEL_OPS.map (fun e => (e.1, e.2.1, e.2.2.1)) =
      [("mailbox.rs", "send", "self.sender"), ("process.rs", "send", "self.mailbox_sender"),
       ("node.rs", "route_message", "sender")] ∧
    Gen.MAILBOX_DELIVERIES.length = Gen.MAILBOX_MESSAGE_CONSTRUCTIONS ∧
    (∀ e ∈ Gen.MAILBOX_DELIVERIES, Chan.deliveryForm e = .await) ∧
    Gen.MAILBOX_DELIVERIES.map (fun e => (e.1, e.2.1, e.2.2.1)) =
      [("process.rs", "propagate_exit_signals", "Exit"), ("process.rs", "propagate_exit_signals", "MonitorExit"),
       ("node.rs", "route_message", "Regular"), ("node.rs", "route_message", "Regular"),
       ("node.rs", "route_message", "Exit"), ("node.rs", "route_message", "MonitorExit"),
       ("node.rs", "send_local", "Regular"), ("node.rs", "signal_noproc_exit", "Exit"),
       ("node.rs", "monitor", "MonitorExit"), ("gen_server.rs", "handle_gen_call", "Regular"),
       ("gen_event.rs", "handle_message", "Regular"), ("gen_event.rs", "handle_message", "Regular"),
       ("gen_event.rs", "handle_message", "Regular")] ∧
    (∀ s, srcForms s = .await) ∧ srcReplyForms = [.await, .await] := by
  refine ⟨by decide, by decide, by decide, by decide, by decide, by decide, by decide, by decide, by decide, ?_, by decide⟩
  intro s
  cases s <;> decide

example : Chan.Form.ofSource "try_send" false = .trySend ∧ Chan.Form.ofSource "send" false = .other ∧
    Chan.deliveryForm ("node.rs", "route_message", "Exit", "signal", false, "propagated") = .other := by decide

/-- **with the source's forms nothing is ever dropped, and the model above is the model of the code**: for every capacity
and every schedule — full mailboxes and processes that do not take messages included — the run of the form-parametrised model
with the forms read from the source is the run of `Impl/Procs.lean`, and no send has given up on a message (`dropped = []`).
So `C18_fifo_exactly_once`, `C18_exit_notice_for_every_link`, `C18_monitor_notice_for_every_monitor` … speak about the code's
choice of channel operation, for the capacity of the source as for every other. -/
theorem C18_full_mailbox_never_drops (cap : Nat) (evs : List Ev) :
    runK srcForms ⟨St.init cap, []⟩ evs = ⟨run (St.init cap) evs, []⟩ ∧
    (runK srcForms ⟨St.init Gen.MAILBOX_DEFAULT_CAPACITY, []⟩ evs).dropped = [] := by
  obtain ⟨_, _, _, _, _, _, _, _, _, hAwait, _⟩ := C18_mailbox_capacity_and_send_forms_are_the_sources
  exact ⟨runK_await srcForms hAwait evs _, by rw [runK_await srcForms hAwait evs _]⟩

set_option maxRecDepth 20000 in
/-- the schedule of the next theorem under the source's forms: the exit notice waits for room and is delivered, once -/
example :
    let evs := callEvs 0 (.spawn true) ++ callEvs 0 (.spawn true) ++ callEvs 0 (.link 0 1) ++ callEvs 0 (.send 1 5 false) ++
      callEvs 0 (.send 0 7 true) ++ List.replicate 9 (.proc 0 0) ++ [.proc 1 0] ++ List.replicate 9 (.proc 0 0)
    let k := runK srcForms ⟨St.init 1, []⟩ evs
    (k.st.procs 0).pc = .dead ∧ k.st.timesAccepted 1 (.exit 0) = 1 ∧ k.dropped = [] := by decide

set_option maxRecDepth 20000 in
/-- **the parameter matters** (what a `try_send` at ONE site would do): with the exit signals to linked processes sent by a
form that gives up, and every other site as in the source, there is a schedule after which process 1 — linked to 0 when 0
read its links, in its loop, in the registry the whole time, its mailbox full at the wrong moment — has not and will never
get an exit notice about 0 of either kind: the conclusion of `C18_exit_notice_for_every_link` fails. -/
theorem C18_a_send_that_gives_up_loses_the_exit_notice :
    ∃ (F : Site → Chan.Form) (evs : List Ev), (∀ s, s ≠ .exitLinks → F s = srcForms s) ∧
      let k := runK F ⟨St.init 1, []⟩ evs
      1 ∈ (k.st.procs 0).snapL ∧ 1 ∈ (k.st.procs 0).liveL ∧ (k.st.procs 0).pc = .dead ∧
      (k.st.procs 1).pc = .recv ∧ 1 ∈ k.st.byPid ∧
      k.st.timesAccepted 1 (.exit 0) + k.st.timesAccepted 1 (.exitNoproc 0) = 0 ∧ k.dropped = [(1, .exit 0)] :=
  ⟨fun s => if s = .exitLinks then .trySend else srcForms s,
    callEvs 0 (.spawn true) ++ callEvs 0 (.spawn true) ++ callEvs 0 (.link 0 1) ++ callEvs 0 (.send 1 5 false) ++
      callEvs 0 (.send 0 7 true) ++ List.replicate 9 (.proc 0 0) ++ [.proc 1 0] ++ List.replicate 9 (.proc 0 0),
    fun s hs => by simp [hs], by decide⟩

/-- **back-pressure, step by step** (any state, any capacity): a step that sends into the mailbox of `p` — `send` / `send_to_name`
(`sendPut`), the `noproc` notices of `link` / `monitor` (`lkB`, `lkD`, `monN2`), the exit signals of a terminating process
(`sendL`, `sendM`) — is NOT enabled while `p`'s receiver is there and its mailbox is full: the sender is suspended, nothing
changes, nothing is lost; with room the client's send is enabled and appends exactly one message to `p`'s queue and to what
`p` accepted, touching no other mailbox; and the receiver's own step is always enabled while it is in its loop with a
non-empty queue, takes the OLDEST message, and leaves every other task where it was — after it a sender that was
suspended on a mailbox filled exactly to capacity has room. -/
theorem C18_full_mailbox_suspends_the_sender_until_the_receiver_takes_one (st : St) (p : Pid)
    (hc : (st.procs p).closed = false) :
    (∀ t, cTarget (st.cpc t) = some p → st.cap ≤ (st.procs p).mailbox.length → stepEv st (.cont t) = none) ∧
    (∀ q i, pTarget (st.procs q).pc = some p → st.cap ≤ (st.procs p).mailbox.length → stepEv st (.proc q i) = none) ∧
    (∀ t, cTarget (st.cpc t) = some p → (st.procs p).mailbox.length < st.cap →
      ∃ st' m, stepEv st (.cont t) = some st' ∧ (st'.procs p).mailbox = (st.procs p).mailbox ++ [m] ∧
        (st'.procs p).accepted.map (·.2) = (st.procs p).accepted.map (·.2) ++ [m] ∧
        ∀ q, q ≠ p → (st'.procs q).mailbox = (st.procs q).mailbox) ∧
    (∀ i m rest, (st.procs p).pc = .recv → (st.procs p).mailbox = m :: rest →
      ∃ st', stepEv st (.proc p i) = some st' ∧ (st'.procs p).mailbox = rest ∧ (st'.procs p).closed = false ∧
        st'.cap = st.cap ∧ st'.cpc = st.cpc ∧ (∀ q, q ≠ p → st'.procs q = st.procs q) ∧
        ((st.procs p).mailbox.length = st.cap → (st'.procs p).mailbox.length < st'.cap)) := by
  refine ⟨fun t ht hf => clientStep_full_blocks st t p ht hc hf, fun q i ht hf => procStep_full_blocks st q i p ht hc hf,
    fun t ht hf => clientStep_room_sends st t p ht hc hf, ?_⟩
  intro i m rest hp hm
  obtain ⟨st', h1, h2, h3, h4, h5, h6⟩ := procStep_recv_makes_room st p i m rest hp hm
  refine ⟨st', h1, h2, by rw [h3, hc], h4, h5, h6, ?_⟩
  intro hl
  rw [h2, h4, ← hl, hm]
  simp

example : ∃ st : St, ∃ t, cTarget (st.cpc t) = some 0 ∧ (st.procs 0).closed = false ∧ st.cap ≤ (st.procs 0).mailbox.length :=
  ⟨run (St.init 1) (callEvs 0 (.spawn true) ++ callEvs 0 (.send 0 5 false) ++ [.start 0 (.send 0 6 false), .cont 0]), 0,
    by decide⟩

/-- **a reply waits for a caller that is behind**: the reply sends of `GenServerProcess::handle_gen_call` and of the three
reply sites of `GenEventManager::handle_message` have the waiting form in the source; with that form a caller whose mailbox
is full is answered like any live caller (the behaviour process waits for room): what is sent is `Beh.reply`, the function
the behaviour theorems (`C18_gen_server_answers_exactly_what_is_owed` …) are about, whatever mailboxes are full. A form
that gives up loses exactly the replies to callers that are behind. -/
theorem C18_reply_waits_for_a_full_caller (full : PidF → Bool) (env : Beh.Env) (to : PidF) (body : Term) :
    (∀ f ∈ srcReplyForms, replyK f full env to body = Beh.reply env to body) ∧
    (∀ f, f.givesUp = true → full to = true → replyK f full env to body = []) := by
  constructor
  · intro f hf
    have h : f = .await := by
      obtain ⟨_, _, _, _, _, _, _, _, _, _, hReply⟩ := C18_mailbox_capacity_and_send_forms_are_the_sources
      rw [hReply] at hf
      simpa using hf
    subst h
    unfold replyK Beh.reply
    cases env to <;> simp [Chan.Form.givesUp]
  · intro f hf hfull
    unfold replyK
    cases env to <;> simp [hf, hfull]

example : replyK .trySend (fun _ => true) (fun _ => .live) ⟨[110], 1, 0, 1, none⟩ (.int 7) = [] ∧
    Beh.reply (fun _ => .live) ⟨[110], 1, 0, 1, none⟩ (.int 7) = [.send ⟨[110], 1, 0, 1, none⟩ (.int 7)] := by
  constructor <;> rfl

/-- **the registry takes its two locks in the order the model's atomic steps assume**: `register` claims a name as ONE
step of the model (the process is looked up and the name entered without anything in between). In the code the two tables
have separate locks, so that is true only because `register` holds the names for the whole function and checks the process
under them, while `remove` drops the process first and sweeps its names afterwards: a `remove` that falls between the check
and the claim would otherwise leave the name to a process that is gone, for good (the variant of edp-rs with that order
is /verif/seeded/S77-C18-register-checks-before-locking-names). The events of the four functions, regenerated from registry.rs in source order, are these. -/
theorem C18_registry_lock_order_is_the_sources :
    Gen.REGISTRY_REGISTER_EVENTS = ["hold:by_name.write", "temp:by_pid.read", "check-live", "claim-name"] ∧
    Gen.REGISTRY_REMOVE_EVENTS = ["temp:by_pid.write", "drop", "temp:by_name.write", "sweep-names"] ∧
    Gen.REGISTRY_UNREGISTER_EVENTS = ["temp:by_name.write", "drop"] ∧
    Gen.REGISTRY_WHEREIS_EVENTS = ["temp:by_name.read", "look-up"] := by decide

end Edp.Props.C18

/-! ## the registry at lock granularity: the order of the locks is what makes the atomic view right

Model: Impl/RegistryLocks.lean (two tables, the holder of the names lock, a program counter per task; the programs of
`register` / `remove` / `unregister` / `whereis` are INTERPRETED from the event lists regenerated from registry.rs);
invariants: Lemmas/RegistryLocks.lean. Any number of tasks, any schedule (a list of task ids; the step of a blocked or
finished task is a no-op). -/
namespace Edp.Props.C18
open Edp Edp.Impl.Procs Edp.Impl.RegistryLocks

/-- the event lists of the source, read as programs, ARE the programs the invariants below are proved for; the seeded order
(liveness check in front of the names lock) reads as the program of the negative witness -/
theorem C18_registry_programs_are_the_sources :
    progsOf Gen.REGISTRY_REGISTER_EVENTS Gen.REGISTRY_REMOVE_EVENTS Gen.REGISTRY_UNREGISTER_EVENTS Gen.REGISTRY_WHEREIS_EVENTS
      = some srcProgs ∧
    srcProgs.register = [.acqNames, .checkLive, .claim] ∧ srcProgs.remove = [.dropPid, .sweep] ∧
    progsOf ["temp:by_pid.read", "check-live", "hold:by_name.write", "claim-name"] Gen.REGISTRY_REMOVE_EVENTS
      Gen.REGISTRY_UNREGISTER_EVENTS Gen.REGISTRY_WHEREIS_EVENTS = some checkFirstProgs ∧
    parse ["claim-name", "hold:by_name.write"] = none := by decide

private theorem progs_of_sources {pr : Progs}
    (hpr : progsOf Gen.REGISTRY_REGISTER_EVENTS Gen.REGISTRY_REMOVE_EVENTS Gen.REGISTRY_UNREGISTER_EVENTS
      Gen.REGISTRY_WHEREIS_EVENTS = some pr) : pr = srcProgs := by
  rw [C18_registry_programs_are_the_sources.1] at hpr
  exact (Option.some.inj hpr).symm

/-- **the invariant of the two tables under every schedule**, for the programs the source has: every name in `by_name` is
owned by a pid that is in `by_pid` OR whose `remove` has dropped it and has not swept yet; the names are a map (no name has
two owners); only a task between its acquisition and its claim holds the names. -/
theorem C18_registry_invariant_at_lock_granularity (pr : Progs)
    (hpr : progsOf Gen.REGISTRY_REGISTER_EVENTS Gen.REGISTRY_REMOVE_EVENTS Gen.REGISTRY_UNREGISTER_EVENTS
      Gen.REGISTRY_WHEREIS_EVENTS = some pr)
    (r0 : Reg) (h0 : RegOK r0) (calls : List Call) (sched : List Tid) :
    let st := run (init pr r0 calls) sched
    (∀ n p, (n, p) ∈ st.reg.byName → p ∈ st.reg.byPid ∨ Pend st.tasks p) ∧
    (∀ n p, st.reg.whereis n = some p → p ∈ st.reg.byPid ∨ Pend st.tasks p) ∧
    (st.reg.byName.map (·.1)).Nodup ∧
    (∀ t, st.holder = some t → (st.tasks t).code = [.checkLive, .claim] ∨ (st.tasks t).code = [.claim]) := by
  intro st
  have hpr' := progs_of_sources hpr
  subst hpr'
  have hi : LockInv st := lockInv_run (lockInv_init h0 calls) sched
  exact ⟨hi.owned, fun n p h => hi.owned n p (nameFind_some_mem h), hi.uniq, fun t h => (hi.held t).mp h⟩

example :
    let st := run (init srcProgs { byPid := [1] } [.register 7 1, .remove 1]) [0, 0, 1, 0]
    st.reg = { byPid := [], byName := [(7, 1)] } ∧ (st.tasks 1).code = [.sweep] ∧ (st.tasks 1).pid = 1 ∧ (st.tasks 0).code = [] ∧
    RegOK { byPid := [1] } := by
  refine ⟨by decide, by decide, by decide, by decide, ?_, by decide⟩
  intro n p h; cases h

/-- **at quiescence (every task has returned) every registered name's owner is in the registry**: names never outlive
their processes, at lock granularity, for the lock order the source has, whatever the tasks and the schedule. -/
theorem C18_names_never_outlive_processes_at_lock_granularity (pr : Progs)
    (hpr : progsOf Gen.REGISTRY_REGISTER_EVENTS Gen.REGISTRY_REMOVE_EVENTS Gen.REGISTRY_UNREGISTER_EVENTS
      Gen.REGISTRY_WHEREIS_EVENTS = some pr)
    (r0 : Reg) (h0 : RegOK r0) (calls : List Call) (sched : List Tid) :
    let st := run (init pr r0 calls) sched
    Quiescent st → st.holder = none ∧ ∀ n p, st.reg.whereis n = some p → p ∈ st.reg.byPid := by
  intro st hq
  have hpr' := progs_of_sources hpr
  subst hpr'
  have hi : LockInv st := lockInv_run (lockInv_init h0 calls) sched
  refine ⟨quiescent_holder hi hq, ?_⟩
  intro n p h
  rcases hi.owned n p (nameFind_some_mem h) with h1 | ⟨t, h1, _⟩
  · exact h1
  · rw [hq t] at h1; cases h1

/-- a spawn and a registration that have both returned: the name's owner is in the registry -/
example :
    let st := run (init srcProgs {} [.insert 1, .register 7 1]) [1, 0, 1, 1]
    Quiescent st ∧ st.reg.whereis 7 = some 1 ∧ 1 ∈ st.reg.byPid ∧ st.holder = none := by
  refine ⟨?_, by decide, by decide, by decide⟩
  intro t
  match t with
  | 0 => decide
  | 1 => decide
  | n + 2 => rfl

/-- and a name whose owner was removed can be registered again: at quiescence a registration for a process of the registry
is refused as taken only when the name belongs to a process that IS in the registry -/
theorem C18_name_of_a_removed_process_can_be_registered_again (pr : Progs)
    (hpr : progsOf Gen.REGISTRY_REGISTER_EVENTS Gen.REGISTRY_REMOVE_EVENTS Gen.REGISTRY_UNREGISTER_EVENTS
      Gen.REGISTRY_WHEREIS_EVENTS = some pr)
    (r0 : Reg) (h0 : RegOK r0) (calls : List Call) (sched : List Tid) (n : Name) (q : Pid) :
    let st := run (init pr r0 calls) sched
    Quiescent st → q ∈ st.reg.byPid →
      (st.reg.register n q).2 = .ok ∨ ∃ p, st.reg.whereis n = some p ∧ p ∈ st.reg.byPid := by
  intro st hq hm
  cases hf : nameFind n st.reg.byName with
  | none => left; simp [Reg.register, hm, hf]
  | some p =>
    right
    exact ⟨p, hf, (C18_names_never_outlive_processes_at_lock_granularity pr hpr r0 h0 calls sched hq).2 n p hf⟩

/-- a process registers a name, terminates while another registration for it is in flight, and the name is free for the next
process: spawn 1, register 7 -> 1 racing remove 1 (the remove drops 1 between the check and the claim and has to wait for the
names with its sweep), then spawn 2 and register 7 -> 2: Ok -/
example :
    let st := run (init srcProgs {} [.insert 1, .register 7 1, .remove 1, .insert 2, .register 7 2])
      [0, 1, 1, 2, 2, 1, 2, 3, 4, 4, 4]
    Quiescent st ∧ st.reg = { byPid := [2], byName := [(7, 2)] } ∧ (st.tasks 1).res = some .ok ∧ (st.tasks 4).res = some .ok ∧
    RegOK {} := by
  refine ⟨?_, by decide, by decide, by decide, ?_, by decide⟩
  · intro t
    match t with
    | 0 => decide
    | 1 => decide
    | 2 => decide
    | 3 => decide
    | 4 => decide
    | n + 5 => rfl
  · intro n p h; cases h

/-- **the registry is linearizable at lock granularity**: every finished history of the lock-granularity model has the same
final tables and the same answers as a sequential order of the atomic operations of `Procs.Reg` — the order `lin`, in which
`register` stands where it read `by_pid` under the names lock (its claim or refusal is decided there: nothing can touch the
names until it releases them), `remove` stands with its drop (for `by_pid`) and with its sweep (for `by_name`), as the exit
path of Impl/Procs.lean has it, and the one-statement functions stand at their statement. `lin` holds, for every task, exactly
the operations of its call in program order, each entered during a step of that task (so between its call and its return),
every answer a task returned is the answer of one of its operations in that order, and every call has returned one. -/
theorem C18_registry_is_linearizable_at_lock_granularity (pr : Progs)
    (hpr : progsOf Gen.REGISTRY_REGISTER_EVENTS Gen.REGISTRY_REMOVE_EVENTS Gen.REGISTRY_UNREGISTER_EVENTS
      Gen.REGISTRY_WHEREIS_EVENTS = some pr)
    (r0 : Reg) (h0 : RegOK r0) (calls : List Call) (sched : List Tid) :
    let st := run (init pr r0 calls) sched
    Quiescent st →
      replay r0 (st.lin.map (·.2.1)) = (st.reg, st.lin.map (·.2.2)) ∧
      (∀ t, doneOps st t = callOps calls t) ∧
      (∀ t r, (st.tasks t).res = some r → ∃ op, (t, op, r) ∈ st.lin) ∧
      (∀ t, t < calls.length → (st.tasks t).res ≠ none) := by
  intro st hq
  have hpr' := progs_of_sources hpr
  subst hpr'
  have hl : LockInv st := lockInv_run (lockInv_init h0 calls) sched
  have hi : LinInv r0 st := linInv_run (lockInv_init h0 calls) (linInv_init _ r0 calls) sched
  have hp : ProgOrder (callOps calls) st := progOrder_run (progOrder_init r0 calls) sched
  have hr : Returned calls.length st := returned_run (lockInv_init h0 calls) (returned_init r0 calls) sched
  refine ⟨?_, ?_, hi.answered, fun t ht => hr t ht (hq t)⟩
  · have := hi.sim
    rw [quiescent_holder hl hq] at this
    simpa [absN] using this
  · intro t
    have := hp t
    simpa [Task.opsLeft, hq t] using this

/-- the race of the seeded change, on the source's order: the remove drops the process between the check and the claim; the
history is the sequential order register, drop, sweep, with the answers Ok, Ok, Ok and an empty registry at the end -/
example :
    let st := run (init srcProgs { byPid := [1] } [.register 7 1, .remove 1]) [0, 0, 1, 1, 0, 1]
    Quiescent st ∧ st.lin = [(0, .register 7 1, .ok), (1, .drop 1, .ok), (1, .sweep 1, .ok)] ∧ st.reg = {} ∧
    replay { byPid := [1] } (st.lin.map (·.2.1)) = (st.reg, st.lin.map (·.2.2)) := by
  refine ⟨?_, by decide, by decide, by decide⟩
  intro t
  match t with
  | 0 => decide
  | 1 => decide
  | n + 2 => rfl

/-- the two halves of a `remove` with a `register` between them are ONE atomic `remove` before or after that `register`
(same tables, same answer): so a `register` racing a `remove` is linearizable to the atomic operations `Reg.register` /
`Reg.remove` of Impl/Procs.lean themselves. (A register before the drop or after the sweep is that already.) -/
theorem C18_remove_halves_around_a_register_are_one_remove (r : Reg) (n : Name) (p q : Pid) :
    let mid := (AOp.apply (AOp.apply r (.drop q)).1 (.register n p))
    let fin := ((AOp.apply mid.1 (.sweep q)).1, mid.2)
    fin = (r.remove q).register n p ∨ fin = (((r.register n p).1.remove q), (r.register n p).2) := by
  intro mid fin
  by_cases hpq : p = q
  · left
    subst hpq
    simp [fin, mid, AOp.apply, Reg.register, Reg.remove]
  · right
    by_cases hm : p ∈ r.byPid
    · cases hf : nameFind n r.byName with
      | none => simp [fin, mid, AOp.apply, Reg.register, Reg.remove, hm, hpq, hf, nameSweep, List.filter_append]
      | some w => simp [fin, mid, AOp.apply, Reg.register, Reg.remove, hm, hpq, hf]
    · simp [fin, mid, AOp.apply, Reg.register, Reg.remove, hm, hpq]

example : (AOp.apply (AOp.apply (AOp.apply { byPid := [1], byName := [] } (.drop 1)).1 (.register 7 1)).1 (.sweep 1)).1
    = (({ byPid := [1], byName := [] } : Reg).remove 1) := by decide

/-- **one `register` racing one `remove` is one atomic `Reg.register` and one atomic `Reg.remove` in some order**: for every
schedule of the two tasks at lock granularity, the final tables and the answer of the `register` are those of
`remove; register` or those of `register; remove` on the sequential registry of Impl/Procs.lean. -/
theorem C18_register_racing_remove_is_atomic (pr : Progs)
    (hpr : progsOf Gen.REGISTRY_REGISTER_EVENTS Gen.REGISTRY_REMOVE_EVENTS Gen.REGISTRY_UNREGISTER_EVENTS
      Gen.REGISTRY_WHEREIS_EVENTS = some pr)
    (r0 : Reg) (h0 : RegOK r0) (n : Name) (p q : Pid) (sched : List Tid) :
    let st := run (init pr r0 [.register n p, .remove q]) sched
    Quiescent st → ∃ r, (st.tasks 0).res = some r ∧
      ((st.reg, r) = (r0.remove q).register n p ∨ (st.reg, r) = ((r0.register n p).1.remove q, (r0.register n p).2)) := by
  intro st hq
  obtain ⟨hsim, hops, hans, hret⟩ := C18_registry_is_linearizable_at_lock_granularity pr hpr r0 h0 _ sched hq
  obtain ⟨r, hr⟩ := Option.ne_none_iff_exists'.mp (hret 0 (by simp))
  refine ⟨r, hr, ?_⟩
  have h2 : ∀ t, 2 ≤ t → (st.lin.filter (fun e => e.1 = t)) = [] := by
    intro t ht
    have := hops t
    have hnone : ([Call.register n p, Call.remove q] : List Call)[t]? = none := by
      match t, ht with
      | t + 2, _ => rfl
    simpa [doneOps, callOps, hnone] using this
  have e0 : (st.lin.filter (fun e => e.1 = 0)).map (·.2.1) = [.register n p] := hops 0
  have e1 : (st.lin.filter (fun e => e.1 = 1)).map (·.2.1) = [.drop q, .sweep q] := hops 1
  obtain ⟨op, hmem⟩ := hans 0 r hr
  obtain ⟨ra, rb, rc, hl | hl | hl⟩ := interleavings_1_2 st.lin _ _ _ h2 e0 e1
  · rw [hl] at hsim hmem
    simp [replay, AOp.apply] at hsim hmem
    right
    rw [hmem.2, ← hsim.1, ← hsim.2.1]
    rfl
  · rw [hl] at hsim hmem
    simp [replay] at hsim hmem
    have := C18_remove_halves_around_a_register_are_one_remove r0 n p q
    simp only at this
    rw [hmem.2, ← hsim.1, ← hsim.2.2.1]
    exact this
  · rw [hl] at hsim hmem
    simp [replay, AOp.apply] at hsim hmem
    left
    rw [hmem.2, ← hsim.1, ← hsim.2.2.2]
    rfl

example :
    let st := run (init srcProgs { byPid := [1] } [.register 7 1, .remove 1]) [0, 0, 1, 1, 0, 1]
    (st.tasks 0).res = some .ok ∧
    (st.reg, Res.ok) = ((({ byPid := [1] } : Reg).register 7 1).1.remove 1, (({ byPid := [1] } : Reg).register 7 1).2) := by decide

/-- **the negative witness**: with the liveness check in FRONT of the names lock (the seeded order, read by the same
interpreter and run by the same step function) there is a schedule of one `register` racing one `remove` after which every
task has returned, nobody holds the names, and a name is owned by a pid that is not in `by_pid` — with no remove left to
sweep it. The check finds the process, the whole remove runs, then the name is claimed. -/
theorem C18_check_before_lock_loses_the_invariant :
    ∃ pr, progsOf ["temp:by_pid.read", "check-live", "hold:by_name.write", "claim-name"] Gen.REGISTRY_REMOVE_EVENTS
      Gen.REGISTRY_UNREGISTER_EVENTS Gen.REGISTRY_WHEREIS_EVENTS = some pr ∧
    ∃ sched : List Tid,
      let st := run (init pr { byPid := [1] } [.register 7 1, .remove 1]) sched
      RegOK { byPid := [1] } ∧ Quiescent st ∧ st.holder = none ∧
      st.reg.whereis 7 = some 1 ∧ 1 ∉ st.reg.byPid ∧ ¬ Pend st.tasks 1 ∧ (st.tasks 0).res = some .ok := by
  refine ⟨checkFirstProgs, C18_registry_programs_are_the_sources.2.2.2.1, [0, 1, 1, 0, 0], ?_⟩
  have hq : Quiescent (run (init checkFirstProgs { byPid := [1] } [.register 7 1, .remove 1]) [0, 1, 1, 0, 0]) := by
    intro t
    match t with
    | 0 => decide
    | 1 => decide
    | n + 2 => rfl
  refine ⟨⟨?_, by decide⟩, hq, by decide, by decide, by decide, ?_, by decide⟩
  · intro n p h; cases h
  · rintro ⟨t, h1, _⟩
    rw [hq t] at h1; cases h1

/-- the same schedule on the source's order: the remove's sweep waits for the names, the register is refused
(the process is gone when it looks) and nothing is left behind -/
example :
    let st := run (init srcProgs { byPid := [1] } [.register 7 1, .remove 1]) [1, 0, 1, 0, 0, 1]
    st.reg = {} ∧ (st.tasks 0).res = some .noProc ∧ (st.tasks 0).code = [] ∧ (st.tasks 1).code = [] := by decide

end Edp.Props.C18
