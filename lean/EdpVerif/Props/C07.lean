import EdpVerif.Lemmas.Send
import EdpVerif.Lemmas.SendSched
import EdpVerif.Lemmas.SendAll
import EdpVerif.Lemmas.SendSchedF
import EdpVerif.Generated.MiscC07book
/-
C07 — each send operation emits exactly one well-formed frame with the right content.

`sendOp c order op` is the list of writes of one `Connection` operation (Impl/Send.lean);
`Spec.Wire.readFramesFrom mode cache bytes` is what an independent receiver with atom cache `cache` reads;
`itemFor op.den` is the control tuple the protocol assigns to the operation, followed by its payload;
`OpOk op` says the arguments are values of the Rust types (UTF-8 names, 32-bit fields, `u64` id) whose preserved
node-local bytes, if any, denote the same identifier; `Reads env b v` says the bytes `b` are an encoding of `v`.
`PayOk op` is C01's guard on the payload (`wfT`: a value of the Rust type within the decoder's limits, identifiers inside
the payload in plain form; `finiteFloats`: no NaN/infinity, which C01_valid_not_for_nan shows are not valid encodings):
within it the payload's bytes are read by the independent reader as the payload's value — C01's validity theorem
(`spec_enc`).
`runOps c calls` is a SEQUENCE of operations on one connection, each with a `Fate` (all writes complete, or the operation
stops during write `i` after `k` bytes: I/O error, header-mode write timeout, future dropped); `sendOpF` is one step of it.
-/
namespace Edp.Props.C07
open Edp Edp.Send Edp.Spec Edp.Spec.Wire Edp.Term
open Edp.Impl.Handshake (ConnState)

/-- an operation on a connection that is not connected fails with the state error and writes nothing -/
theorem C07_gate (c : Conn) (order : List Bytes) (op : Op) (h : c.state ≠ .connected) :
    sendOp c order op = .error .invalidState ∧ wireOf (sendOp c order op) = [] := by
  simp [sendOp, h, wireOf]

example : sendOp { state := .awaitingChallengeAck, neg := some 0, stream := true } [] (.link pA pB) = .error .invalidState :=
  (C07_gate _ _ _ (by decide)).1

/-- conversely, an operation that writes anything was issued on a connected connection with a stream -/
theorem C07_writes_only_when_connected (c : Conn) (order : List Bytes) (op : Op) (ws : List Bytes)
    (h : sendOp c order op = .ok ws) : c.state = .connected ∧ c.stream = true := by
  cases hpt : usePassThrough c with
  | true => exact ⟨(sendOp_pt_shape c order op ws h hpt).1, (sendOp_pt_shape c order op ws h hpt).2.1⟩
  | false => exact ⟨(sendOp_hdr_shape c order op ws h hpt).1, (sendOp_hdr_shape c order op ws h hpt).2.1⟩

example : sendOp ptConn [] (.link pA pB) = .ok [[0,0,0,42], [112],
    [131,104,3,97,1,88,119,3,97,64,104,0,0,0,1,0,0,0,2,0,0,0,3,88,119,3,98,64,104,255,255,255,255,0,0,0,0,0,0,0,7]] := by
  rfl

/-- what `ControlMessage::to_term` returns for the value each operation builds denotes the control tuple the
protocol assigns to that operation (SEND {2, Unused, To}; REG_SEND {6, From, Unused, ToName}; LINK {1, From, To};
UNLINK_ID {35, Id, From, To}; MONITOR_P {19, From, ToProc, Ref}; DEMONITOR_P {20, From, ToProc, Ref}) -/
theorem C07_control_term_is_protocol_tuple (op : Op) (hok : OpOk op) :
    ∃ ct, Control.toTerm Gen.controlTable op.control = some ct ∧ ct.den = controlFor op.den :=
  ⟨controlTerm op, toTerm_control op, controlTerm_den op hok⟩

example : (controlTerm (.unlink pA pB 18446744073709551615)).den =
    .tuple [.int 35, .int 18446744073709551615, pidDen pA, pidDen pB] :=
  controlTerm_den _ ⟨pA_ok, pB_ok, by decide⟩

/-- the Spec's tuple for each operation is the entry of the protocol table (tag, number of elements, payload) -/
theorem C07_controlFor_matches_table (sop : SOp) :
    ∃ e args, Spec.findOp sop.name = some e ∧ controlFor sop = .tuple (.int e.tag :: args) ∧
      args.length = e.fields.length ∧ (payloadFor sop).isSome = e.payload.isSome := by
  cases sop <;> exact ⟨_, _, rfl, rfl, rfl, rfl⟩

example : Spec.findOp (SOp.unlinkId 1 .nil .nil).name = some { tag := 35, name := "UNLINK_ID", fields := ["Id", "FromPid", "ToPid"] } := by
  decide

/-- pass-through mode: the writes are, in this order, the 4-byte length, the marker 112, the versioned control term
and (for operations with a payload) the versioned payload term; the length is the number of bytes that follow it -/
theorem C07_pass_through_writes (c : Conn) (order : List Bytes) (op : Op) (ws : List Bytes)
    (h : sendOp c order op = .ok ws) (hpt : usePassThrough c = true) :
    ∃ ce, encode (controlTerm op) = .ok ce ∧
      ((op.payload = none ∧ ws = [be32 (1 + ce.length), [112], ce] ∧ 1 + ce.length < 2 ^ 32) ∨
       (∃ m me, op.payload = some m ∧ encode m = .ok me ∧ ws = [be32 (1 + ce.length + me.length), [112], ce, me] ∧
          1 + ce.length + me.length < 2 ^ 32)) :=
  (sendOp_pt_shape c order op ws h hpt).2.2

/-- distribution-header mode: one write, the 4-byte length followed by `encode_with_dist_header(_multi)` of the
control term and the payload -/
theorem C07_header_single_write (c : Conn) (order : List Bytes) (op : Op) (ws : List Bytes)
    (h : sendOp c order op = .ok ws) (hpt : usePassThrough c = false) :
    ∃ hb, distHeader order (controlTerm op :: op.payload.toList) = .ok hb ∧ ws = [be32 hb.length ++ hb] ∧
      hb.length < 2 ^ 32 :=
  (sendOp_hdr_shape c order op ws h hpt).2.2

/-- in either mode the bytes of a successful operation are one length-prefixed body: the prefix is the exact
length of everything that follows, and it fits 32 bits -/
theorem C07_length_prefix_exact (c : Conn) (order : List Bytes) (op : Op) (ws : List Bytes)
    (h : sendOp c order op = .ok ws) :
    ∃ body, ws.flatten = be32 body.length ++ body ∧ body ≠ [] ∧ body.length < 2 ^ 32 := by
  cases hpt : usePassThrough c with
  | true =>
    obtain ⟨_, _, ce, _, hsh⟩ := sendOp_pt_shape c order op ws h hpt
    rcases hsh with ⟨_, rfl, hsz⟩ | ⟨m, me, _, _, rfl, hsz⟩
    · exact ⟨112 :: ce, by simp; congr 1; omega, by simp, by simp; omega⟩
    · exact ⟨112 :: (ce ++ me), by simp; congr 1; omega, by simp, by simp; omega⟩
  | false =>
    obtain ⟨_, _, hb, hd, rfl, hsz⟩ := sendOp_hdr_shape c order op ws h hpt
    obtain ⟨_, _, _, tb, _, he⟩ := distHeader_ok hd
    exact ⟨hb, by simp, by simp [he], hsz⟩

/-- a frame that does not fit the 32-bit length prefix is refused before anything is written (pass-through mode,
operation with a payload; the other three sites have the same check) -/
theorem C07_oversized_frame_refused (c : Conn) (order : List Bytes) (op : Op) (m : Term) (ce me : Bytes)
    (hc : c.state = .connected) (hpt : usePassThrough c = true) (hp : op.payload = some m)
    (h1 : encode (controlTerm op) = .ok ce) (h2 : encode m = .ok me) (hbig : 1 + ce.length + me.length ≥ 2 ^ 32) :
    sendOp c order op = .error .tooLarge := by
  have : 1 + ce.length + me.length > u32max := by simp [u32max]; omega
  simp [sendOp, hc, sendControlMessage, toTerm_control, hpt, h1, hp, h2, this]

/-- pass-through mode: the bytes of a successful operation, followed by any further bytes, are read as the frame the
protocol assigns to the operation and then whatever the further bytes are; in particular the operation's bytes
alone are exactly that one frame.  Every operation, every payload within C01's guard. -/
theorem C07_one_frame_pass_through (c : Conn) (order : List Bytes) (op : Op) (ws : List Bytes)
    (h : sendOp c order op = .ok ws) (hpt : usePassThrough c = true) (hok : OpOk op) (hpay : PayOk op)
    (cache : Cache) (rest : Bytes) :
    readFramesFrom .passThrough cache (ws.flatten ++ rest) =
        (readFramesFrom .passThrough cache rest).map (itemFor op.den :: ·) ∧
      readFrames .passThrough ws.flatten = some [itemFor op.den] := by
  obtain ⟨body, hflat, hlen, hne, hrb⟩ := pt_frame c order op ws h hpt hok hpay
  rw [readFrames, hflat]
  exact ⟨readFrames_cons .passThrough cache body rest hlen hne _ cache (hrb cache),
    readFrames_one .passThrough [] body hlen hne _ [] (hrb [])⟩

/-- distribution-header mode: the same, for every order in which the encoder's hash set enumerated the atoms and
whatever the receiver's atom cache holds (every reference of the header is a new entry) -/
theorem C07_one_frame_dist_header (c : Conn) (order : List Bytes) (op : Op) (ws : List Bytes)
    (h : sendOp c order op = .ok ws) (hpt : usePassThrough c = false) (hok : OpOk op) (hpay : PayOk op)
    (cache : Cache) (rest : Bytes) :
    (∃ cache', readFramesFrom .distHeader cache (ws.flatten ++ rest) =
        (readFramesFrom .distHeader cache' rest).map (itemFor op.den :: ·)) ∧
      readFramesFrom .distHeader cache ws.flatten = some [itemFor op.den] := by
  obtain ⟨body, hflat, hlen, hne, hrb⟩ := hdr_frame c order op ws h hpt hok hpay
  obtain ⟨cache', hc'⟩ := hrb cache
  rw [hflat]
  exact ⟨⟨cache', readFrames_cons .distHeader cache body rest hlen hne _ cache' hc'⟩,
    readFrames_one .distHeader cache body hlen hne _ cache' hc'⟩

example : readFramesFrom .distHeader [((0, 0), [120])]
    (wireOf (sendOp hdrConn [[], [111, 107], [98, 64, 104]] (.send pA pB (.tuple [.atom [111, 107], .float 0, .map [(.int 1, .bin [7])]])))) =
    some [.msg (.tuple [.int 2, .atom [], pidDen pB]) (some (.tuple [.atom [111, 107], .float 0, .map [(.int 1, Value.mkBits [7] 8)]]))] := by
  obtain ⟨ws, h⟩ : ∃ ws, sendOp hdrConn [[], [111, 107], [98, 64, 104]]
      (.send pA pB (.tuple [.atom [111, 107], .float 0, .map [(.int 1, .bin [7])]])) = .ok ws := ⟨_, rfl⟩
  rw [h]
  exact (C07_one_frame_dist_header hdrConn _ _ ws h rfl pB_ok
    (fun m hm => by cases hm; exact ⟨by decide, by decide⟩) _ []).2

/-- link, unlink, monitor and demonitor (no payload): exactly one frame with the protocol's control tuple, in
whichever mode was negotiated, with no hypothesis beyond the argument types -/
theorem C07_one_frame_control_only (c : Conn) (order : List Bytes) (op : Op) (ws : List Bytes)
    (h : sendOp c order op = .ok ws) (hok : OpOk op) (hp : op.payload = none) (cache : Cache) :
    readFramesFrom (if usePassThrough c then .passThrough else .distHeader) cache ws.flatten =
      some [.msg (controlFor op.den) none] := by
  obtain ⟨body, hflat, hlen, hne, hrb⟩ := op_frame c order op ws h hok (fun m hm => by rw [hp] at hm; cases hm)
  obtain ⟨cache', hc'⟩ := hrb cache
  rw [hflat, show Item.msg (controlFor op.den) none = itemFor op.den by simp [itemFor_den, hp]]
  exact readFrames_one (modeOf c) cache body hlen hne _ cache' hc'

example : readFrames .passThrough (wireOf (sendOp ptConn [] (.monitor pA pB rA))) =
    some [.msg (.tuple [.int 19, pidDen pA, pidDen pB, rA.term.den]) none] := by
  obtain ⟨ws, h⟩ : ∃ ws, sendOp ptConn [] (.monitor pA pB rA) = .ok ws := ⟨_, rfl⟩
  rw [h]
  exact C07_one_frame_control_only ptConn [] _ _ h ⟨pA_ok, pB_ok, rA_ok⟩ rfl []

/-- unlink ids over the whole 64-bit range reach the wire unchanged: the reader finds the integer `id` itself as the
second element of the UNLINK_ID tuple, below and above 2^63 alike -/
theorem C07_unlink_id_unchanged (c : Conn) (order : List Bytes) (frm to : PidF) (id : Nat) (ws : List Bytes)
    (h : sendOp c order (.unlink frm to id) = .ok ws) (hf : PidOk frm) (ht : PidOk to) (hid : id < 2 ^ 64) (cache : Cache) :
    readFramesFrom (if usePassThrough c then .passThrough else .distHeader) cache ws.flatten =
      some [.msg (.tuple [.int 35, .int id, pidDen frm, pidDen to]) none] :=
  C07_one_frame_control_only c order _ ws h ⟨hf, ht, hid⟩ rfl cache

example : ∃ ws, sendOp ptConn [] (.unlink pA pB 9223372036854775808) = .ok ws := ⟨_, rfl⟩

/-- identifiers in node-local form (LOCAL_EXT bytes preserved by the decoder): the operation writes the preserved
bytes verbatim, and when these are an 8-byte hash followed by the plain encoding of the same pid, the peer reads the
frame with that pid in it -/
theorem C07_node_local_pid_on_the_wire (c : Conn) (order : List Bytes) (frm to : PidF) (hash inner : Bytes) (ws : List Bytes)
    (h : sendOp c order (.link frm to) = .ok ws) (hf : PidOk frm)
    (hh : hash.length = 8) (hu : validUtf8 to.node = true)
    (h1 : to.id < 4294967296) (h2 : to.serial < 4294967296) (h3 : to.creation < 4294967296)
    (hi : encPid [] { to with loc := none } = .ok inner) (hl : to.loc = some (hash ++ inner)) (cache : Cache) :
    readFramesFrom (if usePassThrough c then .passThrough else .distHeader) cache ws.flatten =
      some [.msg (.tuple [.int 1, pidDen frm, pidDen to]) none] :=
  C07_one_frame_control_only c order _ ws h ⟨hf, pidOk_local to hash inner hh hu h1 h2 h3 hi hl⟩ rfl cache

example : ∃ ws, sendOp hdrConn [[98, 64, 104], [97, 64, 104]]
    (.link pA { pB with loc := some ([1,2,3,4,5,6,7,8] ++ [88,119,3,98,64,104,255,255,255,255,0,0,0,0,0,0,0,7]) }) = .ok ws :=
  ⟨_, rfl⟩

/-- the id a node chooses for a remote unlink (`reference_counter.fetch_add(1) as u64 + 1`) is one the protocol
allows: positive and below 2^64 -/
theorem C07_node_unlink_id_valid (counter : Nat) (h : counter < 2 ^ 32) (frm to : Value) :
    (SOp.unlinkId (nodeUnlinkId counter) frm to).valid = true := by
  simp [SOp.valid, nodeUnlinkId]; omega

example : nodeUnlinkId 0 = 1 := rfl

/-- the payload hypothesis of the one-frame theorems holds for integers, big integers, finite floats, atoms, binaries,
strings, pids, references, nil, and lists and tuples of these, with and without a distribution header (the general
statement is C01's) -/
theorem C07_basic_payload_reads (cache : List Bytes) (env : Env) (he : EnvFor cache env) (m : Term) (hm : Basic m)
    (b : Bytes) (h : enc cache m = .ok b) : Reads env b m.den :=
  reads_basic he m hm b h

example : Basic (.tuple [.int 1, .atom [111, 107], .pid pA, .list [.bin [1, 2], .big true [1, 2, 3]]]) := by
  refine .tuple _ (by decide) ?_
  simp only [List.forall_mem_cons, List.not_mem_nil, false_imp_iff, implies_true, and_true]
  refine ⟨.int 1 (by omega), .atom _ (by decide), .pid _ pA_ok, .list _ ?_⟩
  simp only [List.forall_mem_cons, List.not_mem_nil, false_imp_iff, implies_true, and_true]
  exact ⟨.bin _, .big _ _ (by decide)⟩

/-- a send of ANY payload within C01's guard is exactly one SEND frame followed by that payload's value, in pass-through
mode (maps, funs, bit strings, strings, nested to any depth; not only the leaves of the theorem above) -/
theorem C07_send_any_payload (c : Conn) (order : List Bytes) (frm to : PidF) (m : Term) (ws : List Bytes)
    (h : sendOp c order (.send frm to m) = .ok ws) (hpt : usePassThrough c = true) (ht : PidOk to)
    (hw : wfT m = true) (hfin : finiteFloats m = true) :
    readFrames .passThrough ws.flatten = some [.msg (.tuple [.int 2, .atom [], pidDen to]) (some m.den)] := by
  have := (C07_one_frame_pass_through c order _ ws h hpt (show OpOk (.send frm to m) from ht)
    (fun m' hm' => by cases hm'; exact ⟨hw, hfin⟩) [] []).2
  simpa [itemFor, Op.den, controlFor, payloadFor, unused] using this

example : wfT (.map [(.atom [107], .list [.float 0, .str [104, 105]]), (.int 2, .bits [255, 128] 1)]) = true ∧
    finiteFloats (.map [(.atom [107], .list [.float 0, .str [104, 105]]), (.int 2, .bits [255, 128] 1)]) = true := by
  decide

/-- mutual exclusion: under every schedule, a task that is between the first and the last write of an operation
holds the connection lock -/
theorem C07_mutual_exclusion (prog : Nat → List (List Bytes)) (σ : List Nat) (u : Nat)
    (h : ((run prog St.init σ).ts u).rem.isSome = true) : (run prog St.init σ).lock = some u :=
  (inv_run prog σ).excl u h

/-- frames never interleave: under every schedule, whenever no operation is in progress the bytes on the wire are
the concatenation of the whole frames of the operations in the order in which the lock was acquired for them -/
theorem C07_wire_is_whole_frames_in_lock_order (prog : Nat → List (List Bytes)) (σ : List Nat)
    (h : (run prog St.init σ).lock = none) :
    (run prog St.init σ).wire = ((run prog St.init σ).acq.map (frameOf prog)).flatten :=
  (inv_run prog σ).free h

/-- and at every instant: whole frames of all but the last acquisition, then a prefix of the frame of the operation
in progress (the writes its holder has performed so far) -/
theorem C07_only_the_holders_frame_is_partial (prog : Nat → List (List Bytes)) (σ : List Nat) (t : Nat)
    (h : (run prog St.init σ).lock = some t) :
    ∃ done op pre post, (run prog St.init σ).acq = done ++ [(t, op)] ∧
      frameOf prog (t, op) = pre ++ post ∧
      (run prog St.init σ).wire = (done.map (frameOf prog)).flatten ++ pre := by
  obtain ⟨acq', pre, rem, full, hacq, _, hfull, hsplit, hwire⟩ := (inv_run prog σ).held t h
  refine ⟨acq', _, pre.flatten, rem.flatten, hacq, ?_, hwire⟩
  simp [frameOf, hfull, hsplit]

/-- each caller's operations reach the wire in the order it issued them: the operations of task `u` in the
acquisition order are its operations number 0, 1, 2, … without gaps or repetitions -/
theorem C07_each_task_in_issue_order (prog : Nat → List (List Bytes)) (σ : List Nat) (u : Nat) :
    (((run prog St.init σ).acq.filter (fun p => p.1 = u)).map (·.2)) = List.range (started (run prog St.init σ) u) :=
  (inv_run prog σ).order u

/-- every frame on the wire belongs to an operation some task issued -/
theorem C07_acquired_operations_exist (prog : Nat → List (List Bytes)) (σ : List Nat) (p : Nat × Nat)
    (h : p ∈ (run prog St.init σ).acq) : ((prog p.1)[p.2]?).isSome = true :=
  (inv_run prog σ).valid p h

example : (run (fun t => if t < 2 then [[[1], [2]], [[3]]] else []) St.init [0, 1, 0, 1, 0, 0, 1, 1, 1, 0, 1, 1, 0, 1, 1, 0, 0, 0]).wire = [1, 2, 1, 2, 3, 3]
    ∧ (run (fun t => if t < 2 then [[[1], [2]], [[3]]] else []) St.init [0, 1, 0, 1, 0, 0, 1, 1, 1, 0, 1, 1, 0, 1, 1, 0, 0, 0]).acq = [(0, 0), (1, 0), (1, 1), (0, 1)] := by
  decide

/-- k tasks issue operations through one node (pass-through framing, what `Node::connect` negotiates): for every
schedule, when no operation is in progress the peer reads exactly the frames the protocol assigns to the operations,
whole, in lock-acquisition order -/
theorem C07_concurrent_senders_read_whole_frames (c : Conn) (hpt : usePassThrough c = true) (ops : Nat → List Op)
    (hall : ∀ t op, op ∈ ops t → (∃ ws, sendOp c [] op = .ok ws) ∧ OpOk op ∧ PayOk op)
    (σ : List Nat) :
    let prog := fun t => (ops t).map (fun op => writesOf (sendOp c [] op))
    let st := run prog St.init σ
    st.lock = none →
      readFrames .passThrough st.wire =
        some (st.acq.map (fun p => match (ops p.1)[p.2]? with | some op => itemFor op.den | none => .tick)) := by
  intro prog st hq
  have hinv := inv_run prog σ
  rw [readFrames, hinv.free hq]
  apply readFrames_flat prog
  intro p hp
  have hv := hinv.valid p hp
  have hget : (prog p.1)[p.2]? = ((ops p.1)[p.2]?).map (fun op => writesOf (sendOp c [] op)) := by
    simp [prog]
  cases hop : (ops p.1)[p.2]? with
  | none => simp [hget, hop] at hv
  | some op =>
    have hmem : op ∈ ops p.1 := List.mem_of_getElem? hop
    obtain ⟨⟨ws, hws⟩, hok, hpay⟩ := hall p.1 op hmem
    obtain ⟨body, hflat, hlen, hne, hrb⟩ := pt_frame c [] op ws hws hpt hok hpay
    refine ⟨body, ?_, hlen, hne, ?_⟩
    · simp [frameOf, hget, hop, hws, writesOf, hflat]
    · intro cache; simpa using hrb cache

/-- any sequence of operations on one connection, in whichever framing mode it negotiated, each header with whatever atom
order the encoder's hash set produced, read by a peer whose atom cache holds anything at the start and is carried from
frame to frame: when every write completes, the peer reads exactly one item per operation that returned `Ok`, in order,
and nothing else (operations refused before their first write contribute nothing) -/
theorem C07_sequence_on_one_connection (c : Conn) (calls : List Call)
    (hall : ∀ x ∈ calls, OpOk x.op ∧ PayOk x.op) (hwhole : ∀ x ∈ calls, x.fate = .whole) (cache : Cache) :
    readFramesFrom (modeOf c) cache (runOps c calls).1 = some (itemsOf calls (runOps c calls).2) := by
  obtain ⟨whole, tail, h1, h2, h3⟩ := runOps_wire c calls hall cache
  rcases h3 with h3 | ⟨x, hx, hne, _⟩
  · rw [h1, h3, List.append_nil]; exact h2
  · exact absurd (hwhole x hx) hne

example : (runOps hdrConn [⟨[[98, 64, 104], [97, 64, 104]], .link pA pB, .whole⟩, ⟨[[97, 64, 104], [98, 64, 104]], .link pA pB, .whole⟩]).2 = [.ok, .ok] := by
  rfl

/-- the same with operations that may stop in the middle of their frame (`Fate.cut`: I/O error, the write timeout of
header mode, the future dropped at an await point), at any position of any sequence: the stream is the whole frames of the
operations that returned `Ok` — read by the peer as exactly their items — followed by nothing, or by a prefix of the
frame of ONE operation that was cut.  No byte of any other operation follows a partial frame. -/
theorem C07_stream_is_whole_frames_then_at_most_one_partial (c : Conn) (calls : List Call)
    (hall : ∀ x ∈ calls, OpOk x.op ∧ PayOk x.op) (cache : Cache) :
    ∃ whole tail, (runOps c calls).1 = whole ++ tail ∧
      readFramesFrom (modeOf c) cache whole = some (itemsOf calls (runOps c calls).2) ∧
      (tail = [] ∨ ∃ x ∈ calls, x.fate ≠ .whole ∧ ∃ ws rest, sendOp c x.order x.op = .ok ws ∧ ws.flatten = tail ++ rest) :=
  runOps_wire c calls hall cache

/-- once an operation was cut, at whatever point of whatever history, nothing more is written to the stream and every
later operation fails with the state error -/
theorem C07_nothing_is_written_after_a_partial_frame (c : Conn) (pre : List Call) (x : Call) (post : List Call)
    (h : (sendOpF (connAfter c pre) x.order x.op x.fate).2.2 = .cut) :
    (runOps c (pre ++ x :: post)).1 = (runOps c (pre ++ [x])).1 ∧
    (runOps c (pre ++ x :: post)).2 = (runOps c (pre ++ [x])).2 ++ post.map (fun _ => .err .invalidState) :=
  runOps_after_cut c pre x post h

example : runOps ptConn [⟨[], .link pA pB, .whole⟩, ⟨[], .link pB pA, .cut 2 3⟩, ⟨[], .link pA pB, .whole⟩] =
    ([0,0,0,42,112,131,104,3,97,1,88,119,3,97,64,104,0,0,0,1,0,0,0,2,0,0,0,3,88,119,3,98,64,104,255,255,255,255,0,0,0,0,0,0,0,7,
      0,0,0,42,112,131,104,3], [.ok, .cut, .err .invalidState]) := by
  rfl

/-- a cut operation leaves the connection closed (`FrameWrite::drop`: `transport.close()`, `handshake.disconnect()`), and
only a cut or a missing stream does: an operation that succeeds or is refused before its first write leaves the
connection as it was -/
theorem C07_only_an_unfinished_frame_closes_the_connection (c : Conn) (order : List Bytes) (op : Op) (fate : Fate) :
    ((sendOpF c order op fate).2.2 = .cut → (sendOpF c order op fate).1 = c.closed) ∧
    ((sendOpF c order op fate).2.2 = .ok → (sendOpF c order op fate).1 = c) ∧
    (∀ e, (sendOpF c order op fate).2.2 = .err e → e ≠ .noStream →
      (sendOpF c order op fate).1 = c ∧ (sendOpF c order op fate).2.1 = []) :=
  sendOpF_conn c order op fate

example : (sendOpF hdrConn [[98, 64, 104], [97, 64, 104]] (.link pA pB) (.cut 0 9)).1.state = .disconnected := by rfl

/-- the write sequences of `send_control_message`, the operation table and the framing constants are regenerated from
connection.rs / encoder.rs on every run and are the ones the protocol's frame needs: every write sits inside a
`FrameWrite` guard, the pass-through branches write length, marker, control[, payload] in this order with the three H3
points between them, header mode writes one buffer (length, then the encoder's bytes); each of the six operations starts
with the `is_connected()` gate, builds the variant the protocol assigns to it and hands over a payload exactly for the two
sends; an unfinished frame closes the transport and resets the handshake state.  The model INTERPRETS these tables
(`ptWrites`, `hdrWrites`, `DIST_HDR_ATOM_CACHE`); this theorem compares them with the expectation. -/
theorem C07_source_tables_are_the_protocols :
    Gen.C07_SEND_BRANCHES =
      [["begin", "stream", "write_u32:frame_len", "yield:send:after_len", "write_u8:PASS_THROUGH", "yield:send:after_marker",
        "write_all:control_encoded", "yield:send:after_control", "write_all:msg_encoded", "flush", "complete"],
       ["begin", "stream", "write_u32:frame_len", "yield:send:after_len", "write_u8:PASS_THROUGH", "yield:send:after_marker",
        "write_all:control_encoded", "flush", "complete"],
       ["begin", "stream", "write_all:buf", "flush", "complete"]] ∧
    Gen.C07_FRAME_LEN_EXPRS = ["1+control_encoded.len()+msg_encoded.len()", "1+control_encoded.len()"] ∧
    Gen.C07_HEADER_ENCODERS = ["encode_with_dist_header_multi:control_term,msg", "encode_with_dist_header:control_term"] ∧
    Gen.C07_HEADER_BUFFER = [["put_u32:Self::frame_length(encoded.len())?", "put_slice:encoded"],
                             ["put_u32:Self::frame_length(encoded.len())?", "put_slice:encoded"]] ∧
    Gen.C07_CONN_OPS = [("send_message", "Send", true, true), ("send_to_name", "RegSend", true, true),
      ("link", "Link", false, true), ("unlink", "UnlinkId", false, true), ("monitor", "MonitorP", false, true),
      ("demonitor", "DemonitorP", false, true)] ∧
    Gen.C07_INCOMPLETE_FRAME_ACTIONS = ["transport.close", "handshake.disconnect"] ∧
    (Gen.C07_PASS_THROUGH = 112 ∧ Gen.C07_VERSION_TAG = 131 ∧ Gen.C07_DIST_HEADER = 68) ∧
    (Gen.C07_HEADER_MAX_ATOMS = 2 ^ 8 - 1 ∧ Gen.C07_HEADER_ATOM_LEN_LIMIT = "u16::MAX") ∧
    Send.DIST_HDR_ATOM_CACHE = 0x2000 := by
  decide

/-- and the model's writes are these sequences: whatever the lengths and the encoded terms -/
theorem C07_model_writes_are_the_source_steps (n : Nat) (ce me enc : Bytes) :
    ptWrites true n ce me = [be32 n, [112], ce, me] ∧ ptWrites false n ce me = [be32 n, [112], ce] ∧
    hdrWrites true enc = [be32 enc.length ++ enc] ∧ hdrWrites false enc = [be32 enc.length ++ enc] :=
  ⟨ptWrites_payload n ce me, ptWrites_control n ce me, hdrWrites_eq true enc, hdrWrites_eq false enc⟩

/-- the operation table read off the source agrees with the model's `Op.control` / `Op.payload`: for every operation the
variant named in the source is the one the model builds, and a payload is handed over exactly when the model has one -/
theorem C07_model_ops_are_the_source_ops (op : Op) :
    ∃ fn, (fn, (match op.control with | .known v _ => v | _ => ""), op.payload.isSome, true) ∈ Gen.C07_CONN_OPS := by
  cases op <;> simp [Op.control, Op.payload, Gen.C07_CONN_OPS]

/-- the steps of every node-level operation that concern the connection, read off node.rs: the connection is looked up
in the table, whatever the operation takes from the node's counters (the sender pid of a send, the unlink id, the
monitor reference) is taken BEFORE the lock is requested, there is exactly one `lock().await`, exactly one `Connection`
call after it — the one the model's `NodeOp.connOp` performs — and the only other way out is `NodeNotConnected` -/
theorem C07_node_operations_lock_once_around_one_call (op : NodeOp) :
    ∃ pre, Gen.C07_NODE_OPS.lookup op.fn = some (pre ++ ["lock", "call:" ++ op.method, "not_connected"]) ∧
      "lookup" ∈ pre ∧
      pre.all (fun s => s ∈ ["lookup", "draw:pid", "draw:unlink_id+1", "draw:ref", "book:add_link", "book:remove_link",
        "book:add_monitor", "book:remove_monitor"]) = true := by
  refine ⟨((Gen.C07_NODE_OPS.lookup op.fn).getD []).dropLast.dropLast.dropLast, ?_⟩
  cases op <;> simp only [NodeOp.fn, NodeOp.method] <;> decide

/-- a node-level operation towards a node there is no connection to (before `Node::connect` completed the handshake and
inserted the connection, or after the receiver removed it) fails with `NodeNotConnected` and writes nothing; with a
connection it is exactly the `Connection` operation: the same bytes, the same outcome, the same connection afterwards -/
theorem C07_node_operation_is_the_connection_operation (table : Option Conn) (order : List Bytes) (d : Drawn)
    (op : NodeOp) (fate : Fate) :
    (table = none → nodeOp table order d op fate = (none, [], .notConnected)) ∧
    (∀ c, table = some c → nodeOp table order d op fate =
      (some (sendOpF c order (op.connOp d) fate).1, (sendOpF c order (op.connOp d) fate).2.1,
        .conn (sendOpF c order (op.connOp d) fate).2.2)) := by
  constructor
  · intro h; subst h; rfl
  · intro c h; subst h; rfl

example : (nodeOp (some ptConn) [] ⟨pA, 0, rA⟩ (.unlink pA pB) .whole).2.2 = .conn .ok ∧
    (nodeOp none [] ⟨pA, 0, rA⟩ (.unlink pA pB) .whole).2.1 = [] := by
  constructor <;> rfl

/-- each caller's frames reach the peer in the order it issued them: in the list of items the peer reads (theorem above),
the items of task `u` are, in order, the items of `u`'s operations number 0, 1, 2, … up to the number it has started -/
theorem C07_each_callers_frames_in_issue_order (c : Conn) (hpt : usePassThrough c = true) (ops : Nat → List Op)
    (hall : ∀ t op, op ∈ ops t → (∃ ws, sendOp c [] op = .ok ws) ∧ OpOk op ∧ PayOk op)
    (σ : List Nat) (u : Nat) :
    let prog := fun t => (ops t).map (fun op => writesOf (sendOp c [] op))
    let st := run prog St.init σ
    st.lock = none →
      ∃ items, readFrames .passThrough st.wire = some items ∧ items.length = st.acq.length ∧
        ((st.acq.zip items).filter (fun p => p.1.1 = u)).map (·.2) =
          (List.range (started st u)).map (fun i => match (ops u)[i]? with | some op => itemFor op.den | none => .tick) := by
  intro prog st hq
  refine ⟨_, C07_concurrent_senders_read_whole_frames c hpt ops hall σ hq, List.length_map _, ?_⟩
  -- the items are a function of the acquisitions
  have hz : ∀ (acq : List (Nat × Nat)) (f : Nat × Nat → Item),
      ((acq.zip (acq.map f)).filter (fun p => p.1.1 = u)).map (·.2) = (acq.filter (fun p => p.1 = u)).map f := by
    intro acq f
    induction acq with
    | nil => rfl
    | cons a as ih => by_cases ha : a.1 = u <;> simp [ha, ih]
  rw [hz, ← C07_each_task_in_issue_order prog σ u, List.map_map]
  refine List.map_congr_left fun p hp => ?_
  obtain rfl : p.1 = u := by simpa using (List.mem_filter.mp hp).2
  rfl

/-- every operation in distribution-header mode, every argument and payload within the guards, every atom order, every
receiver cache: EITHER it succeeds and its bytes are read by the independent reader as exactly the protocol's control
tuple and the payload, OR it fails and not one byte is written.  There is no third outcome (a frame that is written and
cannot be read) — in particular at the limits of the header: the number of distinct atoms of control tuple and payload
together (the one-byte `NumberOfAtomCacheRefs`), atom lengths (two bytes with LongAtoms), the 32-bit frame length. -/
theorem C07_header_mode_frame_or_nothing (c : Conn) (order : List Bytes) (op : Op) (hpt : usePassThrough c = false)
    (hok : OpOk op) (hpay : PayOk op) (cache : Cache) :
    (∃ ws, sendOp c order op = .ok ws ∧ readFramesFrom .distHeader cache ws.flatten = some [itemFor op.den]) ∨
    (∃ e, sendOp c order op = .error e ∧ wireOf (sendOp c order op) = []) := by
  cases h : sendOp c order op with
  | ok ws => exact Or.inl ⟨ws, rfl, (C07_one_frame_dist_header c order op ws h hpt hok hpay cache []).2⟩
  | error e => exact Or.inr ⟨e, rfl, rfl⟩

/-- the limit on the number of atoms in one header, as read off encoder.rs (`Gen.C07_HEADER_MAX_ATOMS`), is the largest
count the header's one-byte field can carry, and the model enforces exactly it: an operation whose control tuple and
payload together name more distinct atoms than that is refused with nothing written, whatever the order; with that many
or fewer the count byte of the header is the count itself (no wrap-around) -/
theorem C07_header_atom_count_fits_one_byte (c : Conn) (order : List Bytes) (op : Op) (hpt : usePassThrough c = false) :
    Gen.C07_HEADER_MAX_ATOMS + 1 = 2 ^ 8 ∧
    (order.length > Gen.C07_HEADER_MAX_ATOMS → ∃ e, sendOp c order op = .error e ∧ wireOf (sendOp c order op) = []) ∧
    (∀ ws, sendOp c order op = .ok ws → order ≠ [] →
      ∃ hb, ws = [be32 hb.length ++ hb] ∧ (hb.drop 2).head? = some (UInt8.ofNat order.length) ∧ order.length < 2 ^ 8) := by
  refine ⟨by decide, ?_, ?_⟩
  · intro hbig
    cases h : sendOp c order op with
    | error e => exact ⟨e, rfl, rfl⟩
    | ok ws =>
      obtain ⟨_, _, hb, hd, _, _⟩ := sendOp_hdr_shape c order op ws h hpt
      have : Gen.C07_HEADER_MAX_ATOMS = 255 := rfl
      have := (distHeader_ok hd).2.1
      omega
  · intro ws h hne
    obtain ⟨_, _, hb, hd, hws, _⟩ := sendOp_hdr_shape c order op ws h hpt
    obtain ⟨_, hlen, _, tb, _, he⟩ := distHeader_ok hd
    exact ⟨hb, hws, by simp [he, hne], by omega⟩

example : ∃ e, sendOp hdrConn ((List.range 256).map fun i => [UInt8.ofNat i]) (.link pA pB) = .error e :=
  (C07_header_atom_count_fits_one_byte hdrConn _ (.link pA pB) rfl).2.1 (by simp [Gen.C07_HEADER_MAX_ATOMS]) |>.imp fun _ h => h.1

/-- every schedule of any number of tasks, whatever the fate of every operation (all writes complete, or it stops during
write `i` after `k` bytes): whenever no operation is in progress, the bytes on the stream and the state of the connection
are exactly those of the same operations executed ONE AFTER THE OTHER in the order in which the lock was acquired for
them (`seqRun`: an operation on a closed connection writes nothing, a cut operation writes its prefix and closes) -/
theorem C07_every_schedule_is_the_sequential_run_in_lock_order (prog : Nat → List TOp) (σ : List Nat)
    (h : (runF prog StF.init σ).lock = none) :
    ((runF prog StF.init σ).wire, (runF prog StF.init σ).closed) = seqRun prog (runF prog StF.init σ).acq :=
  (invF_run prog σ StF.init (invF_init prog)).free h

/-- hence under every schedule the stream is whole frames in lock order, and once an operation was cut: the whole frames
of the operations acquired before it, the prefix it wrote, and NOT ONE BYTE of any operation acquired after it -/
theorem C07_no_frame_follows_a_partial_frame (prog : Nat → List TOp) (σ : List Nat)
    (h : (runF prog StF.init σ).lock = none) :
    ((runF prog StF.init σ).closed = false ∧
      (runF prog StF.init σ).wire = ((runF prog StF.init σ).acq.map (fullOf prog)).flatten ∧
      ∀ p ∈ (runF prog StF.init σ).acq, cutAt prog p = false) ∨
    ((runF prog StF.init σ).closed = true ∧
      ∃ a p b op, (runF prog StF.init σ).acq = a ++ p :: b ∧ (prog p.1)[p.2]? = some op ∧ op.isCut = true ∧
        (∀ q ∈ a, cutAt prog q = false) ∧
        (runF prog StF.init σ).wire = (a.map (fullOf prog)).flatten ++ op.eff.flatten) := by
  have hseq := C07_every_schedule_is_the_sequential_run_in_lock_order prog σ h
  rcases seqFrom_shape prog (runF prog StF.init σ).acq [] with ⟨h1, h2⟩ | ⟨a, p, b, op, hacq, hp, hc, ha, hs⟩
  · rw [seqRun, h1, Prod.mk.injEq] at hseq
    exact .inl ⟨hseq.2, by simpa using hseq.1, h2⟩
  · rw [seqRun, hs, Prod.mk.injEq] at hseq
    exact .inr ⟨hseq.2, a, p, b, op, hacq, hp, hc, ha, by simpa using hseq.1⟩

/-- and a closed connection stays silent: whatever the tasks do afterwards, under whatever schedule, the stream does not
change any more -/
theorem C07_closed_connection_stays_silent (prog : Nat → List TOp) (σ1 σ2 : List Nat)
    (h1 : (runF prog StF.init σ1).lock = none) (hc : (runF prog StF.init σ1).closed = true)
    (h2 : (runF prog StF.init (σ1 ++ σ2)).lock = none) :
    (runF prog StF.init (σ1 ++ σ2)).wire = (runF prog StF.init σ1).wire ∧
    (runF prog StF.init (σ1 ++ σ2)).closed = true := by
  have e1 := C07_every_schedule_is_the_sequential_run_in_lock_order prog σ1 h1
  have e2 := C07_every_schedule_is_the_sequential_run_in_lock_order prog (σ1 ++ σ2) h2
  obtain ⟨more, hm⟩ := runF_acq prog σ2 (runF prog StF.init σ1)
  rw [← runF_append] at hm
  have hcl : (seqRun prog (runF prog StF.init σ1).acq).2 = true := by
    rw [← hc]; exact (congrArg Prod.snd e1).symm
  rw [hm, seqRun_append_closed prog _ more hcl, ← e1] at e2
  exact ⟨congrArg Prod.fst e2, (congrArg Prod.snd e2).trans hc⟩

example : let prog : Nat → List TOp := fun t => if t < 2 then [⟨[[1], [2], [3]], .cut 1 0⟩, ⟨[[4]], .whole⟩] else []
    (runF prog StF.init [0, 0, 1, 0, 0, 1, 1, 1, 0, 0, 1, 1, 0, 1, 0]).wire = [1] ∧
    (runF prog StF.init [0, 0, 1, 0, 0, 1, 1, 1, 0, 0, 1, 1, 0, 1, 0]).closed = true ∧
    (runF prog StF.init [0, 0, 1, 0, 0, 1, 1, 1, 0, 0, 1, 1, 0, 1, 0]).lock = none ∧
    (runF prog StF.init [0, 0, 1, 0, 0, 1, 1, 1, 0, 0, 1, 1, 0, 1, 0]).acq = [(0, 0), (1, 0), (1, 1), (0, 1)] := by
  decide

end Edp.Props.C07

namespace Edp.Props.C07
open Edp Edp.Send

/-- every bookkeeping step, draw, lookup, lock, `Connection` call, branch and exit of the node-level send-side operations,
read off node.rs in source order, is this table: `send` only chooses between the local and the remote function,
`send_to_name` resolves the name on this node and goes on to `send`; in the five remote functions whatever is recorded on
the handles of local processes (`add_link`, `remove_link`) is recorded BEFORE the branch on the target's node and hence
before the write, the error of the `Connection` call is passed on with `?` (nothing recorded is taken back when the write
fails: a retried operation finds the pair already recorded), and there is no `return` anywhere: the only `Ok` of a
remote target is the one behind the call.  An operation that answers `Ok` from its bookkeeping (a link that is already
in the set) without reaching the call changes this table. -/
theorem C07_node_bookkeeping_is_the_sources :
    Gen.C07_NODE_BOOK =
      [("send", ["local?", "delegate:send_local", "else", "delegate:send_remote"]),
       ("send_to_name", ["delegate:whereis", "err:NameNotRegistered", "delegate:send"]),
       ("send_remote", ["lookup", "draw:pid", "lock", "call:send_message", "fail:propagate", "ok", "else", "not_connected"]),
       ("link", ["reg:get", "book:add_link", "noproc", "local?", "reg:get", "book:add_link", "noproc", "ok", "else",
         "lookup", "lock", "call:link", "fail:propagate", "ok", "else", "not_connected"]),
       ("unlink", ["reg:get", "book:remove_link", "local?", "reg:get", "book:remove_link", "ok", "else",
         "lookup", "draw:unlink_id+1", "lock", "call:unlink", "fail:propagate", "ok", "else", "not_connected"]),
       ("monitor", ["draw:ref", "local?", "reg:get", "book:add_monitor", "reg:get", "notify", "ok", "else",
         "lookup", "lock", "call:monitor", "fail:propagate", "ok", "else", "not_connected"]),
       ("demonitor", ["local?", "reg:get", "book:remove_monitor", "ok", "else",
         "lookup", "lock", "call:demonitor", "fail:propagate", "ok", "else", "not_connected"])] := by
  decide

/-- for every node-level operation: what precedes the remote branch (`common`: bookkeeping on the caller's own handle and
draws, no exit of any kind), then either nothing (`send_remote` is the remote branch) or the branch on the target's node
whose local arm ends in its own `Ok`; the remote arm is the table lookup, draws, ONE lock, ONE `Connection` call — the
one the model's `nodeOp` performs —, its error passed on, `Ok`, and otherwise `NodeNotConnected`.  So towards a remote
target `Ok` is returned only behind the call that writes the frame, whatever the handles of the local processes hold:
`nodeOp` rightly does not take the link and monitor sets as an argument. -/
theorem C07_node_ok_only_behind_the_one_write (op : NodeOp) :
    ∃ common localArm draws,
      Gen.C07_NODE_BOOK.lookup op.fn = some (common ++ localArm ++ ["lookup"] ++ draws ++
        ["lock", "call:" ++ op.method, "fail:propagate", "ok", "else", "not_connected"]) ∧
      common.all (fun s => s ∈ ["reg:get", "book:add_link", "book:remove_link", "noproc", "draw:ref"]) = true ∧
      (localArm = [] ∨ ∃ body, localArm = ["local?"] ++ body ++ ["ok", "else"] ∧
        body.all (fun s => s ∈ ["reg:get", "book:add_link", "book:remove_link", "book:add_monitor", "book:remove_monitor",
          "noproc", "notify"]) = true) ∧
      draws.all (fun s => s ∈ ["draw:pid", "draw:unlink_id+1"]) = true := by
  -- the function's steps cut in front of "local?", of "lookup" and of "lock"
  let l := (Gen.C07_NODE_BOOK.lookup op.fn).getD []
  let arm := (l.dropWhile (· != "local?")).takeWhile (· != "lookup")
  refine ⟨l.takeWhile (fun s => s != "local?" && s != "lookup"), arm,
    ((l.dropWhile (· != "lookup")).drop 1).takeWhile (· != "lock"), ?_, ?_, ?_, ?_⟩
  · cases op <;> simp only [l, arm, NodeOp.fn, NodeOp.method] <;> decide
  · cases op <;> simp only [l, NodeOp.fn] <;> decide
  · cases op
    · exact .inl (by simp only [l, arm, NodeOp.fn]; decide)
    all_goals
      exact .inr ⟨(arm.drop 1).dropLast.dropLast, by simp only [l, arm, NodeOp.fn]; decide,
        by simp only [l, arm, NodeOp.fn]; decide⟩
  · cases op <;> simp only [l, NodeOp.fn] <;> decide

example : Gen.C07_NODE_BOOK.lookup (NodeOp.link pA pB).fn ≠ none ∧
    (Gen.C07_NODE_BOOK.lookup (NodeOp.link pA pB).fn).any (fun l => l.count "ok" == 2 && !l.contains "return") = true := by
  decide

end Edp.Props.C07
