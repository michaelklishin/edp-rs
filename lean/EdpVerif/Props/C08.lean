import EdpVerif.Generated.Control
import EdpVerif.Spec.Control
import EdpVerif.Lemmas.Control
import EdpVerif.Lemmas.ControlReject
import EdpVerif.Impl.ControlCtor
import EdpVerif.Spec.ControlCtor
import EdpVerif.Impl.Encode
import EdpVerif.Impl.Decode
/-
C08 — control messages parse and serialise losslessly with the protocol's numbering.

`Control.parse / toTerm / intoTerm` interpret a `Table` (the three matches of control.rs as data);
`Gen.controlTable` is that data re-extracted from /repo on every run; `Spec.controlTable` is the protocol's.
-/
namespace Edp.Props.C08
open Edp Edp.Control

/-- every control tuple the protocol allows (`Spec.shape`: headed by `Integer 0..255`; an unlink id stands for an
integer `0 ≤ id < 2^64` — the one exception the property itself makes) parses, and both serialisers give back a
tuple denoting the same value -/
def Lossless (tbl : Table) : Prop :=
  ∀ t, Spec.shape t = .control →
    ∃ m u, parse tbl t = .ok m ∧ toTerm tbl m = some u ∧ intoTerm tbl m = some u ∧ u.den = t.den

/-- every structured message (any `u64` id) serialises, and what comes back from the wire `w` parses to the same
variant with the same value in every field -/
def Survives (tbl : Table) (w : Term → Term) : Prop :=
  ∀ v fs, wellTyped tbl (.known v fs) = true →
    ∃ t m', toTerm tbl (.known v fs) = some t ∧ intoTerm tbl (.known v fs) = some t ∧
      parse tbl (w t) = .ok m' ∧ Msg.Same m' (Msg.mapTerms w (.known v fs))

/-- every operation the library implements uses the protocol's tag, arity and element order -/
def Numbered (tbl : Table) : Prop := ∀ a ∈ tbl.fromArms, Spec.agrees tbl a = true

/-- `decode ∘ encode` of the codec model (identity where either fails) -/
def wire (t : Term) : Term :=
  match encode t with
  | .ok b =>
    match decode Ext.none b with
    | .ok t' => t'
    | .error _ => t
  | .error _ => t

theorem C08_table_ok : TableOK Gen.controlTable := table_checks.1

/-- the element the library reads as an unlink id is the protocol's `Id` element of that operation -/
theorem C08_ids_at_protocol_position :
    ∀ a ∈ Gen.controlTable.fromArms, Spec.idsAtSpec Gen.controlTable a = true := table_checks.2.1

/-- For EVERY consistent table: a tuple headed by `Integer 0..255` parses — whether or not the tag is one the table
knows — and `to_term` and `into_term` of the result give the same tuple, which denotes the same value as the input.
`idGuard` is the property's own exception: an element read as an unlink id stands for an integer `0 ≤ id < 2^64`
(as `Integer` or `BigInt`, minimal digits or not). -/
theorem C08_roundtrip (tbl : Table) (h : TableOK tbl) (t : Term) (ht : tagged t = true)
    (hg : idGuard tbl t = true) :
    ∃ m u, parse tbl t = .ok m ∧ toTerm tbl m = some u ∧ intoTerm tbl m = some u ∧ u.den = t.den := by
  unfold tagged at ht
  split at ht
  · rename_i i rest
    simp at ht
    exact roundtrip h i rest ht.1 ht.2 hg
  · simp at ht

example : tagged (.tuple [.int 35, .big false [255, 255, 255, 255, 255, 255, 255, 255, 0, 0], .nil, .nil]) = true ∧
    idGuard Gen.controlTable (.tuple [.int 35, .big false [255, 255, 255, 255, 255, 255, 255, 255, 0, 0], .nil, .nil]) = true := by
  decide

/-- the only tuples headed by `Integer 0..255` that a consistent table rejects are those the property excludes -/
theorem C08_rejected_only_for_bad_id (tbl : Table) (h : TableOK tbl) (t : Term) (ht : tagged t = true)
    (e : PErr) (he : parse tbl t = .error e) : idGuard tbl t = false := by
  cases hg : idGuard tbl t with
  | false => rfl
  | true =>
    obtain ⟨m, u, hm, _⟩ := C08_roundtrip tbl h t ht hg
    rw [hm] at he
    cases he

example : tagged (.tuple [.int 35, .int (-1), .nil, .nil]) = true ∧
    parse Gen.controlTable (.tuple [.int 35, .int (-1), .nil, .nil]) = .error .err ∧
    parse Gen.controlTable (.tuple [.int 36, .big false [0, 0, 0, 0, 0, 0, 0, 0, 1], .nil, .nil]) = .error .err :=
  ⟨by decide, rfl, rfl⟩

/-- **The exception is an exception in both directions**: a tuple headed by `Integer 0..255` whose id element (where
the operation selected by tag and arity has one) does NOT stand for an integer `0 ≤ id < 2^64` — negative, 65 bits
or more, or not an integer at all — is rejected with an error: never accepted with an altered id, never a panic.
(`IntsAreI64`: the elements are Rust values, `OwnedTerm::Integer` carries an `i64`.) Together with `C08_roundtrip`:
for every consistent table a tagged tuple parses IF AND ONLY IF the guard holds. -/
theorem C08_bad_id_rejected (tbl : Table) (h : TableOK tbl) (raw : Int) (rest : List Term) (h0 : 0 ≤ raw)
    (h255 : raw ≤ 255) (hw : IntsAreI64 rest) (hg : idGuard tbl (.tuple (.int raw :: rest)) = false) :
    parse tbl (.tuple (.int raw :: rest)) = .error .err :=
  bad_id_rejected h raw rest h0 h255 hw hg

example : idGuard Gen.controlTable (.tuple [.int 35, .int (-1), .nil, .nil]) = false ∧
    idGuard Gen.controlTable (.tuple [.int 36, .big false [0, 0, 0, 0, 0, 0, 0, 0, 1], .nil, .nil]) = false ∧
    idGuard Gen.controlTable (.tuple [.int 35, .atom [97], .nil, .nil]) = false ∧
    IntsAreI64 [.int (-1), .nil, .nil] := by
  refine ⟨by decide, by decide, by decide, ?_⟩
  intro e he i hi
  simp at he
  rcases he with rfl | rfl | rfl <;> cases hi <;> decide

/-- for the library's table, in the protocol's terms: a tuple of shape `badId` is rejected -/
theorem C08_parses_iff_allowed (raw : Int) (rest : List Term) (h0 : 0 ≤ raw) (h255 : raw ≤ 255)
    (hw : IntsAreI64 rest) :
    (∃ m, parse Gen.controlTable (.tuple (.int raw :: rest)) = .ok m) ↔
      idGuard Gen.controlTable (.tuple (.int raw :: rest)) = true := by
  constructor
  · intro ⟨m, hm⟩
    cases hg : idGuard Gen.controlTable (.tuple (.int raw :: rest)) with
    | true => rfl
    | false =>
      rw [C08_bad_id_rejected _ C08_table_ok raw rest h0 h255 hw hg] at hm
      cases hm
  · intro hg
    obtain ⟨m, _, hm, _⟩ := C08_roundtrip _ C08_table_ok (.tuple (.int raw :: rest)) (by simp [tagged, h0, h255]) hg
    exact ⟨m, hm⟩

/-- FULL statement for the library's table: every control tuple the protocol allows parses and re-serialises (both
serialisers) to a tuple of the same value -/
theorem C08_lossless : Lossless Gen.controlTable := by
  intro t hs
  obtain ⟨ht, hg⟩ := idGuard_of_shape C08_table_ok C08_ids_at_protocol_position t hs
  exact C08_roundtrip _ C08_table_ok t ht hg

example : Spec.shape (.tuple [.int 36, .big false [0, 0, 0, 0, 0, 0, 0, 128], .atom [97], .nil]) = .control ∧
    Spec.shape (.tuple [.int 34, .nil, .nil, .nil]) = .control ∧
    Spec.shape (.tuple [.int 200, .nil]) = .control := by decide

/-- anything else — a non-tuple, the empty tuple, a head that is not `Integer 0..255` — is rejected with an error
(never a panic), for every table -/
theorem C08_rejects (tbl : Table) (t : Term) (h : tagged t = false) : parse tbl t = .error .err :=
  rejects tbl t h

example : tagged (.tuple [.int 256, .nil]) = false ∧ tagged (.tuple []) = false ∧ tagged (.atom [97]) = false ∧
    tagged (.tuple [.big false [1], .nil]) = false := by decide

/-- with a consistent table no arm indexes outside the tuple: `from_term` never panics, on any term -/
theorem C08_never_panics (tbl : Table) (h : TableOK tbl) (t : Term) : parse tbl t ≠ .error .panic :=
  no_panic h t

example : TableOK Gen.controlTable := C08_table_ok

/-- the borrowing and the consuming serialiser agree on every message -/
theorem C08_into_eq_to (tbl : Table) (h : TableOK tbl) (m : Msg) : intoTerm tbl m = toTerm tbl m :=
  into_eq_to h m

/-- For EVERY consistent table and every wire `w` that maps tuples element-wise, returns `Integer 0..255` unchanged
and returns an integer as an integer of the same value (`Transparent`; for `decode ∘ encode` that is C01's round
trip): every structured message, with any `u64` id, serialises (both serialisers), and parsing what comes back yields
the same variant with the wire image of every field and the same id — no field dropped, reordered or altered. -/
theorem C08_structured_survives (tbl : Table) (h : TableOK tbl) (w : Term → Term) (hw : Transparent w) :
    Survives tbl w :=
  fun v fs hm => serialise_wire_parse h w hw v fs hm

example : Transparent id := ⟨fun l => by simp, fun _ _ _ => rfl, fun _ _ h => h⟩

/-- in memory (`w = id`) for the library's table: `from_term (to_term m)` is `m`, for every structured message -/
theorem C08_survives_in_memory : Survives Gen.controlTable id :=
  C08_structured_survives _ C08_table_ok id ⟨fun l => by simp, fun _ _ _ => rfl, fun _ _ h => h⟩

example : wellTyped Gen.controlTable (.known "UnlinkId"
    [("id", .uid 18446744073709551615), ("from_pid", .term .nil), ("to_pid", .term .nil)]) = true := by decide

-- (the ids 2^31, 2^63, 2^64-1 are exercised through the real codec and the codec model by the harness on every run:
-- `c08wire` lines)

/-- FULL statement: every operation the library implements has the protocol's tag number, arity and element order,
and reads exactly the `Id` element as an integer (SPAWN_REQUEST(_TT): the layout with ArgList inside the tuple is
accepted, see Spec/Control.lean) -/
theorem C08_numbered : Numbered Gen.controlTable := table_checks.2.2.1

example : ∃ a ∈ Gen.controlTable.fromArms, a.variant = "AliasSendTt" ∧ enumDisc Gen.controlTable a.ty = some 34 := by
  decide

/-- every operation of the protocol's table is implemented by some variant of the library -/
theorem C08_covers_protocol :
    ∀ op ∈ Spec.controlTable, ∃ a ∈ Gen.controlTable.fromArms, lookup Spec.opOfVariant a.variant = some op.name :=
  table_checks.2.2.2.1

/-- tag numbers are pairwise distinct, in the library and in the protocol table -/
theorem C08_tags_distinct :
    (Gen.controlTable.enumTags.map (·.2)).Nodup ∧ (Spec.controlTable.map (·.tag)).Nodup := table_checks.2.2.2.2.1

/-- the kinds of the declared fields follow the protocol: a field is a `u64` exactly when it plays the protocol's `Id`
role; every other field (pids, atoms, references, reasons, flags, trace tokens, cookies) is an `OwnedTerm` that the
parser takes as it comes — which is what "every tuple headed by a tag parses" demands: the parser may not refuse a
tuple because an element is not of the Erlang type the operation usually carries there. -/
theorem C08_field_kinds_follow_protocol :
    ∀ v ∈ Gen.controlTable.variants, ∀ p ∈ v.2,
      (p.2 = true ↔ lookup Spec.roleOfField p.1 = some Spec.idRole) ∧ (lookup Spec.roleOfField p.1).isSome :=
  table_checks.2.2.2.2.2

/-- **The constructor functions build the protocol's tuples.** For every `pub fn .. -> Self` of `impl ControlMessage`
(the list is regenerated from control.rs on every run) and ALL argument terms: the call yields a well-typed message
of the variant, both serialisers turn it into the same tuple, and that tuple is what the protocol prescribes for the
operation — its tag, and at position k the argument passed for the parameter that plays the operation's k-th role. -/
theorem C08_constructors_build_protocol_tuples :
    ∀ c ∈ ctors, ∀ args : List Term, args.length = c.params.length →
      ∃ m t, construct c args = some m ∧ wellTyped Gen.controlTable m = true ∧
        toTerm Gen.controlTable m = some t ∧ intoTerm Gen.controlTable m = some t ∧
        Spec.ctorTuple c.variant c.params args = some t := by
  intro c hc
  simp only [ctors, Gen.CONTROL_CONSTRUCTORS, List.map_cons, List.map_nil, List.mem_cons, List.not_mem_nil,
    or_false] at hc
  repeat' (rcases hc with rfl | hc)
  all_goals subst_vars
  all_goals
    intro args hl
    rcases args with _ | ⟨a, _ | ⟨b, _ | ⟨c, _ | ⟨d, _ | ⟨e, r⟩⟩⟩⟩⟩ <;> simp at hl
    exact ⟨_, _, rfl, rfl, rfl, rfl, rfl⟩

example : ctors.length = 14 ∧ (ctors.map (·.name)).Nodup := by decide
example (a b c : Term) : ∃ c₀ ∈ ctors, c₀.name = "reg_send" ∧
    (construct c₀ [a, b, c]).bind (toTerm Gen.controlTable) = some (.tuple [.int 6, a, b, c]) :=
  ⟨⟨"reg_send", ["from_pid", "cookie", "to_name"], "RegSend",
    [("from_pid", "from_pid"), ("cookie", "cookie"), ("to_name", "to_name")]⟩, by decide, rfl, rfl⟩

end Edp.Props.C08
