import EdpVerif.Lemmas.RefineEx
import EdpVerif.Lemmas.DecComplete
import EdpVerif.Lemmas.MapKept
import EdpVerif.Lemmas.NumKey
import EdpVerif.Lemmas.FloatAscii
/-
C03 — every valid external encoding of a value decodes to exactly that value.
Oracle: `Spec.parseTop` (Spec/Etf.lean), an independent reader of the format that knows every tag and width.
-/
namespace Edp.Props.C03
open Edp Edp.Term

/-- bytes remaining after one complete term are reported as an error carrying their number — never ignored:
for every input, every atom cache, every behaviour of the external calls -/
theorem C03_trailing_reported (x : Ext) (cfg : DecCfg) (r : Bytes) (t : Term) (rest : Bytes)
    (h : dec x cfg (r.length + 1 + x.extra) 0 r = .ok (t, rest)) (hne : rest ≠ []) :
    decodeWith x cfg (131 :: r) = .error (.trailing rest.length) := by
  unfold decodeWith
  cases rest with
  | nil => exact absurd rfl hne
  | cons a b => simp [h]

example : dec Ext.none {} 3 0 [106, 7] = .ok (.nil, [7]) := by simp [dec_106, guardTag, ownedOnlyTags, MAX_NESTING_DEPTH]

/-- and a term is returned only when nothing remains -/
theorem C03_ok_consumes_everything (x : Ext) (cfg : DecCfg) (bs : Bytes) (t : Term)
    (h : decodeWith x cfg bs = .ok t) :
    ∃ r, bs = 131 :: r ∧ dec x cfg (r.length + 1 + x.extra) 0 r = .ok (t, []) := by
  unfold decodeWith at h
  cases bs with
  | nil => simp at h
  | cons v r =>
    by_cases hv : v != 131
    · simp [hv] at h
    · simp only [hv, Bool.false_eq_true, ↓reduceIte] at h
      have hv' : v = 131 := by simpa using hv
      refine ⟨r, by rw [hv'], ?_⟩
      split at h
      · simp at h
      · rename_i t' heq; simp at h; rw [heq, h]
      · simp at h

/-- Latin-1 atom text (ATOM_EXT / SMALL_ATOM_EXT): the characters the library stores are exactly the bytes received,
one character per byte — for every byte string -/
theorem C03_latin1_atom_chars (b : Bytes) : utf8Decode (latin1ToUtf8 b) = some (Spec.latin1 b) :=
  latin1_decode b

/-- the spec reader is given the same zlib function as the decoder -/
def envOf (x : Ext) : Spec.Env := { inflate := x.inflate }

/-- HYPOTHESIS about the external call `str::parse::<f64>` (FLOAT_EXT, tag 99, only): where Rust's float parser and
the spec's reading of the 31-byte `%.20e` field are both defined, they give the same double.  (The harness checks
this per generated field; it is not proved.) -/
def FloatTextAgrees (x : Ext) : Prop :=
  ∀ f b b', x.parseFloat f = some b → Spec.parseFloatText f = some b' → b' = b

/-- `v ≈ den t` (`arrivalOf v t`, Lemmas/Refine.lean): `v` is the value of a term `t₀` whose maps hold the entries
in arrival order, and `t` is `t₀` with every map re-inserted entry by entry into the ordered map (`reins`).
That is equality up to what `BTreeMap::insert` does to the arriving pairs: reordering, and merging of keys that
compare equal (the C03 known finding `1` vs `1.0`).

For EVERY byte string, every tag (all alternative forms of every node at once), every depth and fuel: if the
decoder returns a term and the reader returns a value, they stopped at the same place and the term denotes the
value in that sense. -/
theorem C03_agrees (x : Ext) (hpf : FloatTextAgrees x) (fuel fuel' d : Nat) (bs : Bytes) (t : Term) (v : Value)
    (r r' : Bytes) (h1 : dec x {} fuel d bs = .ok (t, r)) (h2 : Spec.parse (envOf x) fuel' bs = some (v, r')) :
    r' = r ∧ arrivalOf v t :=
  ((dec_agrees x {} (envOf x) hpf (noCache_agrees _) fuel).1 d bs fuel').elim h1 h2

/-- whole messages: every byte string that is a valid encoding of a value `v` (version byte, optional top-level
compressed section through the shared inflate function) and that the library decodes, decodes to a term denoting `v` -/
theorem C03_decodes_to_the_value (x : Ext) (hpf : FloatTextAgrees x) (bs : Bytes) (t : Term) (v : Value) (rest : Bytes)
    (hv : Spec.parseTop (envOf x) bs = some (v, rest)) (hd : decode x bs = .ok t) : arrivalOf v t :=
  top_agrees x {} (envOf x) rfl hpf (noCache_agrees _) bs t v rest hd hv

/-- and exactly `v` when the decoded term contains no map -/
theorem C03_exact_without_maps (x : Ext) (hpf : FloatTextAgrees x) (bs : Bytes) (t : Term) (v : Value) (rest : Bytes)
    (hv : Spec.parseTop (envOf x) bs = some (v, rest)) (hd : decode x bs = .ok t) (hm : noMaps t = true) :
    den t = v := by
  obtain ⟨t₀, h1, h2⟩ := C03_decodes_to_the_value x hpf bs t v rest hv hd
  rw [h2] at hm
  rw [h2, reins_noMaps t₀ hm, h1]

/-- or when every map's entries arrived in strictly increasing key order -/
theorem C03_exact_sorted_arrival (x : Ext) (hpf : FloatTextAgrees x) (bs : Bytes) (t : Term) (v : Value) (rest : Bytes)
    (hv : Spec.parseTop (envOf x) bs = some (v, rest)) (hd : decode x bs = .ok t) :
    ∃ t₀, v = den t₀ ∧ t = reins t₀ ∧ (arrivalSorted t₀ = true → den t = v) := by
  obtain ⟨t₀, h1, h2⟩ := C03_decodes_to_the_value x hpf bs t v rest hv hd
  exact ⟨t₀, h1, h2, fun hs => by rw [h2, reins_sorted t₀ hs, h1]⟩

/-- non-vacuity: an old-style pid (PID_EXT, Latin-1 ATOM_EXT node) inside a LARGE_TUPLE with a STRING_EXT -/
example : ∃ t v, decode Ext.none [131, 105, 0, 0, 0, 2, 103, 100, 0, 1, 97, 0, 0, 0, 1, 0, 0, 0, 2, 3, 107, 0, 1, 65] = .ok t ∧
    Spec.parseTop (envOf Ext.none) [131, 105, 0, 0, 0, 2, 103, 100, 0, 1, 97, 0, 0, 0, 1, 0, 0, 0, 2, 3, 107, 0, 1, 65] = some (v, []) ∧
    den t = v := by
  refine ⟨.tuple [.pid { node := [97], id := 1, serial := 2, creation := 3 }, .list [.int 65]],
    .tuple [.pid [97] 1 2 3, .cons [.int 65] .nil], ?_, ?_, ?_⟩
  · simp [decode, decodeWith, dec_105, dec_103, dec_100, dec_107, guardTag, decN, ownedOnlyTags, MAX_NESTING_DEPTH,
      MAX_TUPLE_SIZE, MAX_ATOM_SIZE, rdU, rdN, takeE,
      takeN, decLatin1Body, latin1ToUtf8, utf8Encode, utf8EncodeCp, Ext.none]
  · simp [Spec.parseTop, Spec.parse, Spec.parseN, rdN, takeN, Spec.latin1, Value.mkList, envOf]
  · simp [den, denL, cps, utf8Decode, Value.mkList]

/-- HYPOTHESIS about the external call `str::parse::<f64>` (FLOAT_EXT, tag 99, only), the completeness half: every
31-byte field the format's `%.20e` reading accepts is accepted by Rust's float parser.  (The harness checks it per
generated field; with `FloatTextAgrees` the result is then the same double.  That such a field passes `from_utf8` is
proved: `floatText_validUtf8`, Lemmas/FloatAscii.lean — the accepted text is ASCII.) -/
def FloatTextComplete (x : Ext) : Prop :=
  ∀ f b, Spec.parseFloatText f = some b → ∃ b', x.parseFloat f = some b'

/-- HYPOTHESIS about zlib: the inflate function returns at most `extra` bytes and consumes no more than it was given -/
def InflateBounded (x : Ext) : Prop := ∀ z out n, x.inflate z = some (out, n) → out.length ≤ x.extra ∧ n ≤ z.length

/-- EVERY byte string in the language of the independent reader — any of its 30 tags in any alternative form, any
nesting, read at any depth `d` — that stays within the library's published limits (`Spec.within`, Spec/EtfLimits.lean:
nesting ≤ MAX_NESTING_DEPTH, counts ≤ MAX_TUPLE/LIST/MAP/BINARY_SIZE, node / module / function fields in an atom form,
fun integer fields in SMALL_INTEGER/INTEGER form, fun pid in PID/NEW_PID form) is ACCEPTED by the decoder, which stops
at the same byte and returns a term denoting the reader's value up to ordered-map insertion.  The decoder's fuel
may be anything from the reader's upwards.  Nothing is assumed about the term, the value or the bytes. -/
theorem C03_complete (x : Ext) (hpf : FloatTextAgrees x) (hfc : FloatTextComplete x) (fuel f' d : Nat) (bs : Bytes)
    (v : Value) (r : Bytes) (hf : f' ≤ fuel) (h : Spec.parse (envOf x) f' bs = some (v, r))
    (hw : Spec.within (envOf x) f' d bs = true) :
    ∃ t, dec x {} fuel d bs = .ok (t, r) ∧ arrivalOf v t := by
  obtain ⟨t, ht⟩ := (dec_complete x {} (envOf x) rfl hpf (fun f b h => ⟨floatText_validUtf8 f b h, hfc f b h⟩) (noCache_agrees _)
    (noRefs_complete rfl _) fuel).1 f' d bs hf hw |>.elim h
  exact ⟨t, ht, (C03_agrees x hpf fuel f' d bs t v r r ht h).2⟩

/-- non-vacuity: a LARGE_TUPLE holding a Latin-1 atom, a two-entry map arriving out of order and a STRING_EXT is in
the language and within the limits -/
example : Spec.parse (envOf Ext.none) 12 [105, 0, 0, 0, 3, 115, 1, 233, 116, 0, 0, 0, 2, 97, 2, 106, 97, 1, 106, 107, 0, 1, 65] =
      some (.tuple [.atom [233], .map [(.int 2, .nil), (.int 1, .nil)], .cons [.int 65] .nil], []) ∧
    Spec.within (envOf Ext.none) 12 0 [105, 0, 0, 0, 3, 115, 1, 233, 116, 0, 0, 0, 2, 97, 2, 106, 97, 1, 106, 107, 0, 1, 65] = true := by
  constructor
  · simp [Spec.parse, Spec.parseN, Spec.parseKV, rdN, takeN, Spec.latin1, Value.mkList]
  · simp [Spec.within, Spec.withinN, Spec.withinKV, Spec.parse, Spec.parseKV, rdN, takeN, Gen.MAX_NESTING_DEPTH,
      Gen.MAX_TUPLE_SIZE, Gen.MAX_MAP_SIZE]

/-- whole messages: every complete external term the format permits (version byte, optionally one top-level COMPRESSED
section) within the limits is decoded by `erltf::decode` to a term denoting its value -/
theorem C03_valid_is_decoded (x : Ext) (hpf : FloatTextAgrees x) (hfc : FloatTextComplete x) (hxl : InflateBounded x)
    (bs : Bytes) (v : Value) (hv : Spec.parseTop (envOf x) bs = some (v, []))
    (hw : Spec.withinTop (envOf x) bs = true) : ∃ t, decode x bs = .ok t ∧ arrivalOf v t := by
  obtain ⟨t, ht⟩ := top_complete x {} (envOf x) rfl rfl hpf (fun f b h => ⟨floatText_validUtf8 f b h, hfc f b h⟩) (noCache_agrees _)
    (noRefs_complete rfl _) hxl bs v [] hv hw
  simp only [if_true] at ht
  exact ⟨t, ht, C03_decodes_to_the_value x hpf bs t v [] hv ht⟩

example : Spec.parseTop (envOf Ext.none) [131, 104, 2, 100, 0, 1, 233, 98, 255, 255, 255, 255] =
      some (.tuple [.atom [233], .int (-1)], []) ∧
    Spec.withinTop (envOf Ext.none) [131, 104, 2, 100, 0, 1, 233, 98, 255, 255, 255, 255] = true := by
  constructor
  · simp [Spec.parseTop, Spec.parse, Spec.parseN, rdN, takeN, Spec.latin1, Spec.i32, envOf]
  · simp [Spec.withinTop, Spec.within, Spec.withinN, Spec.parse, rdN, takeN, Gen.MAX_NESTING_DEPTH]

/-- and exactly its value when the decoded term holds no map (or, `C03_exact_sorted_arrival`, when the entries of every
map arrived in increasing key order) -/
theorem C03_valid_is_decoded_exactly (x : Ext) (hpf : FloatTextAgrees x) (hfc : FloatTextComplete x)
    (hxl : InflateBounded x) (bs : Bytes) (v : Value) (hv : Spec.parseTop (envOf x) bs = some (v, []))
    (hw : Spec.withinTop (envOf x) bs = true) :
    ∃ t, decode x bs = .ok t ∧ (noMaps t = true → den t = v) := by
  obtain ⟨t, ht, _⟩ := C03_valid_is_decoded x hpf hfc hxl bs v hv hw
  exact ⟨t, ht, fun hm => C03_exact_without_maps x hpf bs t v [] hv ht hm⟩

/-- bytes after one complete valid term are reported with their number, whatever the term: the unconditional form of
`C03_trailing_reported` (which assumed that the decoder had accepted the term) -/
theorem C03_valid_then_trailing (x : Ext) (hpf : FloatTextAgrees x) (hfc : FloatTextComplete x) (hxl : InflateBounded x)
    (bs : Bytes) (v : Value) (rest : Bytes) (hv : Spec.parseTop (envOf x) bs = some (v, rest)) (hne : rest ≠ [])
    (hw : Spec.withinTop (envOf x) bs = true) : decode x bs = .error (.trailing rest.length) := by
  obtain ⟨t, ht⟩ := top_complete x {} (envOf x) rfl rfl hpf (fun f b h => ⟨floatText_validUtf8 f b h, hfc f b h⟩) (noCache_agrees _)
    (noRefs_complete rfl _) hxl bs v rest hv hw
  simpa [hne, decode] using ht

example : Spec.parseTop (envOf Ext.none) [131, 106, 7, 7] = some (.nil, [7, 7]) := rfl

/-- the decoder's ordered-map insertion keeps every arriving entry — the stored entries are a permutation of the
arriving ones — as soon as no arriving key compares `Equal` (library order) to one that arrived before it.  No law
of the order is needed.  This is the weakest key hypothesis: the only valid MAP_EXT encodings it excludes are those with
two keys that are distinct in Erlang but `Equal` under the library's `Ord` — an integer and the float of the same
value (known finding, `C03_numeric_keys_merge`), and big integers that differ only in high-order zero digits from
another integer key (KF-C11-nonminimal-big; the format permits the non-minimal width). -/
theorem C03_map_entries_kept (kvs : List (Term × Term)) (h : arrivalDistinct kvs) :
    (insertAll [] kvs).Perm kvs ∧ (insertAll [] kvs).length = kvs.length := by
  have hp := insertAll_perm [] kvs (by intro q _ p hp; simp at hp) h
  simp only [List.nil_append] at hp
  exact ⟨hp, hp.length_eq⟩

example : arrivalDistinct [(.int 2, .nil), (.atom [97], .nil), (.int 1, .nil)] := by
  simp [arrivalDistinct, Term.cmp, Term.norm, Term.cmpN, Term.rank]

/-- the known finding as a theorem (KF-C03-numeric-key-collision): the Erlang map `#{1 => 10, 1.0 => 20}` — a valid
encoding, within every limit — is accepted, and decodes to the ONE-entry map `#{1 => 20}`: the float key compares
`Equal` to the stored integer key, so the entry is merged.  This is exactly what the guard of `C03_map_entries_kept`
excludes. -/
theorem C03_numeric_keys_merge (x : Ext) :
    decode x [131, 116, 0, 0, 0, 2, 97, 1, 97, 10, 70, 0x3F, 0xF0, 0, 0, 0, 0, 0, 0, 97, 20] =
      .ok (.map [(.int 1, .int 20)]) ∧
    Spec.parseTop (envOf x) [131, 116, 0, 0, 0, 2, 97, 1, 97, 10, 70, 0x3F, 0xF0, 0, 0, 0, 0, 0, 0, 97, 20] =
      some (.map [(.int 1, .int 10), (.float 0x3FF0000000000000, .int 20)], []) ∧
    Spec.withinTop (envOf x) [131, 116, 0, 0, 0, 2, 97, 1, 97, 10, 70, 0x3F, 0xF0, 0, 0, 0, 0, 0, 0, 97, 20] = true ∧
    ¬ arrivalDistinct [(.int 1, .int 10), (.float 0x3FF0000000000000, .int 20)] := by
  have hcmp : Term.cmp (.float 4607182418800017408) (.int 1) = .eq := by
    simp [Term.cmp, Term.norm, Term.cmpN, cmpIntFloat, natDigits_one]; decide
  refine ⟨?_, ?_, ?_, ?_⟩
  · simp only [decode, decodeWith, List.length_cons, List.length_nil]
    rw [Nat.add_comm _ x.extra]
    simp [dec_116, dec_97, dec_70, guardTag, decKV, ownedOnlyTags, MAX_NESTING_DEPTH, MAX_MAP_SIZE, rdU, rdN, mapInsert, hcmp]
  · simp [Spec.parseTop, Spec.parse, Spec.parseKV, rdN]
  · simp [Spec.withinTop, Spec.within, Spec.withinKV, Spec.parse, rdN, Gen.MAX_NESTING_DEPTH, Gen.MAX_MAP_SIZE]
  · simp [arrivalDistinct, hcmp]

/-- HYPOTHESIS (tag 99 only), stronger than `FloatTextAgrees`: whatever Rust's float parser accepts, the spec's reading
of the field accepts with the same result -/
def FloatTextRefines (x : Ext) : Prop := ∀ f b, x.parseFloat f = some b → Spec.parseFloatText f = some b

/-- nothing inflates (input without COMPRESSED sections; the spec reader knows tag 80 only at the top) -/
def NoInflate (x : Ext) : Prop := ∀ z, x.inflate z = none

/-- every byte string the decoder accepts is a valid encoding — the independent reader accepts it at the same fuel,
stops at the same place and reads the value the decoded term denotes (equality on the nose) — for ALL byte strings
whose decoded term is `plainT`: floats finite, no map, no internal fun.  Covered tags: 97 98 99 70 100 118 119 115
104 105 106 107 108 109 77 110 111 88 103 120 89 102 90 114 101 113 121 82, in every alternative form.  MISSING from
this form (all three are covered by the agreement form `C03_agrees`):
* 116 MAP_EXT — the decoder's ordered-map insertion can drop an arriving entry (keys that compare equal), so a guard on
  the decoded term cannot speak about the dropped key/value;
* 112 NEW_FUN_EXT — the decoder ignores the Size field, the format fixes it (`C03_accepts_wrong_fun_size`);
* 80 COMPRESSED — the decoder accepts it nested at any depth, the format only at the top (`NoInflate`).
NaN/infinite NEW_FLOAT_EXT is accepted by the decoder and is not an Erlang float (`C03_accepts_nan`): hence `finiteF`. -/
theorem C03_refines_partial (x : Ext) (hpf : FloatTextRefines x) (hz : NoInflate x) (fuel d : Nat) (bs : Bytes)
    (t : Term) (r : Bytes) (h : dec x {} fuel d bs = .ok (t, r)) (hp : plainT t = true) :
    Spec.parse (envOf x) fuel bs = some (den t, r) :=
  ((dec_refines x {} (envOf x) hpf hz (by intro i a h; simp [List.lookup] at h) fuel).1 d bs).elim h hp

example : dec Ext.none {} 9 0 [104, 2, 115, 1, 233, 107, 0, 1, 65, 255] =
    .ok (.tuple [.atom [195, 169], .list [.int 65]], [255]) := by
  simp [dec_104, dec_115, dec_107, guardTag, decN, ownedOnlyTags, MAX_NESTING_DEPTH, MAX_ATOM_SIZE, rdU, rdN, takeE, takeN,
    decLatin1Body, latin1ToUtf8, utf8Encode, utf8EncodeCp]

example : Spec.parse (envOf Ext.none) 9 [104, 2, 115, 1, 233, 107, 0, 1, 65, 255] =
    some (den (.tuple [.atom [195, 169], .list [.int 65]]), [255]) :=
  C03_refines_partial Ext.none (by intro f b h; simp [Ext.none] at h) (by intro z; rfl) 9 0 _ _ _
    (by simp [dec_104, dec_115, dec_107, guardTag, decN, ownedOnlyTags, MAX_NESTING_DEPTH, MAX_ATOM_SIZE, rdU, rdN, takeE,
      takeN, decLatin1Body, latin1ToUtf8, utf8Encode, utf8EncodeCp]) (by decide)

/-- leniency 1: a NaN in NEW_FLOAT_EXT is decoded without complaint although it is not a valid encoding of any value
(the encoder side is `C01_valid_not_for_nan`) -/
theorem C03_accepts_nan (x : Ext) :
    decode x [131, 70, 0x7F, 0xF8, 0, 0, 0, 0, 0, 0] = .ok (.float 0x7FF8000000000000) ∧
      Spec.parseTop (envOf x) [131, 70, 0x7F, 0xF8, 0, 0, 0, 0, 0, 0] = none := by
  constructor
  · simp only [decode, decodeWith, List.length_cons, List.length_nil]
    rw [Nat.add_comm _ x.extra]
    simp [dec_70, guardTag, ownedOnlyTags, MAX_NESTING_DEPTH, rdU, rdN]
  · simp [Spec.parseTop, Spec.parse, rdN]

/-- leniency 2: NEW_FUN_EXT with a wrong Size field (here 0) is decoded; the format requires Size to be the byte count -/
theorem C03_accepts_wrong_fun_size (x : Ext) :
    ∃ t, decode x ([131, 112, 0, 0, 0, 0, 0] ++ List.replicate 16 0 ++ [0, 0, 0, 0, 0, 0, 0, 0, 119, 1, 97, 97, 0, 97, 0,
        88, 119, 1, 97, 0, 0, 0, 0, 0, 0, 0, 0, 0, 0, 0, 0]) = .ok t ∧
      Spec.parseTop (envOf x) ([131, 112, 0, 0, 0, 0, 0] ++ List.replicate 16 0 ++ [0, 0, 0, 0, 0, 0, 0, 0, 119, 1, 97, 97, 0, 97, 0,
        88, 119, 1, 97, 0, 0, 0, 0, 0, 0, 0, 0, 0, 0, 0, 0]) = none := by
  refine ⟨.ifun 0 (List.replicate 16 0) 0 0 [97] 0 0 { node := [97], id := 0, serial := 0, creation := 0 } [], ?_, ?_⟩
  · simp only [decode, decodeWith, List.replicate, List.cons_append, List.nil_append, List.length_cons, List.length_nil]
    rw [Nat.add_comm _ x.extra]
    simp [dec_112, dec_119, dec_97, dec_88, guardTag, decN, ownedOnlyTags, MAX_NESTING_DEPTH, MAX_ATOM_SIZE, rdU, rdN, takeE,
      takeN, decAtomBody, validUtf8, utf8Decode]
  · simp [Spec.parseTop, Spec.parse, rdN, List.replicate]

end Edp.Props.C03
