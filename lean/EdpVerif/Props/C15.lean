import EdpVerif.Lemmas.SerdeBytes
import EdpVerif.Lemmas.SerdeTables
import EdpVerif.Lemmas.SerdeAny
import EdpVerif.Generated.MiscC15any
import EdpVerif.Lemmas.SerdeShape
/-
C15 — serde round trip returns the original Rust value, also across the wire.
Property theorems only; helper lemmas live in EdpVerif/Lemmas/Serde*.lean.

`ser`/`de` model `erltf_serde::{to_term, from_term}`, `toBytes`/`fromBytes` model `to_bytes`/`from_bytes` through the
encoder/decoder models (Impl/Encode.lean, Impl/Decode.lean).  `hasTy v ty`: `v` is a value of the Rust type `ty`;
`Ty.wf` / `Val.plain`: the shapes the property quantifies over (Spec/Serde.lean).
-/
namespace Edp.Props.C15
open Edp Edp.Serde Edp.Spec.Serde

/-- In memory: every value of every distinguishable type of the universe comes back unchanged (all integer widths over
their whole range, `u64` above `i64::MAX`, every non-NaN `f32`, every `char`, arbitrarily nested containers, structs,
Elixir structs, all four enum variant shapes). -/
theorem C15_mem (ty : Ty) (v : Val) (ht : hasTy v ty = true) (hd : distinguishable v ty = true) :
    de ty (ser v) = .ok v := by
  simp only [distinguishable, Bool.and_eq_true] at hd
  exact de_ser ty v ht hd.1 hd.2

example : hasTy (.tuple [.int .u64 18446744073709551615, .some (.char 128512)]) (.tuple [.int .u64, .option .char]) = true ∧
    distinguishable (.tuple [.int .u64 18446744073709551615, .some (.char 128512)]) (.tuple [.int .u64, .option .char]) = true := by
  decide

/-- In memory nothing is silently altered: whatever `from_term` returns for `to_term v` is `v`. -/
theorem C15_no_silent_change (ty : Ty) (v v' : Val) (ht : hasTy v ty = true) (hd : distinguishable v ty = true)
    (h : de ty (ser v) = .ok v') : v' = v := by
  rw [C15_mem ty v ht hd] at h
  exact (Except.ok.inj h).symm

example : de (.int .i64) (ser (.int .i64 1099511627776)) = .ok (.int .i64 1099511627776) := by rfl

/-- The exclusions are needed: a directly nested `Option` is not distinguishable (`Some(None)` reads back as `None`). -/
theorem C15_nested_option_not_distinguishable :
    ∃ ty v, hasTy v ty = true ∧ de ty (ser v) = .ok .none ∧ v = .some .none :=
  ⟨.option (.option .bool), .some .none, by decide, by rfl, rfl⟩

/-! ### across the wire

`wireT t` is the closed form of `erltf::decode (erltf::encode t)` on the terms the serialiser builds (integers outside the
i32 range come back as big integers, `OwnedTerm::String` as a binary, `List([])` as `Nil`, maps re-inserted).  It is tied
to the encoder/decoder models and to the real code on every generated case (driver request `c15wire`; notes/C15.md,
trusted assumptions). -/

/-- Across the wire, full strength: every value of every distinguishable type comes back unchanged — all integer widths
over their whole range (read back from either integer representation), every `char`, floats, strings, options,
containers, structs, Elixir structs, all variant shapes.  `distinguishableW` excludes only what the property excludes
(nested `Option`, `Option<()>`-like payloads, f32 NaN) and fixes the canonical listing of map entries (in memory and on
the wire form of the keys). -/
theorem C15_wire (ty : Ty) (v : Val) (ht : hasTy v ty = true) (hd : distinguishableW v ty = true) :
    de ty (wireT (ser v)) = .ok v := by
  simp only [distinguishableW, distinguishable, Val.plainW, Bool.and_eq_true] at hd
  exact deW ty v ht hd.1.1 hd.1.2 hd.2

example : hasTy (.struct [97] [([120], .int .i64 1099511627776), ([121], .seq [.char 128512]), ([122], .map [(.int .i64 (-4294967296), .unit)])])
      (.struct [97] [([120], .int .i64), ([121], .seq .char), ([122], .map (.int .i64) .unit)]) = true ∧
    distinguishableW (.struct [97] [([120], .int .i64 1099511627776), ([121], .seq [.char 128512]), ([122], .map [(.int .i64 (-4294967296), .unit)])])
      (.struct [97] [([120], .int .i64), ([121], .seq .char), ([122], .map (.int .i64) .unit)]) = true := by decide

/-- When every map key is wire-stable (strings, bytes, bool, integers within i32, `u64` above `i64::MAX` …) the in-memory
guard alone suffices: exactly the hypotheses of `C15_mem`. -/
theorem C15_wire_stable_keys (ty : Ty) (v : Val) (ht : hasTy v ty = true) (hd : distinguishable v ty = true)
    (hk : keysStable v = true) : de ty (wireT (ser v)) = .ok v := by
  apply C15_wire ty v ht
  simp only [distinguishableW, Bool.and_eq_true]
  refine ⟨hd, ?_⟩
  simp only [distinguishable, Bool.and_eq_true] at hd
  simp only [Val.plainW, plain_stable v hk]
  exact hd.2

example : keysStable (.tuple [.int .i64 (-9223372036854775808), .char 97, .map [(.string [97], .int .u32 3000000000)]]) = true ∧
    distinguishable (.tuple [.int .i64 (-9223372036854775808), .char 97, .map [(.string [97], .int .u32 3000000000)]])
      (.tuple [.int .i64, .char, .map .string (.int .u32)]) = true := by decide

/-- Across the wire nothing is silently altered. -/
theorem C15_wire_no_silent_change (ty : Ty) (v v' : Val) (ht : hasTy v ty = true) (hd : distinguishableW v ty = true)
    (h : de ty (wireT (ser v)) = .ok v') : v' = v := by
  rw [C15_wire ty v ht hd] at h
  exact (Except.ok.inj h).symm

example : de (.int .i64) (wireT (ser (.int .i64 1099511627776))) = .ok (.int .i64 1099511627776) := by rfl

/-- Every integer type over its whole range, in whichever representation the wire gives it. -/
theorem C15_wire_int_full_range (k : IntTy) (i : Int) (h : k.inRange i = true) :
    de (.int k) (wireT (ser (.int k i))) = .ok (.int k i) := by
  simp only [ser, de]
  exact deInt_wire k i h

example : IntTy.u64.inRange 18446744073709551615 = true ∧ IntTy.i64.inRange (-9223372036854775808) = true := by decide

/-- Every `char`. -/
theorem C15_wire_char (c : Nat) (h : isScalar c = true) : de .char (wireT (ser (.char c))) = .ok (.char c) := by
  simp [ser, wireT, de, deChar, utf8_one c h]

example : isScalar 1114111 = true := by decide

/-- `Option<()>` (which the property allows to be excluded) is carried too: `()` is the atom `nil`, `None` is `undefined`. -/
example : ∀ v, hasTy v (.option .unit) = true → de (.option .unit) (wireT (ser v)) = .ok v :=
  fun v h => C15_wire _ v h (by
    cases v with
    | none => decide
    | some x =>
      cases x with
      | unit => decide
      | _ => contradiction
    | _ => contradiction)

/-- The one exclusion among floats: an `f32` NaN (every payload, both signs) comes back as an `f32` NaN of the same sign —
a value that `==` cannot tell from the original (nor from itself); only the payload bits may differ (the signalling bit is
set by `as f64`).  Every other `f32` and every `f64` bit pattern, NaNs included, is covered by `C15_mem` / `C15_wire`. -/
theorem C15_f32_nan_stays_nan (b : Nat) (h : b < 2 ^ 32) (hn : f32IsNaN b = true) :
    ∃ b', de .f32 (wireT (ser (.f32 b))) = .ok (.f32 b') ∧ de .f32 (ser (.f32 b)) = .ok (.f32 b') ∧
      f32IsNaN b' = true ∧ b' / 2 ^ 31 = b / 2 ^ 31 := by
  refine ⟨f64to32 (f32to64 b), by simp [ser, wireT, de], by simp [ser, de], ?_⟩
  exact SerdeNaN.f32_nan_stays_nan b h hn

example : f32IsNaN 2139095041 = true ∧ de .f32 (ser (.f32 2139095041)) = .ok (.f32 2143289345) := by
  refine ⟨by decide, by rfl⟩

/-! ### through the bytes

The theorems above are about the closed form `wireT`; these are about the encoder and decoder models themselves
(`toBytes = encode ∘ ser`, `fromBytes ty = de ty ∘ decode`), by the codec round trip of Lemmas/RoundTrip.lean (`dec_enc`).
`decodable` (Spec/Serde.lean) states the decoder's own resource limits (lists/tuples ≤ 10^7, maps ≤ 10^6, binaries ≤ 10^8, atom
names valid UTF-8 of at most 65535 bytes, at most 256 levels of nested containers). -/

/-- Serialising to bytes succeeds and deserialising from those bytes gives back the value — for every value of every
distinguishable type whose term is within the decoder's limits, and every behaviour `x` of the decoder's external calls. -/
theorem C15_bytes_roundtrip (ty : Ty) (v : Val) (ht : hasTy v ty = true) (hd : distinguishableW v ty = true)
    (hdc : decodable (ser v) = true) :
    ∃ bs, toBytes v = .ok bs ∧ ∀ x : Ext, fromBytes x ty bs = .ok v := by
  simp only [decodable, Bool.and_eq_true, decide_eq_true_eq] at hdc
  obtain ⟨hf, hn⟩ := hdc
  have hdep : dep (ser v) ≤ MAX_NESTING_DEPTH := by rw [SerdeBytes.dep_eq _ hf]; exact hn
  obtain ⟨bs, he⟩ := SerdeBytes.encode_ok (ser v) hf
  refine ⟨bs, he, fun x => ?_⟩
  simp only [fromBytes, SerdeBytes.decode_encode x (ser v) bs hf hdep he]
  exact C15_wire ty v ht hd

example : hasTy (.tuple [.int .i64 (-9223372036854775808), .some (.char 128512), .seq []]) (.tuple [.int .i64, .option .char, .seq .f32]) = true ∧
    distinguishableW (.tuple [.int .i64 (-9223372036854775808), .some (.char 128512), .seq []]) (.tuple [.int .i64, .option .char, .seq .f32]) = true ∧
    decodable (ser (.tuple [.int .i64 (-9223372036854775808), .some (.char 128512), .seq []])) = true := by decide

/-- Whatever bytes `to_bytes` returns — also for a value beyond the decoder's limits — are read back as the value once the
decoder accepts the term's size; and `to_bytes` itself fails only for a size the format's length fields cannot hold
(`over e`, Lemmas/EncErr.lean: an atom name above 65535 bytes, a binary or a list/tuple/map above `u32::MAX`). -/
theorem C15_to_bytes_error_only_for_size (v : Val) (e : EncErr) (h : toBytes v = .error e) : over e (ser v) = true :=
  SerdeBytes.encode_err (ser v) e h

example : ∃ n : Bytes, toBytes (.unitStruct n) = .error .atomTooLarge := by
  have big (n : Bytes) (h : 65535 < n.length) : toBytes (.unitStruct n) = .error .atomTooLarge := by
    simp [toBytes, ser, encode, enc, encAtom, indexOf?, u16max, h]
  exact ⟨List.replicate 65536 97, big _ (by rw [List.length_replicate]; decide)⟩

/-! ### integers are read exactly or not at all -/

/-- `from_term::<iN/uN>` on ANY term: the result is `ok` exactly when the term is an integer (in either representation, with
whatever padding of the digits) whose numeric value `intVal t` lies in the range of the requested type, and then it is that
value — never a truncated, wrapped or sign-changed one. -/
theorem C15_int_read_exactly (k : IntTy) (t : Term) (v : Val) :
    de (.int k) t = .ok v ↔ ∃ i, intVal t = some i ∧ k.inRange i = true ∧ v = .int k i := by
  simp only [de]
  exact SerdeInt.deInt_exact k t v

example : de (.int .u8) (.big false [44, 1]) = .error .err ∧ de (.int .u8) (.int 300) = .error .err ∧
    de (.int .i64) (.big true [0, 0, 0, 0, 0, 0, 0, 128, 0, 0]) = .ok (.int .i64 (-9223372036854775808)) := by
  refine ⟨by rfl, by rfl, by rfl⟩

/-- In particular an integer outside the requested type's range is an error. -/
theorem C15_int_out_of_range_is_error (k : IntTy) (t : Term) (i : Int) (hi : intVal t = some i) (hr : k.inRange i = false) :
    de (.int k) t = .error .err := by
  simp only [de, SerdeInt.deInt_eq, hi, hr, Bool.false_eq_true, if_false]

example : intVal (.big false [0, 0, 0, 0, 0, 0, 0, 0, 1]) = some 18446744073709551616 ∧ IntTy.u64.inRange 18446744073709551616 = false := by
  decide

/-- 128-bit integers are not carried: both directions report an error, for every value and every term (neither ser.rs nor
de.rs overrides the 128-bit methods — `Gen.C15_WIDE_OVERRIDDEN`, re-extracted from the source on every run). -/
theorem C15_128_bit_is_an_error (w : WideTy) (i : Int) (t : Term) : serWide w i = .error .err ∧ deWide w t = .error .err := by
  constructor <;> rfl

example : Gen.C15_WIDE_OVERRIDDEN = [] := by decide

/-! ### the type-mapping tables of the source are the model's, and are consistent

`Gen.C15_SER_TOP` / `C15_SER_PARTS` / `C15_DE_ARMS` are extracted from ser.rs and de.rs by tools/gen_misc.py on every run;
`modelTop` / `modelParts` / `modelAccepts` (Lemmas/SerdeTables.lean) are computed from the model by evaluating `ser` / `de` on
probe values of every method.  Changing an arm in the source (or in the model) without the other fails these. -/

/-- which constructor every `serialize_*` method and every compound serializer builds -/
theorem C15_ser_arms_are_the_sources :
    Gen.C15_SER_TOP.all (fun r => SerdeTables.sameSet (SerdeTables.modelTop r.1) r.2) = true ∧
    Gen.C15_SER_PARTS.all (fun r => SerdeTables.sameSet (SerdeTables.modelParts r.1) r.2) = true ∧
    Gen.C15_SER_TOP.map (·.1) = SerdeTables.serProbes.map (·.1) ∧
    Gen.C15_SER_TRANSPARENT = ["some", "newtype_struct"] ∧ Gen.C15_STRUCT_FIELD_KEY_CTOR = "Binary" ∧
    Gen.C15_U64_SPLIT_AT_I64_MAX = true := by decide

/-- which constructors every `deserialize_*` method accepts -/
theorem C15_de_arms_are_the_sources :
    Gen.C15_DE_ARMS.all (fun r => SerdeTables.sameSet (SerdeTables.modelAccepts r.1) r.2) = true ∧
    Gen.C15_DE_ARMS.map (·.1) = SerdeTables.deAcc.map (·.1) ∧ maxBigDigits = 8 := by decide

/-- ON THE SOURCE TABLES ALONE: every constructor a `serialize_*` builds is matched by the `deserialize_*` that reads it back —
as it is (in memory) and in every form `decode ∘ encode` can give it (`Integer` ↦ `Integer`/`BigInt`, `String` ↦ `Binary`,
`List` ↦ `List`/`Nil`).  (The defects of edp-rs repaired by 19beadb and 807e280 were violations of this.) -/
theorem C15_every_written_constructor_is_read :
    SerdeTables.allAccepted Gen.C15_SER_TOP Gen.C15_DE_ARMS = true := by decide

example : SerdeTables.allAccepted Gen.C15_SER_TOP
    (Gen.C15_DE_ARMS.map fun r => if r.1 = "char" then (r.1, ["String"]) else r) = false := by decide

/-- writer and reader use the same atom names; `()` and `None` are different atoms; the Elixir struct key and prefix -/
theorem C15_atom_names_agree :
    Gen.C15_ATOM_TRUE = Gen.C15_ATOM_DE_TRUE ∧ Gen.C15_ATOM_FALSE = Gen.C15_ATOM_DE_FALSE ∧
    Gen.C15_ATOM_UNIT = Gen.C15_ATOM_DE_UNIT ∧ Gen.C15_ATOM_NONE = Gen.C15_ATOM_DE_NONE ∧
    sTrue ≠ sFalse ∧ sNil ≠ sUndefined ∧ sTrue ≠ sUndefined ∧ sFalse ≠ sUndefined ∧
    sStructKey = [95, 95, 115, 116, 114, 117, 99, 116, 95, 95] ∧ sElixirDot = [69, 108, 105, 120, 105, 114, 46] := by decide

/-! ## `deserialize_any`: the entry point behind untagged / internally / adjacently tagged enums and `#[serde(flatten)]` -/

section Any
open Edp.SerdeAny

/-- Every integer of every width, over its whole range, is shown to a self-describing reader as the 64-bit integer it
is — `visit_i64` when it fits `i64`, `visit_u64` above — as the serialiser builds it AND as it comes back from the wire
(where everything outside the 32-bit encodings is a big integer). Before the repair of `deserialize_any` (c209acf of
edp-rs) the big-integer terms were `UnsupportedType`, so a `u64` above `i64::MAX` in memory and every integer beyond 32
bits across the wire failed in every type that serde reads through `deserialize_any`. -/
theorem C15_any_reads_every_64bit_integer (k : IntTy) (i : Int) (h : k.inRange i = true) :
    content (ser (.int k i)) = .ok (rep i) ∧ content (wireT (ser (.int k i))) = .ok (rep i) := by
  have hv : intVal (ser (.int k i)) = some i := intVal_serInt k i h
  have hw := intVal_wireT _ i hv (inRange_abs k i h)
  have hr := inRange_64 k i h
  by_cases hc : k = .u64 ∧ i > i64Max
  · have e : ser (.int k i) = .big false (leN 8 i.toNat) := by simp only [ser, serInt, if_pos hc]
    exact ⟨content_int _ i hv hr (.inr ⟨_, _, e⟩), content_int _ i hw hr (.inr ⟨_, _, by rw [e]; rfl⟩)⟩
  · have h64 := inRange_i64 k i h hc
    exact ⟨content_int _ i hv hr (.inl h64), content_int _ i hw hr (.inl h64)⟩

example : content (ser (.int .u64 18446744073709551615)) = .ok (.u64 18446744073709551615) ∧
    content (wireT (ser (.int .i64 (-1099511627776)))) = .ok (.i64 (-1099511627776)) :=
  ⟨(C15_any_reads_every_64bit_integer .u64 18446744073709551615 (by decide)).1,
   (C15_any_reads_every_64bit_integer .i64 (-1099511627776) (by decide)).2⟩

/-- …and never a fabricated number: for ANY big-integer term (any sign, any digits, padded, negative zero, 300 digits)
`deserialize_any` succeeds exactly when the term's numeric value fits 64 bits, and then shows exactly that value. -/
theorem C15_any_big_integer_exact (neg : Bool) (d : Bytes) (c : Content) :
    content (.big neg d) = .ok c ↔
      ∃ i, intVal (.big neg d) = some i ∧ (IntTy.i64.inRange i = true ∨ IntTy.u64.inRange i = true) ∧ c = rep i :=
  content_big neg d c

example : content (.big false [0, 0, 0, 0, 0, 0, 0, 0, 1]) = .error .err := by rfl

/-- The arms of the model ARE the arms of the source (regenerated from de.rs on every run): per `OwnedTerm` constructor the
`visit_*` calls in source order, computed from the model by evaluation on probe terms that reach every branch; the atoms
with a meaning of their own are the serialiser's `true` / `false` / `nil` / `undefined`; the big-integer arm goes through
`integer_term_as`; and what has no arm (a big integer beyond 64 bits, improper lists, bit strings, funs, ports,
references) is an error. -/
theorem C15_any_arms_are_the_sources :
    modelArms = Gen.C15_ANY_ARMS ∧
    Gen.C15_ANY_ATOM_BYTES = [sTrue, sFalse, sNil, sUndefined] ∧
    Gen.C15_ANY_ATOMS.map (fun a => (a.2.1, a.2.2)) = [("visit_bool", "true"), ("visit_bool", "false"), ("visit_unit", ""), ("visit_none", "")] ∧
    Gen.C15_ANY_VIA_INTEGER_TERM_AS = ["BigInt"] ∧
    unsupportedProbes.map (fun t => visitOf (content t)) = unsupportedProbes.map (fun _ => "error") := by
  refine ⟨by rfl, by decide, by decide, by decide, by rfl⟩

end Any

/-! ## the error clause, constructor by constructor -/

/-- A term of the wrong shape for the requested type is an error, never a fabricated value — for EVERY constructor of the
type universe and every term: integers are read from integer terms only (either representation), floats from floats,
`bool` from the atoms `true` / `false`, `char` from a string or binary, `String` from binary / string / atom, bytes from a
binary, `()` from `nil`, `Option<T>` from `undefined` or whatever `T` is read from, tuples and tuple structs from tuples
with at least as many elements, `Vec` from a list or `[]`, maps / structs / Elixir structs from maps, a unit struct from
the atom of its name, a newtype from whatever its content is read from, an enum from an atom naming a variant or a
non-empty tuple whose head names one. (`SerdeShape.shapeOk` is that table; it is written from the data model, not from
de.rs.) -/
theorem C15_wrong_shape_is_error (ty : Ty) (t : Term) (h : SerdeShape.shapeOk ty t = false) : de ty t = .error .err :=
  SerdeShape.wrong_shape_is_error ty t h

example : SerdeShape.shapeOk (.option (.newtype [78] (.int .u8))) (.float 0) = false ∧
    SerdeShape.shapeOk (.tuple [.bool, .bool, .bool]) (.tuple [.atom sTrue, .atom sTrue]) = false ∧
    SerdeShape.shapeOk (.enum [69] [([65], .unit)]) (.atom [66]) = false ∧
    SerdeShape.shapeOk (.enum [69] [([65], .unit)]) (.atom [65]) = true ∧
    SerdeShape.shapeOk (.seq .bool) .nil = true := by decide

end Edp.Props.C15
