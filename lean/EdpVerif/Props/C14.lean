import EdpVerif.Lemmas.DistHeader
import EdpVerif.Lemmas.DistBody
import EdpVerif.Lemmas.DistReader
import EdpVerif.Generated.MiscC14
import EdpVerif.Generated.Tags
/-
C14 — distribution headers and the atom cache resolve every atom correctly.

`DistHeader.header` / `encodeDist` model `encode_with_dist_header(_multi)`, `DistHeader.parseHeader` /
`decodeWithAtomCache` model `parse_dist_header_with_cache` / `decode_with_atom_cache` (Impl/DistHeader.lean).
The oracle is `Spec.DistHeader` (an independent reader of the header layout and a conforming sender with an
atom cache, written from the protocol).  The order in which the encoder's hash set yields the atoms is
universally quantified (`order`).
-/
namespace Edp.Props.C14
open Edp Edp.DistHeader Edp.Spec.DistHeader

/-- **The header the library writes is read by the independent reader as exactly its atoms, every one intact**:
for every order of the atoms, any number of them from 1 to 255, any lengths up to 65535 bytes (so: both parities
of the reference count, short and long atoms), whatever the reader's cache held before and whatever follows. -/
theorem C14_header_read_by_spec (order : List Bytes) (s : Slots) (rest : Bytes)
    (hne : order ≠ []) (hn : order.length ≤ 255) (hl : ∀ a ∈ order, a.length < 65536) :
    readHeader s (header order ++ rest) = some (order, sendSlots s (entriesOf 0 order), rest) := by
  rw [header_eq_send order hne]
  have := readHeader_send (isLong order) s (entriesOf 0 order) rest (by rw [entriesOf_length]; exact hn)
    (entriesOf_conforming s order 0 (by omega) hl)
  rw [this, entriesOf_atoms]

example : ∃ s', readHeader [] (header [[97], [98, 99], [100]] ++ [106]) = some ([[97], [98, 99], [100]], s', [106]) :=
  ⟨_, C14_header_read_by_spec _ _ _ (by simp) (by simp) (by simp)⟩

/-- the flag fields, one by one: `new entry, segment 0` for each reference, then the LongAtoms field — which for an
odd number of references is the HIGH nibble of the last flag byte, for an even number the low nibble of an extra byte -/
theorem C14_flag_fields (order : List Bytes) (i : Nat) (hi : i ≤ order.length) :
    field (packNibbles (flagNibbles order)) i =
      if i < order.length then 8 else if isLong order then 1 else 0 := by
  rw [pack_eq, flagNibbles, field_pack_snoc _ _ (fun x hx => by rw [List.eq_of_mem_replicate hx]; omega)
    (by split <;> omega) i (by simpa using hi)]
  simp

/-- and there are exactly `N/2 + 1` flag bytes -/
theorem C14_flag_byte_count (order : List Bytes) :
    (packNibbles (flagNibbles order)).length = order.length / 2 + 1 := by
  rw [pack_eq, pack_length]; simp [flagNibbles]; omega

/-- one atom longer than 255 bytes: the single flag byte is `0x18` (LongAtoms in the high nibble) — the witness of
the defect repaired by fc7340a, which wrote `0x09` -/
theorem C14_one_long_atom_flag_byte (a : Bytes) (h : a.length > 255) : packNibbles (flagNibbles [a]) = [0x18] := by
  simp [flagNibbles, isLong, packNibbles, h]

/-- more than 255 distinct atoms: an error, nothing is written -/
theorem C14_limit_too_many (order : List Bytes) (terms : List Term) (h : order.length > 255) :
    encodeDist order terms = .error .tooManyAtoms := by
  have : order.isEmpty = false := by cases order <;> simp_all
  simp [encodeDist, this, h]

/-- an atom longer than the 16-bit length field: an error (never a truncated length) -/
theorem C14_limit_atom_too_large (order : List Bytes) (terms : List Term) (hn : order.length ≤ 255)
    (a : Bytes) (ha : a ∈ order) (hl : a.length > 65535) :
    encodeDist order terms = .error .atomTooLarge := by
  have h1 : order.isEmpty = false := by cases order <;> simp_all
  have h2 : ¬ order.length > 255 := by omega
  have h3 : (order.any fun a => decide (a.length > u16max)) = true := by
    simp only [List.any_eq_true, decide_eq_true_eq]; exact ⟨a, ha, by simpa [u16max] using hl⟩
  simp [encodeDist, h1, h2, h3]

/-- no atoms at all: still a header (`131, 68, 0`, no flag bytes), which the independent reader accepts -/
theorem C14_zero_atoms (terms : List Term) (bs : Bytes) (s : Slots) (h : encodeDist [] terms = .ok bs) :
    ∃ body, bs = 131 :: 68 :: 0 :: body ∧ encL [] terms = .ok body ∧ readHeader s (0 :: body) = some ([], s, body) := by
  simp only [encodeDist, List.isEmpty_nil, ↓reduceIte] at h
  split at h
  · rename_i b hb
    refine ⟨b, by simpa using h.symm, hb, by simp [readHeader]⟩
  · simp at h

/-- whenever encoding succeeds with atoms, the bytes are `131, 68`, the header of exactly these atoms, the terms -/
theorem C14_layout (order : List Bytes) (terms : List Term) (bs : Bytes) (hne : order ≠ [])
    (h : encodeDist order terms = .ok bs) :
    ∃ body, bs = 131 :: 68 :: (header order ++ body) ∧ encL order terms = .ok body ∧
      order.length ≤ 255 ∧ ∀ a ∈ order, a.length < 65536 := by
  have h1 : order.isEmpty = false := by cases order <;> simp_all
  simp only [encodeDist, h1, Bool.false_eq_true, ↓reduceIte] at h
  split at h
  · simp at h
  · rename_i hn
    split at h
    · simp at h
    · rename_i hl
      split at h
      · rename_i b hb
        refine ⟨b, by simpa using h.symm, hb, by omega, ?_⟩
        intro a ha
        simp only [List.any_eq_true, not_exists, not_and, u16max] at hl
        have := hl a ha; simp at this; omega
      · simp at h

/-- **The library's own reader on the library's own header**: every position resolves to its atom -/
theorem C14_own_header (order : List Bytes) (c : Cache) (rest : Bytes)
    (hne : order ≠ []) (hn : order.length ≤ 255) (hl : ∀ a ∈ order, a.length < 65536)
    (hv : ∀ a ∈ order, validUtf8 a = true) :
    ∃ c', parseHeader c (header order ++ rest) = (c', .ok rest) ∧
      ∀ j (h : j < order.length), c'.atoms.lookup j = some order[j] := by
  rw [header_eq_send order hne]
  -- the receiver's cache need not agree with anything: every reference is new
  obtain ⟨c', h1, h2, _⟩ := parseHeader_send (isLong order) c c.slots (entriesOf 0 order) rest
    (by rw [entriesOf_length]; exact hn) (entriesOf_conforming _ order 0 (by omega) hl)
    (fun e he => hv _ (entriesOf_atoms 0 order ▸ List.mem_map_of_mem (f := (·.atom)) he))
    (fun _ => rfl)
  refine ⟨c', h1, fun j hj => ?_⟩
  rw [h2 j (by rw [entriesOf_length]; exact hj)]
  have : ((entriesOf 0 order).map (·.atom))[j]'(by simp [entriesOf_length]; exact hj) = order[j] := by
    simp [entriesOf_atoms 0 order]
  simpa using this

/-- **A whole header-mode message is read by the independent reader as the same control and payload terms, every
atom intact** — for every list of terms (control alone, control and payload, any further terms), every order in which
the encoder's hash set may yield their atoms (0 to 255 of them, any lengths the header can carry), whatever the
reader's cache held before.  No assumption about the bytes of the terms: the atom-cache-generic codec theorem of C01
(`spec_enc`) is applied to every term with the header's atoms as the reference table.  The two guards are C01's:
`finiteFloatsL` (NaN/infinities are written but are not Erlang floats) and a total size below 4 GiB (NEW_FUN_EXT
carries its own size in 32 bits). -/
theorem C14_message_read_by_spec (inflate : Bytes → Option (Bytes × Nat)) (s : Slots) (order : List Bytes)
    (terms : List Term) (bs : Bytes) (hne : terms ≠ []) (ho : isOrderFor order terms = true)
    (hw : wfL terms = true) (hfin : finiteFloatsL terms = true)
    (h : encodeDist order terms = .ok bs) (hsz : bs.length < 4294967296) :
    ∃ s', readMessage inflate s bs = some (Term.denL terms, s') := by
  have hv := order_valid order terms ho hw
  by_cases hne' : order = []
  · subst hne'
    obtain ⟨body, rfl, hb, hr⟩ := C14_zero_atoms terms bs s h
    refine ⟨s, ?_⟩
    have hlen := encL_length_ge [] terms body hb
    have := readTerms_encL { inflate, refs := [] } [] rfl (by simp) terms body (body.length + 1) hne hw hfin hb
      (by simp at hsz; omega) (by omega)
    simp [readMessage, hr, this]
  · obtain ⟨body, rfl, hb, hn, hl⟩ := C14_layout order terms bs hne' h
    refine ⟨sendSlots s (entriesOf 0 order), ?_⟩
    have hlen := encL_length_ge order terms body hb
    have := readTerms_encL { inflate, refs := order.map cps } order rfl (by omega) terms body (body.length + 1)
      hne hw hfin hb (by simp at hsz; omega) (by omega)
    simp only [readMessage]
    rw [C14_header_read_by_spec order s body hne' hn hl]
    simp only [mapM_cps order hv, this, Option.map_some]

/-- the message used for non-vacuity below: `{foo, #{bar => [foo | baz]}}` with the pid `<n@h.1.2>` as payload; four
distinct atoms, one of them twice, atoms in a map key, an improper tail and an identifier's node name -/
def exTerms : List Term :=
  [.tuple [.atom [102, 111, 111], .map [(.atom [98, 97, 114], .ilist [.atom [102, 111, 111]] (.atom [98, 97, 122]))]],
   .pid ⟨[110, 64, 104], 1, 2, 3, none⟩]
def exOrder : List Bytes := [[98, 97, 122], [102, 111, 111], [110, 64, 104], [98, 97, 114]]

example : ∃ bs, exTerms ≠ [] ∧ isOrderFor exOrder exTerms = true ∧ wfL exTerms = true ∧ finiteFloatsL exTerms = true ∧
    encodeDist exOrder exTerms = .ok bs ∧ bs.length < 4294967296 :=
  ⟨_, by simp [exTerms], by decide, by decide, by decide, rfl, by decide⟩

/-- **The library's own decoder reads the whole message back identically** (`decode_with_atom_cache` on the output of
`encode_with_dist_header(_multi)`): the control term and the optional payload come back as written (in C01's wire
form: `wire t` is `t` up to the encoder's own normalisations — i64 beyond 32 bits as bignum, string as binary …), for
every order of the atoms, 0 to 255 of them, and WHATEVER the cache held before (older positions and slots, from any
earlier messages of the connection, do not disturb it). -/
theorem C14_own_roundtrip (x : Ext) (c : Cache) (order : List Bytes) (t : Term) (q : Option Term) (bs : Bytes)
    (ho : isOrderFor order (t :: q.toList) = true) (hw : wfT t = true) (hwq : ∀ u ∈ q, wfT u = true)
    (hd : dep t ≤ MAX_NESTING_DEPTH) (hdq : ∀ u ∈ q, dep u ≤ MAX_NESTING_DEPTH)
    (h : encodeDist order (t :: q.toList) = .ok bs) :
    (decodeWithAtomCache x c bs).2 = .ok (wire t, q.map wire) := by
  have hwl : wfL (t :: q.toList) = true := by
    cases q with
    | none => simp [wfL, hw]
    | some u => simp [wfL, hw, hwq u rfl]
  have hv := order_valid order _ ho hwl
  by_cases hne : order = []
  · subst hne
    obtain ⟨body, rfl, hb, _⟩ := C14_zero_atoms _ bs [] h
    have hp : parseHeader c (0 :: body) = (c, .ok body) := by simp [parseHeader_eq]
    rw [own_decode x c c [] (by simp) (0 :: body) body hp (cfgFor_nil _) (by simp) t q hw hwq hd hdq hb]
  · obtain ⟨body, rfl, hb, hn, hl⟩ := C14_layout order _ bs hne h
    obtain ⟨c1, hp, hlk⟩ := C14_own_header order c body hne hn hl hv
    rw [own_decode x c c1 order (by omega) (header order ++ body) body hp (cfgFor_of_lookup order c1 hlk) (by simp)
      t q hw hwq hd hdq hb]

example : ∃ bs, isOrderFor exOrder (exTerms.head! :: (some exTerms[1]!).toList) = true ∧
    encodeDist exOrder (exTerms.head! :: (some exTerms[1]!).toList) = .ok bs :=
  ⟨_, by decide, rfl⟩

/-- … and so does every message of a connection's life: any number of messages the library wrote, each with its own
atoms and order, decoded one after the other on ONE cache, come back identically -/
theorem C14_own_roundtrip_history (x : Ext) (msgs : List (List Bytes × Term × Option Term × Bytes)) (c : Cache)
    (h : ∀ m ∈ msgs, isOrderFor m.1 (m.2.1 :: m.2.2.1.toList) = true ∧ wfT m.2.1 = true ∧
      (∀ u ∈ m.2.2.1, wfT u = true) ∧ dep m.2.1 ≤ MAX_NESTING_DEPTH ∧ (∀ u ∈ m.2.2.1, dep u ≤ MAX_NESTING_DEPTH) ∧
      encodeDist m.1 (m.2.1 :: m.2.2.1.toList) = .ok m.2.2.2) :
    decodeSeq x c (msgs.map (·.2.2.2)) = msgs.map fun m => .ok (wire m.2.1, m.2.2.1.map wire) := by
  induction msgs generalizing c with
  | nil => rfl
  | cons m r ih =>
    obtain ⟨ho, hw, hwq, hd, hdq, he⟩ := h m (by simp)
    have h1 := C14_own_roundtrip x c m.1 m.2.1 m.2.2.1 m.2.2.2 ho hw hwq hd hdq he
    have h2 := ih (decodeWithAtomCache x c m.2.2.2).1 (fun m' hm' => h m' (by simp [hm']))
    simp only [List.map_cons, decodeSeq]
    rw [← h1, h2]

/-- **Every atom `collect_atoms` finds is in the header and is written as a reference to its position**: for every
order of the hash set, `encode_atom_impl` with the header's index map turns each collected atom into
`ATOM_CACHE_REF i` with `order[i]` that atom (never an inline atom, never a wrapped index). -/
theorem C14_collected_atoms_are_written_as_references (order : List Bytes) (terms : List Term)
    (ho : isOrderFor order terms = true) (hn : order.length ≤ 255) :
    ∀ a ∈ atomsOfL terms, ∃ i, i < 255 ∧ order[i]? = some a ∧ encAtom order a = .ok [82, UInt8.ofNat i] := by
  intro a ha
  obtain ⟨i, hi, hg, he⟩ := encAtom_ref order a ((mem_order_iff ho a).mpr ha)
  exact ⟨i, by omega, hg, he⟩

example : isOrderFor exOrder exTerms = true ∧ exOrder.length ≤ 255 ∧ [110, 64, 104] ∈ atomsOfL exTerms := by decide

/-- the per-variant traversal, regenerated: the arms of `collect_atoms` are those of the model's `atomsOf` (atom; the
elements of tuples and lists; elements and tail of an improper list; keys and values of a map; the node name of a pid,
port and reference; module and function of an external fun; module, the pid's node name and the free variables of an
internal fun; nothing else), and the atoms each `encode_*_impl` hands to `encode_atom_impl` are exactly the ones the
corresponding arm collects — so no atom is written that was not collected. -/
theorem C14_traversal_arms_are_the_sources :
    Gen.COLLECT_ATOMS_ARMS =
      [("Atom", ["insert:atom"]), ("Tuple|List", ["rec:elem"]), ("ImproperList", ["rec:elem", "rec:tail"]),
       ("Map", ["rec:key", "rec:value"]), ("Pid", ["insert:pid.node"]), ("Port", ["insert:port.node"]),
       ("Reference", ["insert:ref_.node"]), ("ExternalFun", ["insert:fun.module", "insert:fun.function"]),
       ("InternalFun", ["insert:fun.module", "insert:fun.pid.node", "rec:var"]), ("_", [])]
    ∧ Gen.ENCODE_ATOM_SITES =
      [("encode_term_impl", ["atom:atom"]), ("encode_pid_impl", ["atom:&pid.node"]),
       ("encode_port_impl", ["atom:&port.node"]), ("encode_reference_impl", ["atom:&ref_.node"]),
       ("encode_export_ext_impl", ["atom:&fun.module", "atom:&fun.function"]),
       ("encode_new_fun_ext_impl", ["atom:&fun.module", "pid:&fun.pid"])] := by decide

/-- the literal constants of the header writer and reader, regenerated, are the protocol's and the model's: at most 255
references; LongAtoms as soon as one atom exceeds 255 bytes; NewCacheEntryFlag = bit 3 of a 4-bit field, segment index =
bits 0–2; the LongAtoms bit is bit 0 of field N (0x01 of the last byte for even N, 0x10 for odd N) on both sides;
`N/2 + 1` flag bytes on both sides; tags 68 and 82 -/
theorem C14_constants_are_the_sources :
    Gen.C14_ENC_MAX_ATOMS = 255 ∧ Gen.C14_ENC_LONG_THRESHOLD = 255 ∧ Gen.C14_ENC_NEW_ENTRY_FLAG = 8 ∧
    (Gen.C14_ENC_LONG_BIT_EVEN, Gen.C14_ENC_LONG_BIT_ODD) = (1, 16) ∧ Gen.C14_ENC_NIBBLE_SHIFT_ODD = 4 ∧
    (Gen.C14_DEC_LONG_BIT_EVEN, Gen.C14_DEC_LONG_BIT_ODD) = (1, 16) ∧
    Gen.C14_DEC_NIBBLE_MASK = 15 ∧ Gen.C14_DEC_NIBBLE_SHIFT = 4 ∧ Gen.C14_DEC_NEW_ENTRY_MASK = 8 ∧
    Gen.C14_DEC_SEGMENT_MASK = 7 ∧ Gen.C14_ENC_FLAGS_LEN = "(atoms.len()/2)+1" ∧
    Gen.C14_DEC_FLAGS_LEN = "(num_atom_cache_refsasusize)/2+1" ∧ Gen.DIST_HEADER = 68 ∧ Gen.ATOM_CACHE_REF = 82 ∧
    (∀ order : List Bytes, flagNibbles order =
      List.replicate order.length Gen.C14_ENC_NEW_ENTRY_FLAG ++ [if isLong order then 1 else 0]) ∧
    (∀ order terms, order.length > Gen.C14_ENC_MAX_ATOMS → encodeDist order terms = .error .tooManyAtoms) := by
  refine ⟨by decide, by decide, by decide, by decide, by decide, by decide, by decide, by decide, by decide, by decide,
    by decide, by decide, by decide, by decide, fun _ => rfl, fun order terms h => C14_limit_too_many order terms h⟩

/-- a message as the sender decides it: its LongAtoms flag, its references, the bytes of its terms -/
abbrev Msg := Bool × List Entry × Bytes

/-- the sender is conforming throughout the history (relative to ITS OWN evolving cache) -/
def ConformingSeq : Slots → List Msg → Prop
  | _, [] => True
  | s, (long, es, _) :: r =>
    es.length ≤ 255 ∧ Conforming long s es ∧ (∀ e ∈ es, validUtf8 e.atom = true) ∧ ConformingSeq (sendSlots s es) r

/-- the library reads every header of the history without error and, in every message, every position
resolves to the atom the sender meant; the cache is carried from message to message -/
def Resolves : Cache → List Msg → Prop
  | _, [] => True
  | c, (long, es, body) :: r =>
    (parseHeader c (sendHeader long es ++ body)).2 = .ok body ∧
    (∀ j (h : j < es.length), (parseHeader c (sendHeader long es ++ body)).1.atoms.lookup j = some es[j].atom) ∧
    Resolves (parseHeader c (sendHeader long es ++ body)).1 r

/-- **Every cached-atom reference in every message of any conforming sender's history resolves to the atom the
sender meant** — new entries, references to entries created in earlier messages, overwrites of a slot, all eight
segment indices, header position different from cache slot, both parities, long and short atoms; unbounded history. -/
theorem C14_history (msgs : List Msg) (c : Cache) (s : Slots) (ha : SlotsAgree c s) (hc : ConformingSeq s msgs) :
    Resolves c msgs := by
  induction msgs generalizing c s with
  | nil => trivial
  | cons m r ih =>
    obtain ⟨long, es, body⟩ := m
    obtain ⟨hn, hconf, hv, hrest⟩ := hc
    obtain ⟨c', h1, h2, h3⟩ := parseHeader_send long c s es body hn hconf hv ha
    exact ⟨by rw [h1], by rw [h1]; exact h2, by rw [h1]; exact ih c' _ h3 hrest⟩

/-- non-vacuity: message 1 creates slot (3, 7) = `foo` at position 0; message 2 refers to it at position 1 (after a new
`bar` in slot (0, 7), same internal index, other segment); message 3 overwrites slot (3, 7) with `baz` -/
example : ConformingSeq []
    [ (false, [⟨[102, 111, 111], 3, 7, true⟩], [106]),
      (false, [⟨[98, 97, 114], 0, 7, true⟩, ⟨[102, 111, 111], 3, 7, false⟩], [106]),
      (true, [⟨[98, 97, 122], 3, 7, true⟩], [106]) ] := by
  simp [ConformingSeq, Conforming, upd, sendSlots, List.lookup, validUtf8, utf8Decode]
  decide

/-- the receiver's cache tracks the sender's, slot by slot, after every header -/
theorem C14_cache_tracks_sender (long : Bool) (c : Cache) (s : Slots) (es : List Entry) (rest : Bytes)
    (hn : es.length ≤ 255) (hc : Conforming long s es) (hv : ∀ e ∈ es, validUtf8 e.atom = true) (ha : SlotsAgree c s) :
    SlotsAgree (parseHeader c (sendHeader long es ++ rest)).1 (sendSlots s es) := by
  obtain ⟨c', h1, _, h3⟩ := parseHeader_send long c s es rest hn hc hv ha
  rw [h1]; exact h3

/-- the oracle is self-consistent: the spec's reader reads the spec's sender -/
theorem C14_spec_sound (long : Bool) (s : Slots) (es : List Entry) (rest : Bytes)
    (hn : es.length ≤ 255) (hc : Conforming long s es) :
    readHeader s (sendHeader long es ++ rest) = some (es.map (·.atom), sendSlots s es, rest) :=
  readHeader_send long s es rest hn hc

/-- a reference to a slot that was never filled is refused — it never resolves to some other atom -/
theorem C14_unfilled_slot_rejected (long : Bool) (flags : Bytes) (k i : Nat) (c : Cache) (idx : Nat) (bs r : Bytes)
    (seg : Nat) (hseg : seg < 8) (hr : rdU 1 bs = .ok (idx, r)) (hnib : nibbleAt flags i = some seg)
    (hnone : c.slots.lookup (seg, idx) = none) :
    parseRefs long flags (k + 1) i c bs = (c, .error .err) := by
  have h1 : seg / 8 = 0 := by omega
  simp [parseRefs, hr, hnib, h1, Nat.mod_eq_of_lt hseg, hnone]

/-- **Whatever header the library accepts, the protocol accepts, and every position means the same atom** — for EVERY
byte string and every state of the cache (no assumption on the sender): the independent reader reads the same atoms at
the same positions, leaves the same bytes for the terms, and the two caches still agree afterwards.  The library never
resolves a reference to anything but what the layout prescribes. -/
theorem C14_accepted_header_means_what_the_protocol_says (c : Cache) (s : Slots) (bs : Bytes) (c' : Cache) (rest : Bytes)
    (ha : SlotsAgree c s) (h : parseHeader c bs = (c', .ok rest)) :
    ∃ as s', readHeader s bs = some (as, s', rest) ∧ SlotsAgree c' s' ∧
      (∀ j (hj : j < as.length), c'.atoms.lookup j = some as[j]) := by
  cases bs with
  | nil => simp [parseHeader, rdU, rdN] at h
  | cons nb r =>
    rw [parseHeader_eq] at h
    by_cases hn : nb.toNat = 0
    · rw [if_pos hn] at h
      cases h
      exact ⟨[], s, by simp [readHeader, hn], ha, fun j hj => by simp at hj⟩
    · rw [if_neg hn] at h
      rcases h2 : takeE (nb.toNat / 2 + 1) r with e | ⟨flags, r1⟩
      · simp [h2] at h
      · rw [h2] at h
        obtain ⟨as, s', hr, hs, hpos, _⟩ := parseRefs_sound _ flags nb.toNat 0 c s r1 c' rest ha h
        exact ⟨as, s', by simp only [readHeader, hn, ↓reduceIte, takeE_takeN h2, hr], hs,
          fun j hj => by simpa using hpos j hj⟩

/-- a new entry in slot (3, 7) at position 0, referred to again at position 1 of the same header -/
example : ∃ c', parseHeader {} [2, 0x3b, 0, 7, 3, 102, 111, 111, 7, 106] = (c', .ok [106]) ∧
    c'.atoms = [(1, [102, 111, 111]), (0, [102, 111, 111])] := ⟨_, rfl, rfl⟩

/-- **A header the protocol refuses is refused by the library** — a reference to a slot that was never filled, a
truncated reference, a missing flag byte — in every state of the cache, after any history. -/
theorem C14_header_the_protocol_refuses_is_refused (c : Cache) (s : Slots) (bs : Bytes) (ha : SlotsAgree c s)
    (h : readHeader s bs = none) : ∃ e, (parseHeader c bs).2 = .error e := by
  rcases hp : parseHeader c bs with ⟨c', e | rest⟩
  · exact ⟨e, rfl⟩
  · obtain ⟨as, s', hr, _⟩ := C14_accepted_header_means_what_the_protocol_says c s bs c' rest ha hp
    rw [h] at hr; cases hr

/-- a reference to slot (3, 7), which nothing filled -/
example : readHeader [((3, 8), [102, 111, 111])] [1, 0x03, 7, 106] = none := by decide

/-- a history of arbitrary byte strings on one cache, followed up to the first header the library refuses: every
accepted header is accepted by the protocol and resolves, position by position, as the protocol says -/
def AcceptedAsProtocol : Cache → Slots → List Bytes → Prop
  | _, _, [] => True
  | c, s, m :: r =>
    ∀ rest, (parseHeader c m).2 = .ok rest →
      ∃ as s', readHeader s m = some (as, s', rest) ∧
        (∀ j (hj : j < as.length), (parseHeader c m).1.atoms.lookup j = some as[j]) ∧
        AcceptedAsProtocol (parseHeader c m).1 s' r

/-- **Any sender, any history**: as long as the library accepts the headers it is given, it reads them as the protocol
does (so, with `C14_header_the_protocol_refuses_is_refused`, the first header the protocol refuses is the first the
library refuses).  `C14_history` is the other direction for conforming senders: their headers ARE accepted. -/
theorem C14_any_sender_history (msgs : List Bytes) (c : Cache) (s : Slots) (ha : SlotsAgree c s) :
    AcceptedAsProtocol c s msgs := by
  induction msgs generalizing c s with
  | nil => trivial
  | cons m r ih =>
    intro rest hr
    have hp : parseHeader c m = ((parseHeader c m).1, .ok rest) := by rw [← hr]
    obtain ⟨as, s', h1, h2, h3⟩ := C14_accepted_header_means_what_the_protocol_says c s m _ rest ha hp
    exact ⟨as, s', h1, h3, ih _ s' h2⟩

/-- reading a header never reaches an out-of-range index into the flag bytes (no panic), for any input at all -/
theorem C14_no_panic_refs (long : Bool) (flags : Bytes) (k i : Nat) (c : Cache) (bs : Bytes)
    (h : i + k ≤ 2 * flags.length - 1) :
    (parseRefs long flags k i c bs).2 ≠ .error .panic := parseRefs_np long flags k i c bs h

theorem C14_no_panic (c : Cache) (bs : Bytes) : (parseHeader c bs).2 ≠ .error .panic := parseHeader_np c bs

end Edp.Props.C14
