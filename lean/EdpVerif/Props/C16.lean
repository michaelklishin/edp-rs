import EdpVerif.Generated.MiscC16
import EdpVerif.Generated.MiscC16b
import EdpVerif.Generated.MiscState
import EdpVerif.Lemmas.PidAlloc
import EdpVerif.Lemmas.RefCounter
import EdpVerif.Lemmas.NodeIds
/-
C16 — allocated pids and references are unique under any interleaving.
Property theorems only; the model is EdpVerif/Impl/PidAlloc.lean and EdpVerif/Impl/RefCounter.lean, helper lemmas
(the inductive invariants) are in EdpVerif/Lemmas/PidAlloc.lean and EdpVerif/Lemmas/RefCounter.lean.

A schedule is a list of events (`Ev.task t`: thread `t` takes its next atomic step, `Ev.setCreation c`: a
`set_creation(c)` call); thread ids are arbitrary naturals, every thread may call `allocate` any number of times.
All statements quantify over every schedule and every start state unless a hypothesis says otherwise.
-/
namespace Edp.Props.C16
open Edp Edp.Impl

section Pids
open Edp.Impl.PidAlloc

/-- table tie, re-checked against the source on every run: the atomic steps of the model are the operations on shared
state of `allocate()` / `make_reference()` in source order (wrap branch, then the tail of the other branch), and the
process-number limit is 2^20 -/
theorem C16_model_steps_are_the_source_steps :
    Gen.ALLOCATE_SHARED_OPS =
        [Pc.idle, .locked, .gotId 0, .gotSerial 0 0, .storedWrap 0, .gotOut 0 0].map Pc.opName
          ++ [Pc.gotSerial 0 0, .gotOut 0 0].map Pc.opName
      ∧ Gen.MAKE_REFERENCE_SHARED_OPS =
        [RefCounter.RPc.idle, .f1 0, .f2 0 0, .f3 0 0 0].map RefCounter.RPc.opName
      ∧ MAXP = 2 ^ 20 := by decide

/-- nothing but the modelled steps touches the counters (regenerated from the source on every run): in node.rs
`reference_counter` is only ever advanced by `fetch_add` — three times in `make_reference`, once for a remote `unlink` —
and never stored, reset, loaded or cloned anywhere else (not in `start`, not on reconnect); in pid_allocator.rs `next_id`
and `next_serial` are touched inside `allocate()` only. The all-schedules theorems below speak about exactly these steps. -/
theorem C16_counters_touched_only_by_the_modelled_steps :
    Gen.REFERENCE_COUNTER_ACCESSES =
        ["unlink:fetch_add", "make_reference:fetch_add", "make_reference:fetch_add", "make_reference:fetch_add"]
      ∧ Gen.ALLOCATOR_COUNTER_ACCESSES =
        ["next_id@allocate:load", "next_id@allocate:store", "next_id@allocate:store",
         "next_serial@allocate:load", "next_serial@allocate:fetch_add"] := by decide

/-- the sequential function is the small-step semantics run by one thread without interruption (6 or 7 steps) -/
theorem C16_alloc_is_uninterrupted_run (s : Sh) (t : Nat) :
    (runTasks (St.init s) (List.replicate 7 t)).out.head? = some (t, (alloc s).1) := by
  by_cases h0 : s.poisoned = true
  · simp [runTasks, run, stepEv, step, St.init, alloc, h0]
  by_cases h1 : s.nextId + 1 ≥ U32
  · simp [runTasks, run, stepEv, step, hstep, St.init, upd, alloc, h0, h1]
  by_cases h2 : s.nextId ≥ MAXP
  · by_cases h3 : s.nextSerial + 1 ≥ U64 <;>
      simp [runTasks, run, stepEv, step, hstep, St.init, upd, alloc, Pc.isGotOut, h0, h1, h2, h3]
  · simp [runTasks, run, stepEv, step, hstep, St.init, upd, alloc, Pc.isGotOut, h0, h1, h2]

/-- mutual exclusion: under every schedule a thread that is inside `allocate()` past `lock()` is the lock holder, so at
most one thread is between `lock()` and the return -/
theorem C16_mutual_exclusion (s0 : Sh) (evs : List Ev) (t : Nat) :
    (run (St.init s0) evs).pc t ≠ .idle → (run (St.init s0) evs).lock = some t :=
  (inv_run evs (inv_init s0)).holder t

example : (run (St.init (Sh.new 1)) [.task 3]).pc 3 ≠ .idle := by decide

/-- calls complete in the order in which `lock()` returned to them -/
theorem C16_completion_order_is_lock_order (s0 : Sh) (evs : List Ev) :
    (run (St.init s0) evs).acq =
      (run (St.init s0) evs).out.map (·.1) ++
        (match (run (St.init s0) evs).lock with | some t => [t] | none => []) :=
  (inv_run evs (inv_init s0)).acq

/-- linearisability, including `set_creation`: under every schedule the results of the finished calls, in lock
order, are those of running the ghost history `lin` sequentially; `lin` has one `alloc` per call, placed at the
step where the call loads `creation` (or fails), and the `set_creation`s in the order they happened. At most one call
(the lock holder's) is linearised but not finished. When the lock is free the shared state is the sequential one. -/
theorem C16_linearizable (s0 : Sh) (evs : List Ev) :
    let st := run (St.init s0) evs
    let q := seqRun s0 st.lin
    st.out.map (·.2) = q.1.take st.out.length ∧ q.1.length ≤ st.out.length + 1 ∧
      (st.lock = none → st.out.map (·.2) = q.1 ∧ st.sh = q.2) ∧
      Op.creations st.lin = Ev.creations evs := by
  intro st q
  have hinv : Inv s0 st := inv_run evs (inv_init s0)
  -- the finished calls are all of the sequential run, or all but the lock holder's, which is past its linearisation point
  have hd : st.out.map (·.2) = q.1 ∨ ∃ p, st.out.map (·.2) ++ [.ok p] = q.1 := by
    cases hl : st.lock with
    | none => exact .inl (hinv.free hl).2
    | some t => exact (hinv.held t hl).2.imp (·.2.1) (fun ⟨p, _, _, ho⟩ => ⟨p, ho⟩)
  refine ⟨?_, ?_, fun hl => ⟨(hinv.free hl).2, (hinv.free hl).1⟩, run_lin_creations evs (St.init s0)⟩
  · rcases hd with ho | ⟨p, ho⟩ <;> rw [← ho]
    · rw [← List.map_take, List.take_length]
    · exact (List.take_left' (by simp)).symm
  · rcases hd with ho | ⟨p, ho⟩ <;> rw [← ho] <;> simp

/-- serial equivalence: under every schedule of thread steps (any number of threads, any number of calls each), the
results in lock-acquisition order are exactly those of the same number of allocations made one after the other -/
theorem C16_serial_equiv (s0 : Sh) (σ : List Nat) :
    (runTasks (St.init s0) σ).out.map (·.2) =
      (List.range (runTasks (St.init s0) σ).out.length).map (seqAlloc s0) := by
  obtain ⟨h1, _, _, h4⟩ := C16_linearizable s0 (σ.map .task)
  rw [Ev.creations_tasks] at h4
  have := eq_range_map_of_take h1 (seqRun_allocs s0 _ h4)
  rwa [List.length_map] at this

/-- with `set_creation` calls interleaved anywhere, the (id, serial) stream is still that of a plain row of
allocations: concurrency and creation changes never influence which numbers are handed out -/
theorem C16_serial_equiv_keys (s0 : Sh) (evs : List Ev) :
    (run (St.init s0) evs).out.map (fun x => x.2.key) =
      (List.range (run (St.init s0) evs).out.length).map (fun i => (seqAlloc s0 i).key) := by
  obtain ⟨h1, _⟩ := C16_linearizable s0 evs
  have h1' : (run (St.init s0) evs).out.map (fun x => x.2.key) =
      ((seqRun s0 (run (St.init s0) evs).lin).1.map Res.key).take (run (St.init s0) evs).out.length := by
    rw [← List.map_take, ← h1, List.map_map]; rfl
  have := eq_range_map_of_take h1' (seqRun_keys s0 _)
  rwa [List.length_map] at this

/-- injectivity of the sequential run across the id wrap and across the serial's 32-bit wrap: two successful
allocations fewer than `MAX_PROCESSES_PER_NODE * 2^32` apart never carry the same (id, serial) -/
theorem C16_seq_injective (s0 : Sh) (hg : Good s0) (i j : Nat) (hij : i < j) (hd : j - i < MAXP * U32)
    (p q : Pid) (hp : seqAlloc s0 i = .ok p) (hq : seqAlloc s0 j = .ok q) :
    (p.id, p.serial) ≠ (q.id, q.serial) :=
  seqAlloc_key_ne s0 hg i j hij hd p q hp hq

example : ∃ s0 i j p q, Good s0 ∧ i < j ∧ j - i < MAXP * U32 ∧ seqAlloc s0 i = .ok p ∧ seqAlloc s0 j = .ok q :=
  ⟨Sh.new 1, 0, 1, ⟨1, 0, 1⟩, ⟨2, 0, 1⟩, good_new 1, by decide, by decide, by decide, by decide⟩

/-- the same from every counter position, including those only reachable through the `*_test_only` accessors
(id 0, ids above the limit): the first call hands out the odd id once and the allocator is well-formed afterwards -/
theorem C16_seq_injective_any (s0 : Sh) (i j : Nat) (hij : i < j) (hd : j - i < MAXP * U32)
    (p q : Pid) (hp : seqAlloc s0 i = .ok p) (hq : seqAlloc s0 j = .ok q) :
    (p.id, p.serial) ≠ (q.id, q.serial) :=
  seqAlloc_key_ne_any s0 i j hij hd p q hp hq

example : seqAlloc ⟨0, 5, 1, false⟩ 0 = .ok ⟨0, 5, 1⟩ ∧ seqAlloc ⟨0, 5, 1, false⟩ 1 = .ok ⟨1, 5, 1⟩ ∧
    seqAlloc ⟨1048580, 5, 1, false⟩ 0 = .ok ⟨1048580, 6, 1⟩ ∧ seqAlloc ⟨1048580, 5, 1, false⟩ 1 = .ok ⟨1, 6, 1⟩ := by
  decide

/-- the bound is exact: the (id, serial) space is used completely and the stream repeats after exactly
`MAX_PROCESSES_PER_NODE * 2^32` allocations -/
theorem C16_seq_period (s0 : Sh) (hg : Good s0) (i : Nat) (p q : Pid)
    (hp : seqAlloc s0 i = .ok p) (hq : seqAlloc s0 (i + MAXP * U32) = .ok q) :
    (p.id, p.serial) = (q.id, q.serial) := by
  rw [seqAlloc_ok s0 hg i p hp, seqAlloc_ok s0 hg _ q hq]
  simp only [Prod.mk.injEq, MAXP_eq, U32]
  generalize pos s0 = a
  omega

/-- closed form: the `i`-th allocation from a well-formed state at position `a = pos s0` is
(`(a+i) mod MAX + 1`, `((a+i+1) div MAX) mod 2^32`) with the creation of the allocator -/
theorem C16_seq_closed_form (s0 : Sh) (hg : Good s0) (i : Nat) (p : Pid) (h : seqAlloc s0 i = .ok p) :
    p = ⟨(pos s0 + i) % MAXP + 1, ((pos s0 + i + 1) / MAXP) % U32, s0.creation⟩ :=
  seqAlloc_ok s0 hg i p h

example : seqAlloc (Sh.new 7) 0 = .ok ⟨1, 0, 7⟩ := by decide

/-- a well-formed allocator neither panics nor reports a poisoned lock before the 64-bit serial is exhausted -/
theorem C16_seq_never_fails (s0 : Sh) (hg : Good s0) (i : Nat) (hb : (pos s0 + i) / MAXP + 1 < U64) :
    ∃ p, seqAlloc s0 i = .ok p :=
  seqAlloc_is_ok s0 hg i hb

example : Good (Sh.new 1) ∧ (pos (Sh.new 1) + 5) / MAXP + 1 < U64 := ⟨good_new 1, by decide⟩

/-- non-vacuity of `C16_seq_period`: both allocations succeed on a fresh allocator -/
example : ∃ p q, seqAlloc (Sh.new 1) 0 = .ok p ∧ seqAlloc (Sh.new 1) (0 + MAXP * U32) = .ok q := by
  obtain ⟨p, hp⟩ := C16_seq_never_fails (Sh.new 1) (good_new 1) 0 (by decide)
  obtain ⟨q, hq⟩ := C16_seq_never_fails (Sh.new 1) (good_new 1) (0 + MAXP * U32) (by decide)
  exact ⟨p, q, hp, hq⟩

/-- uniqueness under every schedule (threads, calls and `set_creation`s in any number and order) and from every
counter position: the (id, serial) pairs of the pids handed out are pairwise distinct as long as at most
`MAX_PROCESSES_PER_NODE * 2^32` calls have finished -/
theorem C16_unique (s0 : Sh) (evs : List Ev)
    (hn : (run (St.init s0) evs).out.length ≤ MAXP * U32) :
    ((run (St.init s0) evs).out.filterMap (fun x => x.2.key)).Nodup := by
  have hk := C16_serial_equiv_keys s0 evs
  have : (run (St.init s0) evs).out.filterMap (fun x => x.2.key) =
      ((run (St.init s0) evs).out.map (fun x => x.2.key)).filterMap id := by
    rw [List.filterMap_map]; rfl
  rw [this, hk]
  exact seq_keys_nodup s0 _ hn

example : ∃ s0 evs, (run (St.init s0) evs).out.length ≤ MAXP * U32 ∧
    (run (St.init s0) evs).out.map (·.2) = [.ok ⟨1, 0, 1⟩, .ok ⟨2, 0, 1⟩] :=
  ⟨Sh.new 1, [.task 0, .task 1, .task 0, .task 0, .task 0, .task 1, .task 0, .task 0, .task 1, .task 1, .task 1,
    .task 1, .task 1, .task 1], by decide, by decide⟩

/-- every pid carries a creation that was in force: the allocator's initial one or one stored by a `set_creation`
of the schedule (the exact value — the one in force at the call's linearisation point — is given by
`C16_linearizable`) -/
theorem C16_creation_in_force (s0 : Sh) (evs : List Ev) (t : Nat) (p : Pid)
    (h : (t, Res.ok p) ∈ (run (St.init s0) evs).out) :
    p.creation = s0.creation ∨ Ev.setCreation p.creation ∈ evs := by
  obtain ⟨h1, _, _, h4⟩ := C16_linearizable s0 evs
  have hm : Res.ok p ∈ (run (St.init s0) evs).out.map (·.2) := List.mem_map.mpr ⟨_, h, rfl⟩
  rw [h1] at hm
  have := seqRun_creations s0 _ p (List.mem_of_mem_take hm)
  rw [h4, Ev.mem_creations] at this
  exact this

example : (0, Res.ok ⟨1, 0, 9⟩) ∈
    (run (St.init (Sh.new 1)) [.task 0, .task 0, .setCreation 9, .task 0, .task 0, .task 0, .task 0]).out := by decide

/-- without concurrent `set_creation` every pid carries the allocator's creation -/
theorem C16_creation_constant (s0 : Sh) (σ : List Nat) (t : Nat) (p : Pid)
    (h : (t, Res.ok p) ∈ (runTasks (St.init s0) σ).out) : p.creation = s0.creation := by
  rcases C16_creation_in_force s0 (σ.map .task) t p h with h | h
  · exact h
  · simp at h

example : (0, Res.ok ⟨1, 0, 1⟩) ∈ (runTasks (St.init (Sh.new 1)) [0, 0, 0, 0, 0, 0]).out := by decide

end Pids

section Refs
open Edp.Impl.RefCounter

/-- references are unique under every schedule of `make_reference` steps, remote `unlink`s and creation stores:
while at most 2^32 `fetch_add`s have been performed on the node's counter (3 per `make_reference`, 1 per remote
`unlink`), all references handed out differ — already in their first word -/
theorem C16_refs_unique (c0 cr : Nat) (hc : c0 < U32) (evs : List REv)
    (hn : (run (RSt.init c0 cr) evs).issued ≤ U32) :
    ((run (RSt.init c0 cr) evs).out.map (·.2)).Pairwise (fun r r' => r.w0 ≠ r'.w0) ∧
      ((run (RSt.init c0 cr) evs).out.map (·.2)).Nodup := by
  have hinv := rinv_run evs (rinv_init c0 cr hc) hn
  have hp : ((run (RSt.init c0 cr) evs).out.map (·.2)).Pairwise (fun r r' => r.w0 ≠ r'.w0) := by
    rw [List.pairwise_map]; exact hinv.outOut
  refine ⟨hp, ?_⟩
  exact hp.imp (fun h e => h (by rw [e]))

example : ∃ evs, (run (RSt.init 4294967295 1) evs).issued ≤ U32 ∧
    (run (RSt.init 4294967295 1) evs).out.map (·.2) = [⟨1, 0, 2, 4⟩, ⟨1, 4294967295, 1, 3⟩] :=
  ⟨[.task 0, .task 1, .task 0, .task 1, .task 0, .task 1, .task 1, .task 1, .task 0, .task 0], by decide, by decide⟩

/-- each event performs at most one `fetch_add` -/
theorem C16_refs_issued_le (c0 cr : Nat) (evs : List REv) : (run (RSt.init c0 cr) evs).issued ≤ evs.length := by
  simpa [RSt.init] using issued_run_le evs (RSt.init c0 cr)

/-- every reference carries a creation that was in force: the initial one or one stored during the schedule -/
theorem C16_refs_creation_in_force (c0 cr : Nat) (evs : List REv) (x : Nat × Ref)
    (h : x ∈ (run (RSt.init c0 cr) evs).out) : x.2.creation = cr ∨ REv.setCreation x.2.creation ∈ evs := by
  have hinit : CInv (fun c => c = cr ∨ REv.setCreation c ∈ evs) (RSt.init c0 cr) :=
    ⟨Or.inl rfl, by intro t r h; simp [RSt.init] at h, by intro x h; simp [RSt.init] at h⟩
  exact (cinv_run evs (fun c hc => Or.inr hc) hinit).outs x h

example : (0, (⟨5, 0, 1, 2⟩ : Ref)) ∈
    (run (RSt.init 0 1) [.task 0, .task 0, .setCreation 5, .task 0, .task 0, .task 0]).out := by decide

/-- one thread calling `make_reference` `k` times in a row obtains `[c, c+1, c+2]`, `[c+3, c+4, c+5]`, … (mod 2^32) -/
theorem C16_refs_sequential (c0 cr t k : Nat) (hc : c0 < U32) :
    (run (RSt.init c0 cr) (seqCalls t k)).out = (List.range k).map (fun i => (t, seqRef c0 cr i)) := by
  have h := run_seqCalls t k (RSt.init c0 cr) rfl hc
  rw [h]
  rfl

example : (4294967295 : Nat) < U32 := by decide

/-- sequentially made references differ while fewer than 2^32 calls apart (3 is invertible modulo 2^32) … -/
theorem C16_refs_seq_injective (c0 cr i j : Nat) (hij : i < j) (hd : j - i < U32) :
    seqRef c0 cr i ≠ seqRef c0 cr j := by
  intro h
  have h0 : (c0 + 3 * i) % U32 = (c0 + 3 * j) % U32 := congrArg Ref.w0 h
  simp only [U32] at h0 hd
  have e : c0 + 3 * j - (c0 + 3 * i) = 3 * (j - i) := by clear h0; omega
  have h1 := Nat.sub_mod_eq_zero_of_mod_eq h0.symm
  rw [e] at h1
  have hdvd : 4294967296 ∣ 3 * (j - i) := Nat.dvd_of_mod_eq_zero h1
  have hc : Nat.Coprime 4294967296 3 := by decide
  have := Nat.le_of_dvd (by clear h0 h1 hdvd; omega) (hc.dvd_of_dvd_mul_left hdvd)
  clear h0 h1 hdvd
  omega

example : (0 : Nat) < 1 ∧ 1 - 0 < U32 := by decide

/-- … and repeat exactly after 2^32 calls: the three words come from one 32-bit counter, so a reference has 32 bits of
uniqueness, not 96 -/
theorem C16_refs_seq_period (c0 cr i : Nat) : seqRef c0 cr (i + U32) = seqRef c0 cr i :=
  seqRef_congr (by simp only [U32]; omega)

end Refs

section NodeLevel
open Edp.Impl.NodeIds

/-- **Every identifier a node makes carries the creation in force when it was made** — for EVERY history of `start`
(with whatever EPMD answers, including failure and repeated attempts), `spawn`, the `allocate()` of `send`/`rpc`,
`make_reference` and remote `unlink`s on a fresh node: whichever call comes next, the pid or reference it makes carries
`inForce` of the history so far — the creation EPMD assigned at the one successful `start`, and 1 before it.  The node
keeps the creation in two places (`Node.creation` for references, the allocator's for pids); the invariant of the proof
is that they never differ, so a pid and a reference made back to back carry the same creation. -/
theorem C16_node_identifiers_carry_the_creation_in_force (pre : List Op) (op : Op) (c : Nat)
    (h : (step (run NSt.new pre).2 op).1.creation? = some c) : c = inForce false 1 pre := by
  obtain ⟨hs, hc⟩ := run_inv pre NSt.new rfl
  rw [step_out_creation _ op hs c h, hc]
  rfl

/-- a refused `spawn`, a failing EPMD, a start that assigns creation 7, a second `start` that is refused: the pid and the
reference made afterwards carry 7, the reference made before carries 1 -/
example : (run NSt.new [.spawn, .makeRef, .start none, .start (some 9)]).1 =
      [.refused, .ref ⟨1, 0, 1, 2⟩, .refused, .refused] ∧
    (run NSt.new [.makeRef, .start (some 7), .start (some 9), .spawn, .makeRef, .allocate]).1 =
      [.ref ⟨1, 0, 1, 2⟩, .startOk, .refused, .pid (.ok ⟨1, 0, 7⟩), .ref ⟨7, 3, 4, 5⟩, .pid (.ok ⟨2, 0, 7⟩)] := by
  decide

/-- the creation changes at most once in a node's life: once a `start` has been attempted, no later call changes it -/
theorem C16_node_creation_fixed_after_start (c : Nat) (r : List Op) : inForce true c r = c := inForce_started c r

/-- the exact creation under concurrency: in the sequential history a schedule is equivalent to (`C16_linearizable`),
an allocation that follows the operations `pre` carries the creation stored LAST in `pre` (the allocator's initial one
when there was no `set_creation`) — "the value in force" is the latest store before the call's linearisation point -/
theorem C16_creation_is_the_latest_store (s0 : PidAlloc.Sh) (pre : List PidAlloc.Op) (p : PidAlloc.Pid)
    (h : (PidAlloc.alloc (PidAlloc.seqRun s0 pre).2).1 = .ok p) :
    p.creation = ((PidAlloc.Op.creations pre).getLast?).getD s0.creation := by
  rw [(PidAlloc.alloc_creation _).2 p h, PidAlloc.seqRun_state_creation]

example : (PidAlloc.alloc (PidAlloc.seqRun (PidAlloc.Sh.new 1) [.setCreation 5, .alloc, .setCreation 6]).2).1 =
    .ok ⟨2, 0, 6⟩ := by decide

/-- every identifier of the local node comes from the allocator or from `make_reference` (regenerated from the source on
every run): in edp_client and edp_node an `ExternalPid` is constructed only inside `PidAllocator::allocate`, an
`ExternalReference` only inside `Node::make_reference`; `allocate()` is called by `spawn`, `send_remote` and the rpc
call, `make_reference()` by `monitor`; a creation is stored only by `set_creation` and by `Node::start` (which stores
both copies).  A second place that makes identifiers, or one that changes the creation, fails this theorem. -/
theorem C16_identifiers_are_made_by_the_modelled_code_only :
    Gen.ID_CONSTRUCTOR_SITES =
        ["edp_client/pid_allocator.rs:allocate:ExternalPid::new", "edp_client/pid_allocator.rs:allocate:ExternalPid::new",
         "edp_node/node.rs:make_reference:ExternalReference::new"]
      ∧ Gen.ALLOCATE_CALL_SITES =
        ["edp_node/node.rs:spawn", "edp_node/node.rs:send_remote", "edp_node/node.rs:rpc_call_raw_with_timeout"]
      ∧ Gen.MAKE_REFERENCE_CALL_SITES = ["edp_node/node.rs:monitor"]
      ∧ Gen.CREATION_STORE_SITES =
        ["edp_client/pid_allocator.rs:set_creation:store", "edp_node/node.rs:start:store",
         "edp_node/node.rs:start:set_creation"] := by decide

/-- **Pids handed out by a node are pairwise distinct over every history of `allocate`/`spawn`/`start`** (and
`make_reference`, `unlink`, refused and failing `start`s), already as (id, serial) — hence as (id, serial, creation)
triples WHATEVER creation EPMD assigns, in particular when it assigns the placeholder creation 1 of an unstarted node
again.  The condition the code relies on is exactly the one the model's `start` step states and `run_pidKeys` uses:
`start` stores the creation (`set_creation`) and leaves `next_id` / `next_serial` alone, so the numbers of a history
are those of ONE uninterrupted row of allocations (`C16_seq_injective_any`), inside the window of `MAX·2^32` calls. -/
theorem C16_node_pids_unique_across_start (s : NSt) (ops : List Op)
    (hn : (pidKeys (run s ops).1).length ≤ PidAlloc.MAXP * PidAlloc.U32) :
    ((pidKeys (run s ops).1).filterMap id).Nodup := by
  rw [run_pidKeys ops s]
  exact PidAlloc.seq_keys_nodup s.alloc _ hn

/-- a pid made before `start` (by an rpc call), EPMD assigning creation 1, then `spawn` and another call -/
example : pidKeys (run NSt.new [.allocate, .start (some 1), .spawn, .makeRef, .allocate]).1 =
      [some (1, 0), some (2, 0), some (3, 0)] ∧
    (run NSt.new [.allocate, .start (some 1), .spawn]).1 = [.pid (.ok ⟨1, 0, 1⟩), .startOk, .pid (.ok ⟨2, 0, 1⟩)] := by
  decide

/-- the condition is necessary: a `start` that REBUILT the allocator (`PidAllocator::new(name, creation)`) instead of
storing the creation would, when EPMD assigns creation 1, hand the pid made before `start` out again -/
theorem C16_rebuilding_the_allocator_in_start_would_repeat_a_pid :
    (step { (step NSt.new .allocate).2 with started := true, creation := 1, alloc := PidAlloc.Sh.new 1 } .spawn).1 =
      (step NSt.new .allocate).1 := by decide

/-- the allocator is built once and its field is written nowhere else (regenerated from the source on every run): one
`PidAllocator::new` in edp_client + edp_node (in `Node::with_hidden`), the `pid_allocator` field is only initialised in
that constructor and never assigned, and the raw-counter accessors (`next_id_test_only`, `next_serial_test_only`) are
not used outside tests.  With `C16_counters_touched_only_by_the_modelled_steps` and the creation stores of
`C16_identifiers_are_made_by_the_modelled_code_only`: nothing but `allocate()` moves the numbers, nothing but
`set_creation` moves the allocator's creation. -/
theorem C16_allocator_is_built_once_and_never_replaced :
    Gen.PID_ALLOCATOR_NEW_SITES = ["edp_node/node.rs:with_hidden"]
      ∧ Gen.PID_ALLOCATOR_FIELD_WRITES = ["edp_node/node.rs:with_hidden:let", "edp_node/node.rs:with_hidden:init"]
      ∧ Gen.RAW_COUNTER_ACCESSOR_USES = [] := by decide

end NodeLevel

/-- The shared state of the allocator model IS the state the code keeps (regenerated from the source on every run): the two
counters, the creation and the lock of `PidAllocator`; `Node` keeps one reference counter and one creation; nothing
process-wide. A second counter, a cache of issued identifiers or a spare slot would be state this model does not know. -/
theorem C16_state_is_the_sources_state :
    Edp.Gen.STRUCT_PidAllocator =
      ["node_name:Atom", "creation:AtomicU32", "next_id:AtomicU32", "next_serial:AtomicU64", "wrap_lock:Mutex<()>"]
    ∧ Edp.Gen.STRUCT_Node =
      ["name:Atom", "cookie:String", "creation:Arc<AtomicU32>", "pid_allocator:Arc<PidAllocator>",
       "reference_counter:Arc<AtomicU32>", "registry:Arc<ProcessRegistry>",
       "connections:Arc<DashMap<String,Arc<Mutex<Connection>>>>",
       "pending_rpcs:Arc<DashMap<String,oneshot::Sender<OwnedTerm>>>", "started:Arc<AtomicBool>",
       "listen_port:Option<u16>", "hidden:bool"]
    ∧ Edp.Gen.PROCESS_WIDE_STATE = [] := by decide

end Edp.Props.C16
