import EdpVerif.Impl.TableTie
import EdpVerif.Spec.Etf
import EdpVerif.Lemmas.Reencode
import EdpVerif.Lemmas.EncErr
import EdpVerif.Lemmas.SpecValid
import EdpVerif.Impl.EncodeEntry
import EdpVerif.Impl.DistHeader
import EdpVerif.Generated.MiscC01
import EdpVerif.Lemmas.WireOrder
import EdpVerif.Lemmas.RoundTripLocal
/-
C01 — encode/decode round trip preserves the Erlang value of every term.
-/
namespace Edp.Props.C01
open Edp Edp.Term Edp.DistHeader

def headTag (r : Except EncErr Bytes) : Option Nat :=
  match r with
  | .ok (b :: _) => some b.toNat
  | _ => none

/-- table tie re-checked against the source on every run: for every one of the 17 variants (and the LOCAL_EXT replay
of an identifier) the tag byte the encoder MODEL writes is the constant `tools/gen_tables.py` re-extracts from tags.rs
under the name encoder.rs uses for that variant; and every successful `encode` starts with `VERSION` -/
theorem C01_encoder_emits_generated_tags :
    [headTag (enc [] (.int 0)), headTag (enc [] (.int 256)), headTag (enc [] (.int 2147483648)),
     headTag (enc [] (.float 0)), headTag (enc [] (.atom [])), headTag (enc [[97]] (.atom [97])),
     headTag (enc [] (.bin [])), headTag (enc [] (.bits [0] 1)), headTag (enc [] (.str [])),
     headTag (enc [] (.list [])), headTag (enc [] (.list [.nil])), headTag (enc [] (.ilist [] .nil)),
     headTag (enc [] (.map [])), headTag (enc [] (.tuple [])), headTag (enc [] (.big false [])), headTag (enc [] .nil),
     headTag (enc [] (.pid { node := [], id := 0, serial := 0, creation := 0 })),
     headTag (enc [] (.pid { node := [], id := 0, serial := 0, creation := 0, loc := some [] })),
     headTag (enc [] (.port [] 0 0 none)), headTag (enc [] (.ref [] 0 [] none)), headTag (enc [] (.xfun [] [] 0)),
     headTag (enc [] (.ifun 0 [] 0 0 [] 0 0 { node := [], id := 0, serial := 0, creation := 0 } []))]
    = [Gen.SMALL_INTEGER_EXT, Gen.INTEGER_EXT, Gen.SMALL_BIG_EXT, Gen.NEW_FLOAT_EXT, Gen.SMALL_ATOM_UTF8_EXT,
       Gen.ATOM_CACHE_REF, Gen.BINARY_EXT, Gen.BIT_BINARY_EXT, Gen.BINARY_EXT, Gen.NIL_EXT, Gen.LIST_EXT, Gen.LIST_EXT,
       Gen.MAP_EXT, Gen.SMALL_TUPLE_EXT, Gen.SMALL_BIG_EXT, Gen.NIL_EXT, Gen.NEW_PID_EXT, Gen.LOCAL_EXT, Gen.V4_PORT_EXT,
       Gen.NEWER_REFERENCE_EXT, Gen.EXPORT_EXT, Gen.NEW_FUN_EXT].map some
    ∧ ∀ t bs, encode t = .ok bs → ∃ b, bs = UInt8.ofNat Gen.VERSION :: b ∧ enc [] t = .ok b := by
  refine ⟨by decide, fun t bs h => ?_⟩
  obtain ⟨b, hb, rfl⟩ := encode_ok h
  exact ⟨b, rfl, hb⟩

/-- the width decisions of the encoder model are taken at the thresholds regenerated from encoder.rs (and these are
the format's: a one-byte value / length field holds up to 255, INTEGER_EXT is a signed 32-bit field):
integers, atoms (for every atom cache that does not hold the atom), big integers, tuples -/
theorem C01_encoder_thresholds :
    (∀ v : Int, 0 ≤ v → v ≤ Gen.C01_ENC_SMALL_INT_MAX → encInt v = [97, UInt8.ofNat v.toNat]) ∧
    (∀ v : Int, Gen.C01_ENC_INT32_RANGE = true → (v < 0 ∨ v > Gen.C01_ENC_SMALL_INT_MAX) → -2147483648 ≤ v → v ≤ 2147483647 →
      encInt v = 98 :: be32 (v % 4294967296).toNat) ∧
    (∀ v : Int, (v < -2147483648 ∨ v > 2147483647) → (encInt v).head? = some 110) ∧
    (∀ a : Bytes, a.length ≤ Gen.C01_ENC_SMALL_ATOM_MAX → encAtom [] a = .ok (119 :: be8 a.length ++ a)) ∧
    (∀ a : Bytes, a.length > Gen.C01_ENC_SMALL_ATOM_MAX → a.length ≤ u16max → encAtom [] a = .ok (118 :: be16 a.length ++ a)) ∧
    (∀ a : Bytes, a.length > u16max → encAtom [] a = .error .atomTooLarge) ∧
    (∀ n d, (encBig n d).head? = some (if d.length ≤ Gen.C01_ENC_BIGINT_SMALL_MAX then 110 else 111)) ∧
    (∀ l b, l.length ≤ Gen.C01_ENC_SMALL_TUPLE_MAX → enc [] (.tuple l) = .ok b → b.head? = some 104) ∧
    (∀ l b, l.length > Gen.C01_ENC_SMALL_TUPLE_MAX → enc [] (.tuple l) = .ok b → b.head? = some 105) ∧
    Gen.C01_ENC_SMALL_BIG_MAX ≥ 8 := by
  refine ⟨?_, ?_, ?_, ?_, ?_, ?_, ?_, ?_, ?_, by decide⟩
  · intro v h0 h1
    have h1' : v ≤ 255 := by simpa [Gen.C01_ENC_SMALL_INT_MAX] using h1
    simp [encInt, h0, h1']
  · intro v _ h0 h1 h2
    have h0' : v < 0 ∨ v > 255 := by simpa [Gen.C01_ENC_SMALL_INT_MAX] using h0
    have : ¬ (0 ≤ v ∧ v ≤ 255) := by omega
    simp [encInt, this, h1, h2]
  · intro v h
    have h1 : ¬ (0 ≤ v ∧ v ≤ 255) := by omega
    have h2 : ¬ (-2147483648 ≤ v ∧ v ≤ 2147483647) := by omega
    simp [encInt, h1, h2]
  · intro a h
    simp only [Gen.C01_ENC_SMALL_ATOM_MAX] at h
    have h1 : ¬ a.length > u16max := by simp [u16max]; omega
    have h2 : ¬ a.length > 255 := by omega
    simp [encAtom, indexOf?, h1, h2]
  · intro a h h'
    simp only [Gen.C01_ENC_SMALL_ATOM_MAX] at h
    have h1 : ¬ a.length > u16max := by omega
    simp [encAtom, indexOf?, h1, h]
  · intro a h
    simp [encAtom, indexOf?, h]
  · intro n d
    by_cases h : d.length ≤ 255 <;> simp [encBig, Gen.C01_ENC_BIGINT_SMALL_MAX, h]
  · intro l b h he
    obtain ⟨_, lb, _, rfl⟩ := enc_tuple_ok he
    simp [tupleHead, show l.length ≤ 255 from h]
  · intro l b h he
    obtain ⟨_, lb, _, rfl⟩ := enc_tuple_ok he
    simp [tupleHead, show ¬ l.length ≤ 255 from Nat.not_le.mpr h]

example : encInt 255 = [97, 255] ∧ encInt 256 = [98, 0, 0, 1, 0] ∧ encInt (-1) = [98, 255, 255, 255, 255] := by
  refine ⟨?_, ?_, ?_⟩
  · simpa using C01_encoder_thresholds.1 255 (by decide) (by decide)
  · simpa [be32, beN] using C01_encoder_thresholds.2.1 256 rfl (by decide) (by decide) (by decide)
  · simpa [be32, beN] using C01_encoder_thresholds.2.1 (-1) rfl (by decide) (by decide) (by decide)

def tyMax : String → Nat
  | "u8" => 255
  | "u16" => 65535
  | "u32" => 4294967295
  | _ => 0

/-- "size errors instead of truncation": the `try_from` guards regenerated from encoder.rs are, function by function,
the limits of the encoder model (`u16max` for atom names and reference words, `u32max` for everything else) with the
error variant the model returns — and these are the widths of the format's length fields (2 and 4 bytes).  The casts of
a length that remain are listed too: all sit behind one of these guards or a width test, except the two the notes
name (`encode_bigint`'s `len as u32` and the NEW_FUN_EXT size), so a new unguarded cast breaks this obligation. -/
theorem C01_size_guards_are_the_formats :
    Gen.C01_ENC_SIZE_GUARDS.map (fun g => (g.1, tyMax g.2.1, g.2.2)) =
      [("encode_atom_impl", u16max, "AtomTooLarge"), ("encode_binary", u32max, "BinaryTooLarge"),
       ("encode_bit_binary", u32max, "BinaryTooLarge"), ("encode_list_impl", u32max, "ListTooLarge"),
       ("encode_improper_list_impl", u32max, "ListTooLarge"), ("encode_map_impl", u32max, "MapTooLarge"),
       ("encode_tuple_impl", u32max, "TupleTooLarge"), ("encode_reference_impl", u16max, "ReferenceTooLarge")] ∧
    u16max = 256 ^ 2 - 1 ∧ u32max = 256 ^ 4 - 1 ∧
    Gen.C01_ENC_LEN_CASTS =
      [("encode_atom_impl", "len as u16"), ("encode_atom_impl", "len as u8"), ("encode_integer", "significant_len as u8"),
       ("encode_integer", "significant_len as u32"), ("encode_tuple_impl", "elements.len() as u8"),
       ("encode_bigint", "len as u8"), ("encode_bigint", "len as u32"),
       ("encode_new_fun_ext_impl", "(temp_buf.len()+4) as u32")] := by decide

/-- decoding what the encoder wrote returns the term's wire form (`wire t`: the same term with integers beyond 32 bits
as big integers, strings as binaries, the empty list as nil, improper lists with a nil tail as proper lists, maps
re-inserted in arrival order) — for every well-formed term within the nesting limit and every behaviour `x` of
the external calls.  `wfT` is documented in Lemmas/RoundTrip.lean (it excludes only what the Rust types cannot hold,
plus the listed representable terms the library's own decoder refuses). -/
theorem C01_roundtrip (x : Ext) (t : Term) (bs : Bytes) (hw : wfT t = true) (hd : dep t ≤ MAX_NESTING_DEPTH)
    (he : encode t = .ok bs) : decode x bs = .ok (wire t) :=
  have ⟨h1, _, h3⟩ := plain_of_wfT [] t hw
  decodeWith_encode x {} t bs h1 (.inr hw) (by omega) he

/-- a term with an i64 beyond 32 bits, an empty list, a string, a map and an improper list with nil tail -/
def ex1 : Term := .tuple [.int 1, .list [], .int 4294967296, .str [104, 105], .map [(.atom [97], .ilist [.int 2] .nil)]]

example (x : Ext) : decode x [131, 104, 5, 97, 1, 106, 110, 5, 0, 0, 0, 0, 0, 1, 109, 0, 0, 0, 2, 104, 105,
      116, 0, 0, 0, 1, 119, 1, 97, 108, 0, 0, 0, 1, 97, 2, 106] =
    .ok (.tuple [.int 1, .nil, .big false [0, 0, 0, 0, 1], .bin [104, 105], .map [(.atom [97], .list [.int 2])]]) :=
  C01_roundtrip x ex1 _ (by decide) (by decide) (by rfl)

/-- the same through the zero-copy decoder (every tag the encoder emits without a cache is in its tag set) -/
theorem C01_roundtrip_borrowed (x : Ext) (t : Term) (bs : Bytes) (hw : wfT t = true) (hd : dep t ≤ MAX_NESTING_DEPTH)
    (he : encode t = .ok bs) : decodeBorrowed x bs = .ok (wire t) :=
  have ⟨h1, _, h3⟩ := plain_of_wfT [] t hw
  decodeWith_encode x { borrowed := true } t bs h1 (.inr hw) (by omega) he

example (x : Ext) : decodeBorrowed x [131, 104, 2, 97, 1, 106] = .ok (.tuple [.int 1, .nil]) :=
  C01_roundtrip_borrowed x (.tuple [.int 1, .list []]) _ (by decide) (by decide) (by rfl)

/-- the decoded term denotes the same Erlang value as the original: for every well-formed term whose maps have
pairwise strictly increasing keys (`sortedKeys`: under `Term.cmp`, on the keys as they come back from the wire).
The guard is what makes `BTreeMap` re-insertion the identity; without it the decoder may reorder or merge entries
(C03 known finding: numerically equal keys of different type). -/
theorem C01_value_preserved (t : Term) (hw : wfT t = true) (hs : sortedKeys t = true) : den (wire t) = den t :=
  den_wire t hw hs

def ex2 : Term := .map [(.int 1, .str [104]), (.int 2, .int 5000000000), (.atom [97], .ilist [.int 2] (.list []))]

theorem C01_ex2_btree : mapsStrict ex2 = true := by
  simp [ex2, mapsStrict, mapsStrictKV, mapsStrictL, pairwiseLt, allLt, Term.cmp, Term.norm, Term.cmpN]
  decide

theorem C01_ex2_sorted : sortedKeys ex2 = true :=
  sortedKeys_of_mapsStrict ex2 (i64T_of_wfT ex2 (by decide)) C01_ex2_btree

example : wire ex2 = .map [(.int 1, .bin [104]), (.int 2, .big false [0, 242, 5, 42, 1]), (.atom [97], .list [.int 2])] := by
  have h := insertAll_sorted _ (by simpa [ex2, sortedKeys, sortedKeysKV, sortedKeysL] using C01_ex2_sorted :
    pairwiseLt (wireKV [(.int 1, .str [104]), (.int 2, .int 5000000000), (.atom [97], .ilist [.int 2] (.list []))]) = true)
  simp only [ex2, wire, h]
  simp [wireKV, wire, wireL, leN, sigLen]

example : den (wire ex2) = den ex2 := C01_value_preserved ex2 (by decide) C01_ex2_sorted

/-- normalisations: a string is the binary with the same bytes, the empty list is nil, and an i64 that comes back as a
big integer is the same integer -/
theorem C01_str_is_binary (s : Bytes) : den (.str s) = den (.bin s) := rfl

theorem C01_empty_list_is_nil : den (.list []) = den .nil := rfl

theorem C01_i64_as_big (i : Int) (h : -9223372036854775808 ≤ i ∧ i ≤ 9223372036854775807) :
    den (wire (.int i)) = .int i := den_wire_int i h

example : den (.big false [0, 242, 5, 42, 1]) = .int 5000000000 := by simp [den, bigVal, magVal]

/-- re-encoding the decoded term yields the same bytes — for every term (no well-formedness needed) whose maps have
increasing keys and that contains no improper list with no elements and a nil tail -/
theorem C01_reencode (t : Term) (bs : Bytes) (hs : sortedKeys t = true) (hn : noEmptyImproper t = true)
    (he : encode t = .ok bs) : encode (wire t) = .ok bs := encode_wire t bs hs hn he

example : ∃ bs, encode ex2 = .ok bs ∧ encode (wire ex2) = .ok bs :=
  ⟨_, rfl, C01_reencode ex2 _ C01_ex2_sorted (by decide) rfl⟩

/-- the full cycle: encode, decode with the library's decoder, encode again -/
theorem C01_decode_then_reencode (x : Ext) (t t' : Term) (bs : Bytes) (hw : wfT t = true)
    (hd : dep t ≤ MAX_NESTING_DEPTH) (hs : sortedKeys t = true) (hn : noEmptyImproper t = true)
    (he : encode t = .ok bs) (hdec : decode x bs = .ok t') : encode t' = .ok bs := by
  rw [C01_roundtrip x t bs hw hd he] at hdec
  cases hdec
  exact C01_reencode t bs hs hn he

/-- the excluded shape is a genuine exception: `ImproperList{elements: [], tail: Nil}` is written as
`108,0,0,0,0,106`, decoded as the empty list, and that is written as `106` -/
theorem C01_reencode_not_for_empty_improper :
    ∃ t bs, wfT t = true ∧ sortedKeys t = true ∧ encode t = .ok bs ∧ wire t = .list [] ∧ encode (.list []) = .ok [131, 106] ∧
      bs ≠ [131, 106] :=
  ⟨.ilist [] .nil, [131, 108, 0, 0, 0, 0, 106], by decide, by decide, rfl, rfl, rfl, by decide⟩

/-- whenever the encoder reports an error — for ANY term, well-formed or not — the term contains a node that exceeds
the limit the error names (`over e t`, Lemmas/EncErr.lean): `atomTooLarge` an atom name (of an atom, of a plain
identifier's node, of a fun's module/function) longer than 65535 bytes; `binaryTooLarge` a binary, string or
bit-string longer than `u32::MAX` bytes; `listTooLarge` / `tupleTooLarge` / `mapTooLarge` more than `u32::MAX`
elements; `refTooLarge` a plain reference with more than 65535 id words -/
theorem C01_error_only_for_size (t : Term) (e : EncErr) (h : encode t = .error e) : over e t = true :=
  enc_err [] t e (encode_err h)

example : ∃ a : Bytes, encode (.tuple [.atom a]) = .error .atomTooLarge ∧ over .atomTooLarge (.tuple [.atom a]) = true := by
  -- proved for any name of that length, so that nothing evaluates the 65536-element list
  have key : ∀ a : Bytes, a.length = 65536 →
      encode (.tuple [.atom a]) = .error .atomTooLarge ∧ over .atomTooLarge (.tuple [.atom a]) = true := by
    intro a h
    simp [encode, enc, encL, encAtom, indexOf?, u16max, over, overL, atomOver, h]
  exact ⟨List.replicate 65536 97, key _ List.length_replicate⟩

/-- and exactly then: the encoder fails if and only if some limit is exceeded -/
theorem C01_error_iff_over_limit (t : Term) : (∃ e, encode t = .error e) ↔ (∃ e, over e t = true) := by
  constructor
  · rintro ⟨e, h⟩; exact ⟨e, C01_error_only_for_size t e h⟩
  · rintro ⟨e, h⟩
    cases h1 : encode t with
    | ok b => obtain ⟨tb, hb, _⟩ := encode_ok h1; exact absurd hb (enc_over t e tb h)
    | error e' => exact ⟨e', rfl⟩

/-- within all limits the encoder succeeds -/
theorem C01_ok_within_limits (t : Term) (h : ∀ e, over e t = false) : ∃ bs, encode t = .ok bs := by
  cases h1 : encode t with
  | ok b => exact ⟨b, rfl⟩
  | error e => have := C01_error_only_for_size t e h1; rw [h e] at this; cases this

/-- the atom-table error of the distribution-header encoder never comes out of the plain encoder -/
theorem C01_never_too_many_atoms (t : Term) : encode t ≠ .error .tooManyAtoms := by
  intro h
  have := C01_error_only_for_size t _ h
  rw [over_tooManyAtoms] at this
  cases this

/-- the encoder's output is read by the INDEPENDENT reader of the External Term Format (`Spec.parseTop`, written from
the format's documentation) as exactly the value the term denotes, with nothing left over — for every well-formed term
(any nesting depth), any zlib behaviour of the reader.  Maps: the reader keeps arrival order and `den` keeps stored
order, so the equality is on the nose, no key-order guard.  Two guards, both excluding representable terms:
`finiteFloats` (NaN and the infinities are not Erlang floats; the encoder writes them without complaint, see
`C01_valid_not_for_nan`) and `bs.length ≤ u32::MAX` (NEW_FUN_EXT carries its own size as `(len + 4) as u32`,
silently truncated for a fun of 4 GiB or more). -/
theorem C01_valid (env : Spec.Env) (t : Term) (bs : Bytes) (hw : wfT t = true) (hfin : finiteFloats t = true)
    (he : encode t = .ok bs) (hsz : bs.length ≤ 4294967295) (hrefs : env.refs = []) :
    Spec.parseTop env bs = some (den t, []) := by
  obtain ⟨b, hb, rfl⟩ := encode_ok he
  exact specTop_enc env [] (by simpa using hrefs) (by simp) t _ hw hfin hb (by simp at hsz; omega)

example : Spec.parseTop {} [131, 104, 5, 97, 1, 106, 110, 5, 0, 0, 0, 0, 0, 1, 109, 0, 0, 0, 2, 104, 105,
      116, 0, 0, 0, 1, 119, 1, 97, 108, 0, 0, 0, 1, 97, 2, 106] = some (den ex1, []) :=
  C01_valid {} ex1 _ (by decide) (by decide) (by rfl) (by decide) rfl

/-- with an atom cache (distribution header): the reader resolves ATOM_CACHE_REF through the same table -/
theorem C01_valid_cached (env : Spec.Env) (cache : List Bytes) (t : Term) (b r : Bytes) (hw : wfT t = true)
    (hfin : finiteFloats t = true) (he : enc cache t = .ok b) (hsz : b.length ≤ 4294967295)
    (hlen : cache.length ≤ 256) (hrefs : env.refs = cache.map cps) :
    Spec.parse env (b.length + 1) (b ++ r) = some (den t, r) :=
  spec_enc env cache hrefs hlen t b r (b.length + 1) hw hfin he (by omega)
    (by have := tsz_le_length cache t b hw he; omega)

example : Spec.parse { refs := [[97]] } 3 ([82, 0] ++ [7]) = some (.atom [97], [7]) :=
  C01_valid_cached { refs := [[97]] } [[97]] (.atom [97]) [82, 0] [7] (by decide) (by decide) (by rfl) (by decide) (by decide) (by rfl)

/-- the float guard is a genuine exception: a NaN is encoded without an error, and the bytes are not a valid encoding -/
theorem C01_valid_not_for_nan :
    ∃ t bs, wfT t = true ∧ encode t = .ok bs ∧ Spec.parseTop {} bs = none :=
  ⟨.float 0x7FF8000000000000, [131, 70, 0x7F, 0xF8, 0, 0, 0, 0, 0, 0], by decide, rfl, by
    simp [Spec.parseTop, Spec.parse, rdN]⟩

/-- `encode_to_writer`: whatever was written before, the writer receives exactly the bytes `encode` returns, after
them, when it accepts them; an encoder error comes back unchanged and nothing is written -/
theorem C01_writer_same_bytes (t : Term) (w : Bytes) :
    (∀ bs, encode t = .ok bs → encodeToWriter t w true = .ok (w ++ bs) ∧ encodeToWriter t w false = .error .io) ∧
    (∀ e acc, encode t = .error e → encodeToWriter t w acc = .error (.enc e)) ∧
    (∀ acc out, encodeToWriter t w acc = .ok out → ∃ bs, encode t = .ok bs ∧ out = w ++ bs) := by
  refine ⟨?_, ?_, ?_⟩
  · intro bs h; simp [encodeToWriter, h]
  · intro e acc h; simp [encodeToWriter, h]
  · intro acc out h
    unfold encodeToWriter at h
    cases he : encode t with
    | error e => simp [he] at h
    | ok b =>
      simp only [he] at h
      split at h
      · simp at h; exact ⟨b, rfl, h.symm⟩
      · simp at h

example : encodeToWriter (.int 5) [1, 2] true = .ok [1, 2, 131, 97, 5] :=
  (C01_writer_same_bytes (.int 5) [1, 2]).1 [131, 97, 5] rfl |>.1

/-- `encode_with_dist_header` (one term, any order `order` of its atoms in the header): behind `131, 68` and the header
come exactly the bytes of the shared term encoder run with that atom table, and — for a well-formed term with finite
floats — the independent reader, resolving ATOM_CACHE_REF through the same table, reads them as the term's value -/
theorem C01_dist_header_same_term_bytes (env : Spec.Env) (order : List Bytes) (t : Term) (bs : Bytes)
    (h : encodeDist order [t] = .ok bs) :
    ∃ hdr body, bs = 131 :: 68 :: (hdr ++ body) ∧ enc order t = .ok body ∧ order.length ≤ 255 ∧
      (wfT t = true → finiteFloats t = true → body.length ≤ 4294967295 → env.refs = order.map cps →
        Spec.parse env (body.length + 1) body = some (den t, [])) := by
  have key : ∀ body, enc order t = .ok body → order.length ≤ 255 →
      (wfT t = true → finiteFloats t = true → body.length ≤ 4294967295 → env.refs = order.map cps →
        Spec.parse env (body.length + 1) body = some (den t, [])) := by
    intro body hb hl hw hfin hsz hrefs
    have := C01_valid_cached env order t body [] hw hfin hb hsz (by omega) hrefs
    simpa using this
  have one : ∀ c b, encL c [t] = .ok b → enc c t = .ok b := fun c b hb => by
    obtain ⟨a, _, ha, hn, rfl⟩ := encL_cons_ok hb
    cases hn; rwa [List.append_nil]
  unfold encodeDist at h
  split at h
  · cases (by simpa using ‹order.isEmpty = true› : order = [])
    split at h <;> cases h
    exact ⟨[0], _, rfl, one _ _ ‹_›, by simp, key _ (one _ _ ‹_›) (by simp)⟩
  · split at h
    · cases h
    · split at h
      · cases h
      · split at h <;> cases h
        exact ⟨header order, _, rfl, one _ _ ‹_›, by omega, key _ (one _ _ ‹_›) (by omega)⟩

example : encodeDist [[97]] [.tuple [.atom [97], .int 1]] = .ok ([131, 68] ++ header [[97]] ++ [104, 2, 82, 0, 97, 1]) := by
  rfl

/-! The `sortedKeys` guard follows from the `BTreeMap` invariant of the INPUT term.
`sortedKeys` speaks about the keys as they come back from the wire.  A Rust `OwnedTerm::Map` is a `BTreeMap`: it hands its
entries out in strictly ascending key order (`mapsStrict t`: at every map node of `t`, pairwise, under `Term.cmp`) — a
statement about the term as it is, before any encoding.  The order does not see what the wire does to a term
(`C01_order_invariant_under_wire`), so the guard follows and the three guarded theorems hold for every well-formed term
whose maps are `BTreeMap`s. -/

/-- `Term.cmp (wire a) (wire b) = Term.cmp a b`: integer widths (`Integer` ↔ `BigInt`), `String` → `Binary`, `List([])` → `Nil`,
improper lists with a nil tail → proper lists and the re-insertion of map entries are all invisible to the order — all
terms of `i64` integers (`i64T`, a type invariant; implied by `wfT`) whose maps are `BTreeMap`s -/
theorem C01_order_invariant_under_wire (a b : Term) (ha : i64T a = true) (hb : i64T b = true)
    (sa : mapsStrict a = true) (sb : mapsStrict b = true) : Term.cmp (wire a) (wire b) = Term.cmp a b :=
  cmp_wire a b ha hb sa sb

example : Term.cmp (wire (.int 5000000000)) (wire (.str [104])) = Term.cmp (.int 5000000000) (.str [104]) :=
  C01_order_invariant_under_wire _ _ (by decide) (by decide) (by simp [mapsStrict]) (by simp [mapsStrict])

/-- without the map guard: the order ignores everything but the re-insertion, for ALL terms (`wire0`: the wire image
with map entries left where they are) -/
theorem C01_order_invariant_all_terms (a b : Term) : Term.cmp (wire0 a) (wire0 b) = Term.cmp a b := cmp_wire0 a b

/-- the guard of `C01_value_preserved` / `C01_reencode`, discharged: a well-formed term whose maps are `BTreeMap`s has
increasing keys after the wire -/
theorem C01_sorted_keys_from_btree (t : Term) (hw : wfT t = true) (hs : mapsStrict t = true) : sortedKeys t = true :=
  sortedKeys_of_mapsStrict t (i64T_of_wfT t hw) hs

/-- what comes back from the wire is a term whose maps are `BTreeMap`s again (so the statements can be iterated) -/
theorem C01_wire_keeps_btree (t : Term) (hw : wfT t = true) (hs : mapsStrict t = true) : mapsStrict (wire t) = true :=
  mapsStrict_wire t (i64T_of_wfT t hw) hs

/-- value preservation for every well-formed term whose maps are `BTreeMap`s (no guard on the wire keys) -/
theorem C01_value_preserved_btree (t : Term) (hw : wfT t = true) (hs : mapsStrict t = true) : den (wire t) = den t :=
  den_wire t hw (C01_sorted_keys_from_btree t hw hs)

example : den (wire ex2) = den ex2 := C01_value_preserved_btree ex2 (by decide) C01_ex2_btree

/-- the full cycle encode → decode (library decoder, any external behaviour) → the value is the original value -/
theorem C01_decoded_value_is_original (x : Ext) (t t' : Term) (bs : Bytes) (hw : wfT t = true)
    (hd : dep t ≤ MAX_NESTING_DEPTH) (hs : mapsStrict t = true) (he : encode t = .ok bs) (hdec : decode x bs = .ok t') :
    den t' = den t ∧ mapsStrict t' = true := by
  rw [C01_roundtrip x t bs hw hd he] at hdec
  cases hdec
  exact ⟨C01_value_preserved_btree t hw hs, C01_wire_keeps_btree t hw hs⟩

/-- re-encoding for every well-formed term whose maps are `BTreeMap`s -/
theorem C01_reencode_btree (t : Term) (bs : Bytes) (hw : wfT t = true) (hs : mapsStrict t = true)
    (hn : noEmptyImproper t = true) (he : encode t = .ok bs) : encode (wire t) = .ok bs :=
  C01_reencode t bs (C01_sorted_keys_from_btree t hw hs) hn he

example : ∃ bs, encode ex2 = .ok bs ∧ encode (wire ex2) = .ok bs :=
  ⟨_, rfl, C01_reencode_btree ex2 _ (by decide) C01_ex2_btree (by decide) rfl⟩

/-- the round trip for terms with node-local identifiers at any depth (owned decoder; the zero-copy decoder has no
LOCAL_EXT arm) -/
theorem C01_roundtrip_local (x : Ext) (t : Term) (bs : Bytes) (hw : wfX [] t) (hd : depX t ≤ MAX_NESTING_DEPTH)
    (he : encode t = .ok bs) : decode x bs = .ok (wire t) := decode_encode_local x t bs hw hd he

/-- it extends `C01_roundtrip`: every `wfT` term is a `wfX` term -/
theorem C01_local_wellformedness_extends (cache : List Bytes) (t : Term) (h : wfT t = true) : wfX cache t :=
  wfX_of_wfT cache t h

/-- a node-local pid as a map value inside a tuple -/
def ex3loc : Bytes := [1, 2, 3, 4, 5, 6, 7, 8, 88, 119, 1, 97, 0, 0, 0, 1, 0, 0, 0, 2, 0, 0, 0, 3]
def ex3 : Term := .tuple [.map [(.int 1, .pid { node := [97], id := 1, serial := 2, creation := 3, loc := some ex3loc })]]

example : wfX [] ex3 ∧ depX ex3 ≤ MAX_NESTING_DEPTH := by
  refine ⟨?_, by simp [ex3, depX, depXL, depXKV, idDep, locOf, dep, MAX_NESTING_DEPTH]⟩
  simp only [ex3, ex3loc, wfX, wfXL, wfXKV, locOk, locOf]
  refine ⟨by decide, ⟨by decide, ⟨by decide, ?_, trivial⟩⟩, trivial⟩
  exact ⟨[1, 2, 3, 4, 5, 6, 7, 8], [88, 119, 1, 97, 0, 0, 0, 1, 0, 0, 0, 2, 0, 0, 0, 3], rfl, rfl, by decide, rfl⟩

end Edp.Props.C01
