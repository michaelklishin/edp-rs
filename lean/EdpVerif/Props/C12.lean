import EdpVerif.Lemmas.CmpArmsRefine
import EdpVerif.Lemmas.DecSortedErl
/-
C12 — term comparison agrees with Erlang's standard term order.
Oracle: `Erl.cmp` on the denoted values (Spec/ErlOrder.lean); `Term.den` (Impl/Den.lean) is the denotation.

Main theorem `C12_agrees`: for all terms satisfying the guard, `Term.cmp a b = Erl.cmp (den a) (den b)`.
The guard (`WFe` and `mapsSorted`, both decidable) lists exactly what is excluded:
  * big integers with a high-order zero digit (`C12_not_agrees_nonminimal_big`: the code orders them by digit count);
  * NaN and the infinities (they are not Erlang values);
  * atom / node / module texts that are not valid UTF-8 (excluded by the Rust type `Atom { name: Arc<str> }`);
  * bit-strings the decoder does not produce (`bits` outside 1..8, non-zero unused bits, no bytes with `bits ≠ 8`);
  * map keys that contain a float with an integer value such as 1.0 (`C12_not_agrees_map_key_tie`: recorded finding
    KF-C12-map-key-exact — inside map keys Erlang orders the integer before the float of equal value, the library uses
    its general order; floats with a fractional part are allowed in keys, they tie with no integer);
  * maps whose entries are not stored in ascending key order (a `BTreeMap` always is).
-/
namespace Edp.Props.C12
open Edp Edp.Term

/-- small integers: the library's comparison is Erlang's on the denoted values -/
theorem C12_agrees_int (x y : Int) :
    Term.cmp (.int x) (.int y) = Erl.cmp (Term.den (.int x)) (Term.den (.int y)) :=
  cmp_agrees _ _ rfl rfl rfl rfl

/-- a small integer against an atom: number < atom on both sides -/
theorem C12_number_lt_atom (a : Bytes) (x : Int) :
    Term.cmp (.int x) (.atom a) = .lt ∧ Erl.cmp (Term.den (.int x)) (Term.den (.atom a)) = .lt := by
  simp [Term.cmp, Term.norm, Term.cmpN, Term.den, Erl.cmp, Erl.sortMaps, Erl.cmpX, Erl.rank]
  decide

/-- integers of either representation compare by value against floats exactly: no rounding on the spec side
(the spec's comparison is cross-multiplication of exact dyadic rationals) -/
theorem C12_spec_exact_int_float_witness :
    Erl.cmp (.int (2 ^ 53 + 1)) (.float 0x4340000000000000) = .gt ∧
    Erl.cmp (.int (2 ^ 53)) (.float 0x4340000000000000) = .eq := by decide

/-- numbers: all nine pairs of representations (small integer, big integer with minimal digits, finite float) compare
exactly as Erlang compares the denoted numbers -/
theorem C12_agrees_numbers (a b : Term) (ha : isNum a) (hb : isNum b) (oa : numOk a) (ob : numOk b)
    (fa : numFin a) (fb : numFin b) : Term.cmp a b = Erl.cmp (Term.den a) (Term.den b) :=
  agrees_numbers a b ha hb oa ob fa fb

example : isNum (.big true [0, 0, 0, 0, 0, 0, 0, 0, 1]) ∧ numOk (.big true [0, 0, 0, 0, 0, 0, 0, 0, 1]) ∧
    numFin (.float 0x4340000000000001) := by simp [isNum, numOk, numFin, minDigits, finiteBits, f64]

/-- the general theorem: on well-formed terms the library's order IS Erlang's term order of the denoted values -/
theorem C12_agrees (a b : Term) (wa : WFe a) (wb : WFe b) (sa : mapsSorted a) (sb : mapsSorted b) :
    Term.cmp a b = Erl.cmp (Term.den a) (Term.den b) := cmp_agrees a b wa wb sa sb

/-- the same for the two arm-by-arm models (Impl/CmpArms.lean: `impl Ord for OwnedTerm` and `impl Ord for BorrowedTerm`
function by function), which compute `Term.cmp` on every pair (Lemmas/CmpArmsRefine.lean, Lemmas/CmpArmsEq.lean) -/
theorem C12_agrees_arms (a b : Term) (wa : WFe a) (wb : WFe b) (sa : mapsSorted a) (sb : mapsSorted b) :
    Term.cmpOwned a b = Erl.cmp (Term.den a) (Term.den b) ∧ Term.cmpBorrowed a b = Erl.cmp (Term.den a) (Term.den b) := by
  rw [cmpBorrowed_eq_cmpOwned, cmpOwned_eq_cmp]
  exact ⟨cmp_agrees a b wa wb sa sb, cmp_agrees a b wa wb sa sb⟩

/-- non-vacuity: a nested term with every kind of child satisfies the guard (a map key may be a float with a
fractional part: 1.5) -/
example : WFe (.tuple [.atom [0xe6, 0x97, 0xa5], .big true [0, 1], .float 0x3FF8000000000000, .bits [0xff, 0x80] 1,
    .ilist [.int 1] (.bin [1]), .list [], .map [(.int 1, .float 0), (.float 0x3FF8000000000000, .nil), (.atom [97], .nil)],
    .pid ⟨[97, 64, 104], 1, 2, 3, none⟩]) = true ∧
  mapsSorted (.tuple [.map [(.int 1, .float 0), (.float 0x3FF8000000000000, .nil), (.atom [97], .nil)]]) = true := by
  constructor
  · simp [WFe, WFeL, WFeKV, validUtf8, utf8Decode, isCont, minDigits, finiteBits, f64, bitsOk, keysExact, Term.den,
      Value.noTie, fracF, F64.mant, F64.expo]
  · simp [mapsSorted, mapsSortedL, mapsSortedKV, adjSorted, Term.cmp, Term.norm, Term.cmpN, Term.rank, cmpIntFloat,
      natDigits_one]
    decide

/-- equality in the library's order is Erlang's `==` on the denoted values -/
theorem C12_equal_iff (a b : Term) (wa : WFe a) (wb : WFe b) (sa : mapsSorted a) (sb : mapsSorted b) :
    Term.cmp a b = .eq ↔ Erl.cmp (Term.den a) (Term.den b) = .eq := by
  rw [C12_agrees a b wa wb sa sb]

/-- atoms by code points (UTF-8 preserves code point order) -/
theorem C12_agrees_atoms (a b : Bytes) (ha : validUtf8 a) (hb : validUtf8 b) :
    Term.cmp (.atom a) (.atom b) = Erl.cmp (Term.den (.atom a)) (Term.den (.atom b)) :=
  C12_agrees _ _ ha hb rfl rfl

example : validUtf8 [0xf0, 0x90, 0x80, 0x80] = true ∧ validUtf8 [0xc3, 0xa9] = true := by
  simp [validUtf8, utf8Decode, isCont]

/-- pids, ports, references, external funs: by the identifying fields, node names by code points -/
theorem C12_agrees_pids (p q : PidF) (hp : validUtf8 p.node) (hq : validUtf8 q.node) :
    Term.cmp (.pid p) (.pid q) = Erl.cmp (Term.den (.pid p)) (Term.den (.pid q)) :=
  C12_agrees _ _ hp hq rfl rfl

theorem C12_agrees_ports (n : Bytes) (i c : Nat) (l : Option Bytes) (n2 : Bytes) (i2 c2 : Nat) (l2 : Option Bytes)
    (hn : validUtf8 n) (hn2 : validUtf8 n2) :
    Term.cmp (.port n i c l) (.port n2 i2 c2 l2) = Erl.cmp (Term.den (.port n i c l)) (Term.den (.port n2 i2 c2 l2)) :=
  C12_agrees _ _ hn hn2 rfl rfl

theorem C12_agrees_refs (n : Bytes) (c : Nat) (ids : List Nat) (l : Option Bytes) (n2 : Bytes) (c2 : Nat) (ids2 : List Nat)
    (l2 : Option Bytes) (hn : validUtf8 n) (hn2 : validUtf8 n2) :
    Term.cmp (.ref n c ids l) (.ref n2 c2 ids2 l2) = Erl.cmp (Term.den (.ref n c ids l)) (Term.den (.ref n2 c2 ids2 l2)) :=
  C12_agrees _ _ hn hn2 rfl rfl

/-- tuples: by size, then element-wise -/
theorem C12_agrees_tuples (x y : List Term) (wx : WFeL x) (wy : WFeL y) (sx : mapsSortedL x) (sy : mapsSortedL y) :
    Term.cmp (.tuple x) (.tuple y) = Erl.cmp (Term.den (.tuple x)) (Term.den (.tuple y)) :=
  C12_agrees _ _ wx wy sx sy

/-- lists in any of the three representations (nil, proper, improper with a tail that may itself be a list):
element-wise, then the tails -/
theorem C12_agrees_lists (a b : Term) (_ha : isListLike a) (_hb : isListLike b) (wa : WFe a) (wb : WFe b)
    (sa : mapsSorted a) (sb : mapsSorted b) : Term.cmp a b = Erl.cmp (Term.den a) (Term.den b) :=
  C12_agrees a b wa wb sa sb

example : isListLike (.ilist [.int 1] (.ilist [] (.list [.int 2]))) = true ∧
    WFe (.ilist [.int 1] (.ilist [] (.list [.int 2]))) = true := by simp [isListLike, WFe, WFeL]

/-- binaries, strings and bit-strings: bit-wise, a prefix being smaller -/
theorem C12_agrees_bitstrings (x y : Bytes) (n m : Nat) (hx : bitsOk x n) (hy : bitsOk y m) :
    Term.cmp (.bits x n) (.bits y m) = Erl.cmp (Term.den (.bits x n)) (Term.den (.bits y m)) :=
  C12_agrees _ _ hx hy rfl rfl

theorem C12_agrees_binary_bitstring (x y : Bytes) (m : Nat) (hy : bitsOk y m) :
    Term.cmp (.bin x) (.bits y m) = Erl.cmp (Term.den (.bin x)) (Term.den (.bits y m)) :=
  C12_agrees _ _ rfl hy rfl rfl

example : bitsOk [0xff, 0x80] 1 = true ∧ bitsOk [] 8 = true ∧ bitsOk [0xfe] 7 = true := by simp [bitsOk]

/-- the recorded finding as a theorem: with an integer/float tie between map keys the library's order is NOT
Erlang's (`#{1 => []}` against `#{1.0 => []}`: Equal for the library, Less for Erlang) — hence the guard on keys -/
theorem C12_not_agrees_map_key_tie :
    Term.cmp (.map [(.int 1, .nil)]) (.map [(.float 0x3FF0000000000000, .nil)]) = .eq ∧
    Erl.cmp (Term.den (.map [(.int 1, .nil)])) (Term.den (.map [(.float 0x3FF0000000000000, .nil)])) = .lt := by
  constructor
  · simp [Term.cmp, Term.norm, Term.normKV, Term.cmpN, Term.cmpKeys, Term.cmpVals, cmpIntFloat, natDigits_one]; decide
  · decide

/-- the minimal-digits guard is needed: a big integer with a high-order zero digit (the decoder keeps the digits of
`131,110,2,0,1,0` as they are) denotes 1 but compares Greater than the integer 1 — the code compares digit counts -/
theorem C12_not_agrees_nonminimal_big :
    Term.cmp (.big false [1, 0]) (.int 1) = .gt ∧
    Erl.cmp (Term.den (.big false [1, 0])) (Term.den (.int 1)) = .eq := by
  constructor
  · simp [Term.cmp, Term.norm, Term.cmpN, cmpIntBig, natDigits_one, cmpSignedMag, signum, allZero, cmpMag, thenO]; decide
  · decide

/-- the type-rank tables regenerated from `term_type_order` (term.rs) and `borrowed_type_order` (borrowed.rs) are the
order the property states (number < atom < reference < fun < port < pid < tuple < map < nil/list < bit-string), and they are
the `rank` of the model, for every constructor -/
theorem C12_rank_table_is_the_source (t : Term) :
    Gen.C11_OWNED_RANKS = erlangRanks ∧ Gen.C11_BORROWED_RANKS = erlangRanks ∧
    Gen.C11_OWNED_RANKS.lookup (variantName t) = some (Term.rank t) := by
  exact ⟨rfl, rfl, rank_eq_rankO t ▸ (rank_tables t).1⟩

/-! The `mapsSorted` guard is an invariant of construction, not an assumption.  `OwnedTerm::Map` holds a `BTreeMap`: every map
the library can hold has been built by insertions (decoder, `From` conversions, `collect`, `MapBuilder`) and possibly
removals, all under the library's own order.  Under C11's laws such a map stores its keys strictly ascending. -/

/-- a map built by any sequence of insertions from entries whose keys have minimal big-integer digits (and whose own
maps are in key order) satisfies `mapsSorted` -/
theorem C12_built_map_sorted (l : List (Term × Term)) (hk : ∀ p ∈ l, WFo p.1)
    (hs : ∀ p ∈ l, mapsSorted p.1 = true ∧ mapsSorted p.2 = true) : mapsSorted (.map (mapBuild l)) = true :=
  mapsSorted_mapBuild l hk hs

/-- the agreement theorem without the `mapsSorted` guard, for maps built by insertions (entry lists in ANY order, with
duplicates): the library's order of the two built maps is Erlang's order of the maps they denote -/
theorem C12_agrees_built_maps (la lb : List (Term × Term))
    (wa : WFe (.map (mapBuild la))) (wb : WFe (.map (mapBuild lb)))
    (ka : ∀ p ∈ la, WFo p.1) (kb : ∀ p ∈ lb, WFo p.1)
    (sa : ∀ p ∈ la, mapsSorted p.1 = true ∧ mapsSorted p.2 = true)
    (sb : ∀ p ∈ lb, mapsSorted p.1 = true ∧ mapsSorted p.2 = true) :
    Term.cmp (.map (mapBuild la)) (.map (mapBuild lb)) =
      Erl.cmp (Term.den (.map (mapBuild la))) (Term.den (.map (mapBuild lb))) :=
  C12_agrees _ _ wa wb (mapsSorted_mapBuild la ka sa) (mapsSorted_mapBuild lb kb sb)

/-- non-vacuity: entries given out of order and with a duplicate key -/
example : (∀ p ∈ [((.atom [98] : Term), (.int 1 : Term)), (.atom [97], .int 2), (.atom [98], .int 3)], WFo p.1 = true) ∧
    (∀ p ∈ [((.atom [98] : Term), (.int 1 : Term)), (.atom [97], .int 2), (.atom [98], .int 3)],
      mapsSorted p.1 = true ∧ mapsSorted p.2 = true) := by
  simp [WFo, mapsSorted]

/-- removing entries keeps a map in key order -/
theorem C12_sorted_after_removal (m m' : List (Term × Term)) (h : m'.Sublist m) (hs : keysSorted m) :
    adjSorted m' = true := adjSorted_of_keysSorted m' (keysSorted_sublist h hs)

/-! The guard holds of everything the decoder returns.  The decoder fills every map by `BTreeMap::insert` (`mapInsert` in
the model).  `dec_btInv` (Lemmas/DecSorted.lean, an instance of the induction over the decoder model `dec_parsed`,
Lemmas/DecSuffix.lean: every tag, any cache, fuel, depth, behaviour of the external calls) shows that every map node of a
decoded term whose keys carry minimal big integers has its keys pairwise strictly ascending; `WFe` asks minimal digits
anyway, so for decoded terms the `mapsSorted` guard of `C12_agrees` is discharged. -/

/-- every term the decoder model returns (entered at any depth, with any cache) whose big integers have minimal digits
stores every map in ascending key order -/
theorem C12_decoded_maps_sorted (x : Ext) (cfg : DecCfg) (fuel d : Nat) (bs : Bytes) (t : Term) (r : Bytes)
    (h : dec x cfg fuel d bs = .ok (t, r)) (hw : WFo t = true) : mapsSorted t = true :=
  mapsSorted_of_mapsStrict t (dec_mapsStrict x cfg fuel d bs t r h (mapKeysMin_of_WFo t hw))

/-- the agreement theorem WITHOUT the `mapsSorted` guard for what `decode` / `decode_borrowed` / `decode_with_atom_cache`
return (`decodeWith` under any configuration): the library's order of two decoded terms is Erlang's order of the values -/
theorem C12_agrees_decoded (x y : Ext) (ca cb : DecCfg) (ba bb : Bytes) (a b : Term)
    (ha : decodeWith x ca ba = .ok a) (hb : decodeWith y cb bb = .ok b) (wa : WFe a) (wb : WFe b) :
    Term.cmp a b = Erl.cmp (Term.den a) (Term.den b) :=
  C12_agrees a b wa wb
    (mapsSorted_of_mapsStrict a (mapsStrict_of_btInv a (decodeWith_btInv x ca ba a ha) (mapKeysMin_of_WFo a (WFo_of_WFe a wa))))
    (mapsSorted_of_mapsStrict b (mapsStrict_of_btInv b (decodeWith_btInv y cb bb b hb) (mapKeysMin_of_WFo b (WFo_of_WFe b wb))))

/-- non-vacuity: a map sent with its keys out of order (2 before 1) is decoded into key order, and the result
satisfies the hypotheses of `C12_agrees_decoded` -/
example : decodeWith Ext.none {} [131, 116, 0, 0, 0, 2, 97, 2, 97, 7, 97, 1, 97, 8] =
      .ok (.map [(.int 1, .int 8), (.int 2, .int 7)]) ∧
    WFe (.map [(.int 1, .int 8), (.int 2, .int 7)]) = true := by
  constructor
  · simp [decodeWith, dec, decKV, rdU, rdN, ownedOnlyTags, MAX_NESTING_DEPTH, MAX_MAP_SIZE, Ext.none, mapInsert,
      Term.cmp, Term.norm, Term.cmpN]
    have : compare (1 : Int) 2 = .lt := by decide
    simp [this]
  · simp [WFe, WFeKV, keysExact, Value.noTie, Term.den]

end Edp.Props.C12
