import EdpVerif.Generated.MiscC11
import EdpVerif.Lemmas.CmpSwap
import EdpVerif.Lemmas.OrderTrans
import EdpVerif.Lemmas.SortedInsert
import EdpVerif.Lemmas.EqCmp
import EdpVerif.Lemmas.CmpArmsEq
import EdpVerif.Lemmas.CmpArmsRefine
import EdpVerif.Lemmas.CmpTables
import EdpVerif.Lemmas.SortMap
import EdpVerif.Lemmas.EqvEquiv
/-
C11 — term comparison is a lawful total preorder consistent with equality and hashing.
`Term.cmp` (Impl/Cmp.lean) is the function the laws are proved about.  The two `Ord` impls, of `OwnedTerm` and of
`BorrowedTerm`, have each an arm-by-arm model of their own, `Term.cmpO` / `Term.cmpB` (Impl/CmpArms.lean), each tied to its
impl by the harness; that both compute `Term.cmp` is proved here (`C11_owned_arms_refine`, `C11_borrowed_arms_refine`).
`Term.eqv` models the derived `PartialEq`, `Term.hashBytes` the byte stream `Hash::hash` writes (Impl/EqHash.lean, both
tied by the harness).

Guard `WFo`: every big integer in the term has minimal digits (no high-order zero digit).  The code compares two
big integers by digit COUNT first (`compare_magnitudes`) but a big integer with a float by VALUE, and the decoder
keeps the digits of SMALL_BIG_EXT/LARGE_BIG_EXT as they arrive, so without the guard the order is not
transitive (`C11_not_transitive_nonminimal_big`).  Nothing else is assumed: NaN, infinities, -0.0, invalid UTF-8,
unsorted maps, arbitrary `bits` fields are all covered.
-/
namespace Edp.Props.C11
open Edp Edp.Term

/-- comparing a with b is the reverse of comparing b with a — for every pair of terms, well-formed or not -/
theorem C11_swap (a b : Term) : Term.cmp a b = (Term.cmp b a).swap := cmp_swap a b

theorem C11_eq_symm (a b : Term) : Term.cmp a b = .eq ↔ Term.cmp b a = .eq := by
  rw [C11_swap a b]; cases Term.cmp b a <;> simp

theorem C11_lt_iff_gt (a b : Term) : Term.cmp a b = .lt ↔ Term.cmp b a = .gt := by
  rw [C11_swap a b]; cases Term.cmp b a <;> simp

/-- different type ranks decide the comparison (number < atom < reference < fun < port < pid < tuple < map < list < bit-string) -/
theorem C11_rank_decides (a b : Term) (h : (norm a).rank ≠ (norm b).rank) :
    Term.cmp a b = compare (norm a).rank (norm b).rank := by
  exact cmpN_of_rank_ne _ _ h

example : (norm (.int 1)).rank ≠ (norm (.atom [97])).rank := by decide

/-- reflexive, for every term (a NaN float compares Equal to itself) -/
theorem C11_refl (a : Term) : Term.cmp a a = .eq := cmp_refl a

/-- transitive: `a ≤ b` and `b ≤ c` give `a ≤ c`, for all terms whose big integers have minimal digits -/
theorem C11_trans (a b c : Term) (ha : WFo a) (hb : WFo b) (hc : WFo c)
    (h1 : Term.cmp a b ≠ .gt) (h2 : Term.cmp b c ≠ .gt) : Term.cmp a c ≠ .gt :=
  cmp_trans_le ha hb hc h1 h2

theorem C11_trans_lt (a b c : Term) (ha : WFo a) (hb : WFo b) (hc : WFo c)
    (h1 : Term.cmp a b = .lt) (h2 : Term.cmp b c = .lt) : Term.cmp a c = .lt := cmp_trans_lt_lt ha hb hc h1 h2
theorem C11_trans_lt_eq (a b c : Term) (ha : WFo a) (hb : WFo b) (hc : WFo c)
    (h1 : Term.cmp a b = .lt) (h2 : Term.cmp b c = .eq) : Term.cmp a c = .lt := cmp_trans_lt_eq ha hb hc h1 h2
theorem C11_trans_eq_lt (a b c : Term) (ha : WFo a) (hb : WFo b) (hc : WFo c)
    (h1 : Term.cmp a b = .eq) (h2 : Term.cmp b c = .lt) : Term.cmp a c = .lt := cmp_trans_eq_lt ha hb hc h1 h2
theorem C11_trans_eq (a b c : Term) (ha : WFo a) (hb : WFo b) (hc : WFo c)
    (h1 : Term.cmp a b = .eq) (h2 : Term.cmp b c = .eq) : Term.cmp a c = .eq := cmp_trans_eq_eq ha hb hc h1 h2

/-- non-vacuity: nested terms with NaN, infinity, a big integer, an improper list and a map satisfy the guard -/
example : WFo (.tuple [.float 0x7FF8000000000000, .float 0x7FF0000000000000, .big true [0, 1],
    .ilist [.int 1] (.list [.int 2]), .map [(.float 0x3FF0000000000000, .nil), (.int 1, .atom [255])]]) = true := by
  simp [WFo, WFoL, WFoKV, minDigits]
example : Term.cmp (.int 1) (.big false [0, 1]) ≠ .gt ∧ Term.cmp (.big false [0, 1]) (.atom []) ≠ .gt := by
  constructor <;> simp [Term.cmp, norm, cmpN, rank, cmpIntBig, natDigits_one] <;> decide

/-- terms that compare Equal compare alike with every third term (the order is a congruence for its equivalence) -/
theorem C11_eq_congr (a b c : Term) (ha : WFo a) (hb : WFo b) (hc : WFo c) (h : Term.cmp a b = .eq) :
    Term.cmp a c = Term.cmp b c := by
  cases h2 : Term.cmp b c with
  | lt => exact cmp_trans_eq_lt ha hb hc h h2
  | eq => exact cmp_trans_eq_eq ha hb hc h h2
  | gt =>
    have h3 : Term.cmp c b = .lt := (C11_lt_iff_gt c b).mpr h2
    have h4 : Term.cmp b a = .eq := (C11_eq_symm a b).mp h
    exact (C11_lt_iff_gt c a).mp (cmp_trans_lt_eq hc hb ha h3 h4)

example : Term.cmp (.int 1) (.float 0x3FF0000000000000) = .eq := by
  simp [Term.cmp, norm, cmpN, cmpIntFloat, natDigits_one]; decide

/-- a lawful total preorder: reflexive, total and antisymmetric up to `Equal` (swap), transitive -/
theorem C11_total_preorder :
    (∀ a : Term, Term.cmp a a = .eq) ∧
    (∀ a b : Term, Term.cmp a b = (Term.cmp b a).swap) ∧
    (∀ a b c : Term, WFo a → WFo b → WFo c → Term.cmp a b ≠ .gt → Term.cmp b c ≠ .gt → Term.cmp a c ≠ .gt) ∧
    (∀ a b c : Term, WFo a → WFo b → WFo c → Term.cmp a b = .eq → Term.cmp a c = Term.cmp b c) :=
  ⟨C11_refl, C11_swap, fun a b c ha hb hc => C11_trans a b c ha hb hc, fun a b c ha hb hc => C11_eq_congr a b c ha hb hc⟩

/-- the guard is needed: with a high-order zero digit (accepted by the decoder: `131,110,2,0,1,0`) the value 1 compares
Equal to the float 1.0, which compares Equal to the minimal big integer 1, yet the two big integers are ordered by their
digit counts — the code's order is not transitive on such terms -/
theorem C11_not_transitive_nonminimal_big :
    Term.cmp (.big false [1, 0]) (.float 0x3FF0000000000000) = .eq ∧
    Term.cmp (.float 0x3FF0000000000000) (.big false [1]) = .eq ∧
    Term.cmp (.big false [1, 0]) (.big false [1]) = .gt := by
  refine ⟨?_, ?_, ?_⟩
  · simp [Term.cmp, norm, cmpN]; decide
  · simp [Term.cmp, norm, cmpN]; decide
  · simp [Term.cmp, norm, cmpN, cmpSignedMag, signum, allZero, cmpMag, thenO]; decide

/-- `a == b` (derived `PartialEq`) implies `cmp a b = Equal`, for all terms -/
theorem C11_eq_cmp (a b : Term) (h : Term.eqv a b) : Term.cmp a b = .eq := cmp_of_eqv a b h

example : Term.eqv (.tuple [.float 0, .pid ⟨[97], 1, 2, 3, some [9]⟩]) (.tuple [.float 0x8000000000000000, .pid ⟨[97], 1, 2, 3, none⟩]) = true := by
  simp [Term.eqv, Term.eqvL, floatEq, pidEq, f64, F64.isNaN, F64.isZero]

/-- the converse does not hold (and the property does not ask for it): `1` and `1.0` compare Equal but are not `==`;
neither are a NaN and itself -/
theorem C11_cmp_eq_not_eqv :
    Term.cmp (.int 1) (.float 0x3FF0000000000000) = .eq ∧ Term.eqv (.int 1) (.float 0x3FF0000000000000) = false ∧
    Term.cmp (.float 0x7FF8000000000000) (.float 0x7FF8000000000000) = .eq ∧
    Term.eqv (.float 0x7FF8000000000000) (.float 0x7FF8000000000000) = false := by
  refine ⟨?_, ?_, cmp_refl _, ?_⟩
  · simp [Term.cmp, norm, cmpN, cmpIntFloat, natDigits_one]; decide
  · simp [Term.eqv]
  · simp [Term.eqv, floatEq, f64, F64.isNaN]

/-- `a == b` implies equal hashes: the two terms feed the hasher the same byte stream -/
theorem C11_eq_hash (a b : Term) (h : Term.eqv a b) : Term.hashBytes a = Term.hashBytes b := hashBytes_of_eqv a b h

/-- ordered insertion (the model of `BTreeMap::insert` under this order) into strictly sorted keys: the keys stay strictly
sorted (so no two stored keys compare Equal: no duplicates), no stored key is lost, the inserted key is found with the
new value, and nothing else appears -/
theorem C11_sorted_insert_sound (m : List (Term × Term)) (k v : Term) (hk : WFo k) (hm : ∀ p ∈ m, WFo p.1)
    (hs : keysSorted m) :
    keysSorted (mapInsert m k v) ∧
    (∀ p ∈ m, ∃ q ∈ mapInsert m k v, q.1 = p.1) ∧
    (∃ q ∈ mapInsert m k v, Term.cmp k q.1 = .eq ∧ q.2 = v) ∧
    (∀ q ∈ mapInsert m k v, q ∈ m ∨ (Term.cmp k q.1 = .eq ∧ q.2 = v)) :=
  ⟨mapInsert_sorted m k v hk hm hs, mapInsert_keeps m k v, mapInsert_finds m k v, mapInsert_mem m k v⟩

example : keysSorted [(.int 1, .nil), (.atom [97], .nil)] := by
  simp [keysSorted, Term.cmp, norm, cmpN, rank]; decide

/-- strictly sorted keys hold no duplicates: two different positions never compare Equal -/
theorem C11_sorted_no_duplicates (m : List (Term × Term)) (hs : keysSorted m) :
    m.Pairwise (fun p q => Term.cmp p.1 q.1 ≠ .eq) :=
  List.Pairwise.imp (fun h => by rw [h]; simp) hs

/-- a collection built by inserting any sequence of entries is strictly sorted and contains a key Equal to every
inserted key -/
theorem C11_sorted_build (l : List (Term × Term)) (hl : ∀ p ∈ l, WFo p.1) :
    keysSorted (l.foldl (fun m kv => mapInsert m kv.1 kv.2) []) ∧
    ∀ p ∈ l, ∃ q ∈ l.foldl (fun m kv => mapInsert m kv.1 kv.2) [], Term.cmp p.1 q.1 = .eq := by
  have H := foldr_mapInsert_finds l.reverse
  rw [List.foldr_reverse] at H
  exact ⟨(foldl_mapInsert_sorted (fun kv : Term × Term => kv.1) (·.2) l [] hl (by simp) .nil).1, fun p hp => H p (List.mem_reverse.mpr hp)⟩

/-! `cmpO` / `cmpB` (Impl/CmpArms.lean) are two separately written arm-by-arm models: of `impl Ord for OwnedTerm` with the helpers
of term.rs and of `impl Ord for BorrowedTerm` with the copies in borrowed.rs (its own type-rank table, cons-cell walk,
`compare_list_terms`, bit-string parts; no `discriminant` fast path; free variables of funs compared as owned terms). Each is
tied to its own implementation on every pair of the universe (driver command `c11all`, Drv/C11.lean; harness/src/c11.rs). -/

/-- for every pair of terms and every amount of fuel the zero-copy comparison returns what the owned comparison returns -/
theorem C11_borrowed_eq_owned (f : Nat) (a b : Term) : Term.cmpB f a b = Term.cmpO f a b := cmpB_eq_cmpO f a b

/-- with the fuel the driver uses -/
theorem C11_borrowed_eq_owned_run (a b : Term) : Term.cmpBorrowed a b = Term.cmpOwned a b := cmpBorrowed_eq_cmpOwned a b

/-- the arm-by-arm model of `impl Ord for OwnedTerm` (fast path, rank comparison, arms in source order, lazily walked
cons cells, loops) computes `Term.cmp`, the function the laws above are proved about — for every pair of terms -/
theorem C11_owned_arms_refine (a b : Term) : Term.cmpOwned a b = Term.cmp a b := cmpOwned_eq_cmp a b

/-- and so does the arm-by-arm model of `impl Ord for BorrowedTerm` -/
theorem C11_borrowed_arms_refine (a b : Term) : Term.cmpBorrowed a b = Term.cmp a b := by
  rw [cmpBorrowed_eq_cmpOwned, cmpOwned_eq_cmp]

/-- hence the zero-copy comparison is itself a lawful total preorder (reflexive, antisymmetric up to Equal, transitive on
terms whose big integers have minimal digits) -/
theorem C11_borrowed_total_preorder :
    (∀ a : Term, Term.cmpBorrowed a a = .eq) ∧
    (∀ a b : Term, Term.cmpBorrowed a b = (Term.cmpBorrowed b a).swap) ∧
    (∀ a b c : Term, WFo a → WFo b → WFo c → Term.cmpBorrowed a b ≠ .gt → Term.cmpBorrowed b c ≠ .gt →
      Term.cmpBorrowed a c ≠ .gt) := by
  simp only [C11_borrowed_arms_refine]
  exact ⟨C11_refl, C11_swap, fun a b c ha hb hc => C11_trans a b c ha hb hc⟩

/-- non-vacuity: the two models do compute (improper list whose tail is a list against a proper list; the fast path;
an improper list without elements is its tail) -/
example : Term.cmpOwned (.ilist [.int 1] (.list [.int 2])) (.list [.int 1, .int 2]) = .eq ∧
    Term.cmpBorrowed (.ilist [.int 1] (.int 2)) (.list [.int 1, .int 2]) = .lt ∧
    Term.cmpOwned (.atom [97]) (.atom [98]) = .lt ∧
    Term.cmpBorrowed (.ilist [] (.int 5)) (.atom [97]) = .lt ∧ Term.cmpOwned (.ilist [] (.int 5)) (.int 5) = .eq := by
  decide

/-- the type-rank functions of both models are the tables regenerated from `term_type_order` (term.rs) and
`borrowed_type_order` (borrowed.rs), for every constructor -/
theorem C11_rank_tables_are_the_source (t : Term) :
    Gen.C11_OWNED_RANKS.lookup (variantName t) = some (Term.rankO t) ∧
    Gen.C11_BORROWED_RANKS.lookup (variantName t) = some (Term.rankB t) ∧
    Term.rank t = Term.rankO t := by
  exact ⟨(rank_tables t).1, (rank_tables t).2, rank_eq_rankO t⟩

/-- both regenerated rank tables are Erlang's type order as the property states it, and both `LIST_TYPE_ORDER` constants
are the rank of lists -/
theorem C11_rank_tables_are_erlangs :
    Gen.C11_OWNED_RANKS = erlangRanks ∧ Gen.C11_BORROWED_RANKS = erlangRanks ∧
    Gen.C11_LIST_TYPE_ORDER_OWNED = Term.listTypeOrderO ∧ Gen.C11_LIST_TYPE_ORDER_BORROWED = Term.listTypeOrderB ∧
    Gen.C11_BORROWED_VARIANTS = Gen.C11_OWNED_VARIANTS ∧ Gen.C11_OWNED_VARIANTS.length = 17 := by
  refine ⟨rfl, rfl, rfl, rfl, rfl, rfl⟩

/-- the arm tables of both `Ord` impls, regenerated from the source (variant pair → what the arm evaluates, type names
removed), are the arms the models transcribe, and they are the same table for both types; the zero-copy type has no fast
path; the helpers that exist once per type (`ListCells::new/next`, `compare_list_terms`, `without_empty_cells`,
`bitstring_parts`, `compare_term_lists`) are the same text up to the type names -/
theorem C11_arm_tables_are_the_source :
    Gen.C11_OWNED_ARMS = modelArms ∧ Gen.C11_BORROWED_ARMS = modelArms ∧
    Gen.C11_OWNED_CATCHALL = modelCatchAll ∧ Gen.C11_BORROWED_CATCHALL = modelCatchAll ∧
    Gen.C11_OWNED_FAST_ARMS = modelFastArms ∧ Gen.C11_BORROWED_FAST_ARMS = [] ∧
    Gen.C11_DUPLICATED_HELPERS_SAME.all (·.2) = true ∧ Gen.C11_DUPLICATED_HELPERS_SAME.length = 6 := by
  refine ⟨rfl, rfl, rfl, rfl, rfl, rfl, by decide, by decide⟩

set_option maxRecDepth 8000 in
/-- all 17 × 17 variant pairs: a pair of equal rank that no arm names reaches the catch-all only when both sides are
list-like (rank 8, `compare_list_terms`) or both are bit-strings (rank 9, `bitstring_parts`) — no other pair can fall into a
catch-all; identically for both types; and every fast-path arm returns what the main arm of the same pair evaluates -/
theorem C11_arm_tables_cover_all_pairs :
    (∀ a ∈ Gen.C11_OWNED_VARIANTS, ∀ b ∈ Gen.C11_OWNED_VARIANTS,
      rankOfName Gen.C11_OWNED_RANKS a = rankOfName Gen.C11_OWNED_RANKS b → armOf Gen.C11_OWNED_ARMS a b = none →
      (rankOfName Gen.C11_OWNED_RANKS a = 8 ∨ rankOfName Gen.C11_OWNED_RANKS a = 9)) ∧
    (∀ a ∈ Gen.C11_OWNED_VARIANTS, ∀ b ∈ Gen.C11_OWNED_VARIANTS,
      armOf Gen.C11_BORROWED_ARMS a b = armOf Gen.C11_OWNED_ARMS a b ∧
      rankOfName Gen.C11_BORROWED_RANKS a = rankOfName Gen.C11_OWNED_RANKS a) ∧
    (∀ e ∈ Gen.C11_OWNED_FAST_ARMS, armOf Gen.C11_OWNED_ARMS e.1 e.2.1 = some e.2.2) := by
  refine ⟨by decide, fun a _ b _ => ⟨rfl, rfl⟩, by decide⟩

/-- `PartialEq` of both term types is derived (all fields of every variant), `Hash for OwnedTerm` is hand-written and hashes,
per variant, exactly what `Term.hashBytes` writes; the identifier structs compare, hash and order the same fields, namely all
but `local_ext_bytes`; an internal fun hashes all its fields; `Atom`, `BigInt`, `ExternalFun` derive both `PartialEq` and `Hash` -/
theorem C11_eq_hash_fields_are_the_source :
    "PartialEq" ∈ Gen.C11_OWNED_DERIVES ∧ "PartialEq" ∈ Gen.C11_BORROWED_DERIVES ∧ "Hash" ∉ Gen.C11_OWNED_DERIVES ∧
    Gen.C11_HASH_FIELDS = modelHashFields ∧
    (∀ v ∈ Gen.C11_OWNED_VARIANTS, (Gen.C11_HASH_FIELDS.lookup v).isSome) ∧
    Gen.C11_ID_HASH_FIELDS = Gen.C11_ID_EQ_FIELDS ∧ Gen.C11_ID_CMP_FIELDS = Gen.C11_ID_EQ_FIELDS ∧
    (∀ e ∈ Gen.C11_ID_EQ_FIELDS, (Gen.C11_STRUCT_FIELDS.lookup e.1).map (·.filter (· != "local_ext_bytes")) = some e.2) ∧
    (Gen.C11_HASH_FIELDS.lookup "InternalFun").map (·.map (fun s => if s == "each:var" then "free_vars" else (s.drop 2).toString)) =
      Gen.C11_STRUCT_FIELDS.lookup "InternalFun" ∧
    (∀ s ∈ ["Atom", "BigInt", "ExternalFun"], ∀ d ∈ ["PartialEq", "Hash"], ∃ ds, Gen.C11_STRUCT_DERIVES.lookup s = some ds ∧ d ∈ ds) := by
  refine ⟨by decide, by decide, by decide, rfl, by decide, rfl, rfl, by decide, by decide, by decide⟩

/-- `Hash` starts with the discriminant: the index of the variant in the regenerated declaration order, as 8 bytes -/
theorem C11_hash_discriminant (t : Term) :
    Gen.C11_OWNED_VARIANTS.idxOf (variantName t) = discr t ∧ (Term.hashBytes t).take 8 = hU64 (discr t) := by
  constructor
  · cases t <;> simp only [variantName, discr] <;> decide
  · cases t <;> simp only [Term.hashBytes, List.append_assoc, take_hU64, discr]
    exact take_hU64 16 []

/-- sorting (core Lean's stable merge sort run with the model order) neither loses nor duplicates an element (the result is
a permutation of the input) and misplaces none (every element is `<=` every later one), for all lists of terms whose big
integers have minimal digits -/
theorem C11_sort_sound (l : List WTerm) :
    (l.mergeSort leT).Perm l ∧ (l.mergeSort leT).Pairwise (fun a b => Term.cmp a.1 b.1 ≠ .gt) := by
  refine ⟨List.mergeSort_perm l leT, ?_⟩
  have h := List.pairwise_mergeSort (le := leT) leT_trans leT_total l
  exact List.Pairwise.imp (fun h => by simpa [leT] using h) h

example : ∃ l : List WTerm, l.length = 3 := ⟨[⟨.atom [97], rfl⟩, ⟨.tuple [.big true [0, 1]], rfl⟩, ⟨.float 0x7FF8000000000000, rfl⟩], rfl⟩

/-- the ordered map: after one insertion a lookup of any key Equal to the inserted key returns the new value, every other
lookup returns what it returned before -/
theorem C11_map_insert_lookup (m : List (Term × Term)) (k v k' : Term) (hk : WFo k) (hk' : WFo k') (hm : ∀ p ∈ m, WFo p.1) :
    mapGet (mapInsert m k v) k' = if Term.cmp k' k = .eq then some v else mapGet m k' :=
  mapGet_mapInsert m k v k' hk hk' hm

/-- after any sequence of insertions a lookup returns the LAST value written under a key that compares Equal to the
looked-up key (nothing if none was): no entry is lost, none shadowed by a stale one -/
theorem C11_map_lookup_is_last_write (l : List (Term × Term)) (k' : Term) (hl : ∀ p ∈ l, WFo p.1) (hk' : WFo k') :
    mapGet (l.foldl (fun m kv => mapInsert m kv.1 kv.2) []) k' =
      (l.reverse.find? (fun p => Term.cmp k' p.1 == .eq)).map (·.2) := mapGet_build l k' hl hk'

example : (∀ p ∈ [((.int 1 : Term), (.atom [97] : Term)), (.float 0x3FF0000000000000, .atom [98])], WFo p.1 = true) ∧
    WFo (.int 1) = true := by simp [WFo]

/-- removing entries from an ordered map keeps the keys strictly ascending -/
theorem C11_sorted_remove (m m' : List (Term × Term)) (h : m'.Sublist m) (hs : keysSorted m) : keysSorted m' :=
  keysSorted_sublist h hs

/-- `==` on terms is an equivalence relation: symmetric and transitive on all terms, reflexive on every term without a NaN
(a NaN is `!=` itself, `C11_cmp_eq_not_eqv`; the property speaks of finite floats) -/
theorem C11_eq_is_equivalence :
    (∀ a : Term, noNaN a = true → Term.eqv a a = true) ∧
    (∀ a b : Term, Term.eqv a b = true → Term.eqv b a = true) ∧
    (∀ a b c : Term, Term.eqv a b = true → Term.eqv b c = true → Term.eqv a c = true) :=
  ⟨eqv_refl, eqv_symm, eqv_trans⟩

example : noNaN (.tuple [.float 0x7FF0000000000000, .float 0x8000000000000000, .map [(.int 1, .list [.float 1])]]) = true := by
  simp [noNaN, noNaNL, noNaNKV, f64, F64.isNaN]

/-- a container that finds entries by hash first and `==` second (`HashMap`), for EVERY hash function of the byte stream
that `Hash::hash` writes: after an insertion every key `==` to the inserted one reads the new value (the hash comparison
never hides it, by `C11_eq_hash`), every other key reads what it read before; and a key without NaN finds itself -/
theorem C11_hashmap_insert_lookup (hf : Bytes → Nat) (m : List (Term × Term)) (k v k' : Term) :
    hmGet hf (hmInsert hf m k v) k' = (if Term.eqv k k' = true then some v else hmGet hf m k') ∧
    (noNaN k = true → hmGet hf (hmInsert hf m k v) k = some v) := by
  refine ⟨hmGet_hmInsert hf m k v k', fun hk => ?_⟩
  rw [hmGet_hmInsert, if_pos (eqv_refl k hk)]

end Edp.Props.C11
