import EdpVerif.Generated.MiscC04
import EdpVerif.Generated.MiscState
import EdpVerif.Lemmas.Handshake
import EdpVerif.Lemmas.Epmd
import EdpVerif.Lemmas.Connect
/-!
# C04 — handshake: connected only after cookie proof, in protocol order; failure is final; flags are the intersection; layouts

All statements are about `Impl.Handshake.step` / `run` (the model of state_machine.rs + handshake.rs + flags.rs, tied to
the code by the correspondence run) and quantify over EVERY sequence of API calls with arbitrary byte arguments, every
configuration (cookie, name, flags, creation) and every digest function `dg` (uninterpreted: nothing cryptographic is
claimed; in the driver `dg` is MD5 (cookie ++ decimal challenge)).

`Spec.Handshake.connStep` is the protocol automaton of the connecting side, written from the protocol; the model refines
it (`C04_refines_protocol`), and the shape of every call sequence that ends `connected` is spelled out without reference
to either (`C04_connected_only_in_order`, `C04_in_order_connects`).
-/
namespace Edp.Props.C04
open Edp
open Edp.Impl.Handshake
open Edp.Lemmas.Handshake
open Edp.Spec.Handshake (Op Phase Conn Side Resp connStep connRun connResps parseAck parseChallenge parseStatus parseReply)

/-- a configuration and digest used by the non-vacuity examples -/
def cfg0 : Cfg := { name := [110, 64, 104], cookie := [99, 107], flags := 0xd07df7fbd, creation := 7 }
def dg0 : Bytes → Nat → Bytes := fun ck c => List.replicate 15 0 ++ [UInt8.ofNat (ck.length + c)]
/-- a well-formed challenge message: flags 0xff, challenge 9, creation 3, name "p" -/
def chal0 : Bytes := [78, 0, 0, 0, 0, 0, 0, 0, 255, 0, 0, 0, 9, 0, 0, 0, 3, 0, 1, 112]
def ack0 (c : Nat) : Bytes := 97 :: dg0 cfg0.cookie c
def statusOk : Bytes := [115, 111, 107]
def statusNok : Bytes := [115, 110, 111, 107]
/-- the calls of `Connection::connect` with a conforming peer -/
def good0 : List Op := connectScript statusOk chal0 5 (ack0 5)

/-- THE central statement. Whatever calls were made, in whatever order and with whatever arguments: if the machine is
`connected`, then the call sequence since the last `disconnect` (`pre` is empty or ends with one; nothing after it is a
`disconnect`) contains `begin_connect`, then the first `prepare_send_name` after it (the name has at most 255 bytes), then
the first `handle_status` after that (an accepting status), then the first `handle_challenge` after that (a well-formed
challenge; `c` is the challenge this side generated in THAT call), then the first `prepare_challenge_reply` after that,
then the first `handle_challenge_ack` after that, whose digest is `dg cookie c` — and the negotiated capability set is
the intersection of that challenge's flags with this side's. (`prepare_complement` may occur in the gaps.) -/
theorem C04_connected_only_in_order (cfg : Cfg) (dg : Bytes → Nat → Bytes) (ops : List Op)
    (hc : (run cfg dg ops).state = .connected) :
    ∃ pre g0 g1 g2 sb g3 cb c g4 g5 ab post,
      ops = pre ++ g0 ++ Op.beginConnect :: g1 ++ Op.prepareSendName :: g2 ++ Op.handleStatus sb :: g3 ++
        Op.handleChallenge cb c :: g4 ++ Op.prepareChallengeReply :: g5 ++ Op.handleChallengeAck ab :: post ∧
      (pre = [] ∨ ∃ q, pre = q ++ [Op.disconnect]) ∧
      (∀ o ∈ g0, o.isBegin = false ∧ o.isDisconnect = false) ∧
      (∀ o ∈ g1, (o.isSendName || o.isDisconnect) = false) ∧
      (∀ o ∈ g2, (o.isStatus || o.isDisconnect) = false) ∧
      (∀ o ∈ g3, (o.isChallenge || o.isDisconnect) = false) ∧
      (∀ o ∈ g4, (o.isReply || o.isDisconnect) = false) ∧
      (∀ o ∈ g5, (o.isAck || o.isDisconnect) = false) ∧
      (∀ o ∈ post, o.isDisconnect = false) ∧
      cfg.name.length ≤ 255 ∧
      (∃ st, parseStatus sb = some st ∧ st.accepts = true) ∧
      (∃ m, parseChallenge cb = some m ∧ (run cfg dg ops).neg = some (m.flags &&& cfg.flags)) ∧
      parseAck ab = some (dg cfg.cookie c) := by
  rw [connected_iff, run_refines] at hc
  have h := established_decomp (sideOf cfg) dg ops hc
  rw [← run_refines] at h
  exact h

example : (run cfg0 dg0 good0).state = .connected := by decide

/-- and conversely: every call sequence of that shape ends `connected` (so the shape is exactly the set of successful
histories — neither a conforming peer nor out-of-order calls that were refused in between are locked out) -/
theorem C04_in_order_connects (cfg : Cfg) (dg : Bytes → Nat → Bytes) (pre g0 g1 g2 g3 : List Op) (sb cb : Bytes) (c : Nat)
    (g4 g5 : List Op) (ab : Bytes) (post : List Op)
    (hpre : pre = [] ∨ ∃ q, pre = q ++ [Op.disconnect])
    (hg0 : ∀ o ∈ g0, o.isBegin = false ∧ o.isDisconnect = false)
    (hg1 : ∀ o ∈ g1, (o.isSendName || o.isDisconnect) = false)
    (hg2 : ∀ o ∈ g2, (o.isStatus || o.isDisconnect) = false)
    (hg3 : ∀ o ∈ g3, (o.isChallenge || o.isDisconnect) = false)
    (hg4 : ∀ o ∈ g4, (o.isReply || o.isDisconnect) = false)
    (hg5 : ∀ o ∈ g5, (o.isAck || o.isDisconnect) = false)
    (hpost : ∀ o ∈ post, o.isDisconnect = false)
    (hname : cfg.name.length ≤ 255)
    (hst : ∃ st, parseStatus sb = some st ∧ st.accepts = true)
    (hm : ∃ m, parseChallenge cb = some m)
    (hack : parseAck ab = some (dg cfg.cookie c)) :
    (run cfg dg (pre ++ g0 ++ Op.beginConnect :: g1 ++ Op.prepareSendName :: g2 ++ Op.handleStatus sb :: g3 ++
      Op.handleChallenge cb c :: g4 ++ Op.prepareChallengeReply :: g5 ++ Op.handleChallengeAck ab :: post)).state
      = .connected := by
  rw [connected_iff, run_refines]
  exact established_of_shape (sideOf cfg) dg pre g0 g1 g2 g3 sb cb c g4 g5 ab post hpre hg0 hg1 hg2 hg3 hg4 hg5 hpost
    hname hst hm hack

/-- a short form of the central statement: there are indices `i < j`, `ops[i]` a well-formed
challenge message for which this side generated `c`, `ops[j]` the ack with `dg cookie c`, and no `disconnect` after `i` -/
theorem C04_connected_only_after_proof (cfg : Cfg) (dg : Bytes → Nat → Bytes) (ops : List Op)
    (hc : (run cfg dg ops).state = .connected) :
    ∃ p1 cb c mid ab post, ops = p1 ++ Op.handleChallenge cb c :: mid ++ Op.handleChallengeAck ab :: post ∧
      (parseChallenge cb).isSome = true ∧ parseAck ab = some (dg cfg.cookie c) ∧
      (∀ o ∈ mid, o.isDisconnect = false) ∧ (∀ o ∈ post, o.isDisconnect = false) := by
  obtain ⟨pre, g0, g1, g2, sb, g3, cb, c, g4, g5, ab, post, e, _, _, _, _, _, hg4, hg5, hpost, _, _, ⟨m, hm, _⟩, hack⟩ :=
    C04_connected_only_in_order cfg dg ops hc
  refine ⟨pre ++ g0 ++ Op.beginConnect :: g1 ++ Op.prepareSendName :: g2 ++ Op.handleStatus sb :: g3, cb, c,
    g4 ++ Op.prepareChallengeReply :: g5, ab, post, by simp [e], by simp [hm], hack, ?_, hpost⟩
  simp only [Bool.or_eq_false_iff] at hg4 hg5
  intro o ho
  rcases List.mem_append.mp ho with h | h
  · exact (hg4 o h).2
  · rcases List.mem_cons.mp h with rfl | h
    · rfl
    · exact (hg5 o h).2

/-- `disconnect` starts from scratch: whatever happened before it is forgotten — in particular a proof (ack) or a
challenge of an earlier handshake is of no use afterwards, a whole new handshake is needed (apply
`C04_connected_only_in_order` to `post`) -/
theorem C04_disconnect_resets (cfg : Cfg) (dg : Bytes → Nat → Bytes) (pre post : List Op) :
    run cfg dg (pre ++ Op.disconnect :: post) = run cfg dg post := by
  simp [run, runFrom_append, runFrom_cons, step, State.init]

example : (run cfg0 dg0 (good0 ++ [.disconnect, .handleChallengeAck (ack0 5)])).state = .disconnected := by decide

/-- over every call sequence: the machine's state stands for the phase the protocol automaton of the connecting side is
in (`abs`), its negotiated flags are the automaton's, and every call answers what the automaton answers — success,
the same bytes, or an error (never a panic) -/
theorem C04_refines_protocol (cfg : Cfg) (dg : Bytes → Nat → Bytes) (ops : List Op) :
    abs (run cfg dg ops) = connRun (sideOf cfg) dg Conn.empty ops ∧
    (outsFrom cfg dg State.init ops).map respOf = (connResps (sideOf cfg) dg Conn.empty ops).map some := by
  exact ⟨run_refines cfg dg ops, by rw [outs_refine, abs_init]⟩

example : connRun (sideOf cfg0) dg0 Conn.empty good0 = ⟨.established, some (255 &&& 0xd07df7fbd)⟩ := by decide

/-- once `Failed` (or left in `SendingName` by a refused name): every call but `disconnect` is an
`InvalidStateTransition` error and nothing changes — in particular `Connected` is out of reach until `disconnect` -/
theorem C04_failed_is_final (cfg : Cfg) (dg : Bytes → Nat → Bytes) (s : State)
    (hs : s.state = .failed ∨ s.state = .sendingName) (ops : List Op) (hnd : ∀ o ∈ ops, o ≠ Op.disconnect) :
    runFrom cfg dg s ops = s ∧ ∀ o ∈ outsFrom cfg dg s ops, o = Out.err .invalidTransition := by
  induction ops with
  | nil => exact ⟨rfl, by simp [outsFrom]⟩
  | cons op rest ih =>
    obtain ⟨hop, hrest⟩ := List.forall_mem_cons.mp hnd
    have h1 := step_dead cfg dg s hs op hop
    obtain ⟨ih1, ih2⟩ := ih hrest
    constructor
    · rw [runFrom_cons, h1]; exact ih1
    · simp only [outsFrom, h1]
      exact List.forall_mem_cons.mpr ⟨rfl, ih2⟩

example : (runFrom cfg0 dg0 ⟨.failed, some 5, some 9, none⟩ good0).state = .failed := by decide

/-- what a misbehaving peer (or an over-long local name) leads to: a call that fails with `ConnectionRefused`,
`InvalidHandshakeMessage` or `AuthenticationFailed` leaves the machine `Failed`; `NodeNameTooLong` leaves it in
`SendingName`; both are dead ends (`C04_failed_is_final`) -/
theorem C04_peer_error_latches (cfg : Cfg) (dg : Bytes → Nat → Bytes) (s : State) (op : Op) (e : Err)
    (h : (step cfg dg s op).2 = .err e) (he : e = .refused ∨ e = .malformed ∨ e = .auth ∨ e = .nameTooLong) :
    (e = .nameTooLong ∧ (step cfg dg s op).1.state = .sendingName) ∨
    (e ≠ .nameTooLong ∧ (step cfg dg s op).1.state = .failed) := by
  rw [step_err_state cfg dg s op e h]
  rcases he with rfl | rfl | rfl | rfl
  · exact .inr ⟨nofun, rfl⟩
  · exact .inr ⟨nofun, rfl⟩
  · exact .inr ⟨nofun, rfl⟩
  · exact .inl ⟨rfl, rfl⟩

/-- refusal status, malformed / truncated / ill-typed / out-of-order MESSAGE, wrong digest: once any call of a handshake
has returned such an error, no later call reaches `Connected` until `disconnect` -/
theorem C04_never_connected_after_error (cfg : Cfg) (dg : Bytes → Nat → Bytes) (pre : List Op) (op : Op) (post : List Op)
    (e : Err) (h : (step cfg dg (run cfg dg pre) op).2 = .err e)
    (he : e = .refused ∨ e = .malformed ∨ e = .auth ∨ e = .nameTooLong) (hnd : ∀ o ∈ post, o ≠ Op.disconnect) :
    (run cfg dg (pre ++ op :: post)).state ≠ .connected := by
  rw [show run cfg dg (pre ++ op :: post) = runFrom cfg dg (step cfg dg (run cfg dg pre) op).1 post by
    simp [run, runFrom_append, runFrom_cons]]
  rcases C04_peer_error_latches cfg dg _ op e h he with ⟨_, h2⟩ | ⟨_, h2⟩
  · rw [(C04_failed_is_final cfg dg _ (.inr h2) post hnd).1, h2]; nofun
  · rw [(C04_failed_is_final cfg dg _ (.inl h2) post hnd).1, h2]; nofun

example : (step cfg0 dg0 (run cfg0 dg0 [.beginConnect, .prepareSendName]) (.handleStatus statusNok)).2 = .err .refused := by
  decide
example : (run cfg0 dg0 ([.beginConnect, .prepareSendName, .handleStatus statusNok] ++ good0.drop 2)).state = .failed := by
  decide

/-- a call made in another state than the one the protocol puts it in (`needs`: begin_connect — Disconnected,
prepare_send_name — Connecting, handle_status — AwaitingStatus, prepare_complement and handle_challenge —
AwaitingChallenge, prepare_challenge_reply — SendingChallengeReply, handle_challenge_ack — AwaitingChallengeAck) returns
`InvalidStateTransition` and changes nothing, whatever its argument -/
theorem C04_out_of_order_rejected (cfg : Cfg) (dg : Bytes → Nat → Bytes) (s : State) (op : Op) (st : ConnState)
    (hn : needs op = some st) (hs : s.state ≠ st) : step cfg dg s op = (s, .err .invalidTransition) :=
  step_out_of_order cfg dg s op st hn hs

example : (run cfg0 dg0 [.handleChallenge chal0 5, .prepareChallengeReply, .handleChallengeAck (ack0 5)]).state
    = .disconnected := by decide

/-- the only call that takes the machine INTO `connected` is an ack, made while the ack is awaited, carrying
`dg cookie (the challenge this side issued)`, and it returns success (so no error result ever enters `connected`) -/
theorem C04_bad_input_never_connects (cfg : Cfg) (dg : Bytes → Nat → Bytes) (s : State) (op : Op)
    (hs : s.state ≠ .connected) (hc : (step cfg dg s op).1.state = .connected) :
    (step cfg dg s op).2 = .unit ∧ s.state = .awaitingChallengeAck ∧
    ∃ a c, op = .handleChallengeAck a ∧ s.our = some c ∧ parseAck a = some (dg cfg.cookie c) :=
  step_enter_connected cfg dg s op hs hc

example : (step cfg0 dg0 (run cfg0 dg0 (good0.take 6)) (.handleChallengeAck (ack0 5))).1.state = .connected := by decide

/-- while the ack is awaited: a malformed / truncated / wrong-tag / wrong-digest ack is an error and the machine is `Failed` -/
theorem C04_bad_ack_rejected (cfg : Cfg) (dg : Bytes → Nat → Bytes) (s : State) (a : Bytes) (c : Nat)
    (hs : s.state = .awaitingChallengeAck) (ho : s.our = some c) (hbad : parseAck a ≠ some (dg cfg.cookie c)) :
    (step cfg dg s (.handleChallengeAck a)).1 = { s with state := .failed } ∧
    (step cfg dg s (.handleChallengeAck a)).2.isErr = true := by
  rw [step_handleChallengeAck cfg dg s a hs, ho]
  cases hp : parseAck a with
  | none => exact ⟨rfl, rfl⟩
  | some d =>
    have : d ≠ dg cfg.cookie c := fun e => hbad (by rw [hp, e])
    simp [this, Out.isErr]

example : (step cfg0 dg0 (run cfg0 dg0 (good0.take 6)) (.handleChallengeAck (ack0 9))) =
    (⟨.failed, some 5, some 9, some (255 &&& 0xd07df7fbd)⟩, .err .auth) := by decide

/-- while the status is awaited: ok / ok_simultaneous — success and the challenge is awaited next; a refusal
(nok, not_allowed, alive), an unknown or malformed status — an error and the machine is `Failed` -/
theorem C04_status (cfg : Cfg) (dg : Bytes → Nat → Bytes) (s : State) (b : Bytes) (hs : s.state = .awaitingStatus) :
    ((∃ st, parseStatus b = some st ∧ st.accepts = true) →
      step cfg dg s (.handleStatus b) = ({ s with state := .awaitingChallenge }, .unit)) ∧
    ((¬ ∃ st, parseStatus b = some st ∧ st.accepts = true) →
      (step cfg dg s (.handleStatus b)).1 = { s with state := .failed } ∧
      (step cfg dg s (.handleStatus b)).2.isErr = true) := by
  rw [step_handleStatus cfg dg s b hs]
  cases hp : parseStatus b with
  | none => simp [Out.isErr]
  | some st => cases hacc : st.accepts <;> simp [hacc, Out.isErr]

example : (step cfg0 dg0 (run cfg0 dg0 (good0.take 2)) (.handleStatus statusNok)).1.state = .failed := by decide

/-- at any point of any call sequence: a reply that is emitted is exactly `'r' ourChallenge digest(cookie, theirChallenge)`,
where the two challenges are those of the challenge message handled in this handshake: `ops = pre ++ handleChallenge cb c :: g`
with `cb` well-formed carrying the peer's challenge `t`, and neither a reply nor a `disconnect` since -/
theorem C04_reply_digest (cfg : Cfg) (dg : Bytes → Nat → Bytes) (ops : List Op) (bs : Bytes)
    (h : (step cfg dg (run cfg dg ops) .prepareChallengeReply).2 = .bytes bs) :
    ∃ c t, bs = Spec.Handshake.reply c (dg cfg.cookie t) ∧
      ∃ pre cb m g, ops = pre ++ Op.handleChallenge cb c :: g ∧ parseChallenge cb = some m ∧ m.challenge = t ∧
        ∀ o ∈ g, (o.isReply || o.isDisconnect) = false := by
  obtain ⟨_, r2⟩ := step_refines cfg dg (run cfg dg ops) .prepareChallengeReply
  rw [h, run_refines] at r2
  generalize hq : connRun (sideOf cfg) dg Conn.empty ops = q at r2
  obtain ⟨ph, ng⟩ := q
  cases ph <;> simp [respOf, connStep] at r2
  rename_i c t
  refine ⟨c, t, by rw [r2]; rfl, ?_⟩
  rcases last_entry (sideOf cfg) dg _ _ ops Conn.empty hq with ⟨h0, _⟩ | ⟨pre, _, g, e, ⟨cb, m, _, rfl, hm, ht, _⟩, hg⟩
  · cases h0
  · exact ⟨pre, cb, m, g, e, hm, ht, hg⟩

example : (step cfg0 dg0 (run cfg0 dg0 (good0.take 5)) .prepareChallengeReply).2
    = .bytes (Spec.Handshake.reply 5 (dg0 cfg0.cookie 9)) := by decide

/-- and a peer reading that reply gets this side's challenge and that digest back (16-byte digest, 32-bit challenge) -/
theorem C04_reply_parses (c : Nat) (d : Bytes) (hc : c < 4294967296) (hd : d.length = 16) :
    parseReply (Spec.Handshake.reply c d) = some (c, d) := by
  have h1 := rdN_beN 2 21 (114 :: (be32 c ++ d)) (by decide)
  have h2 := rdN_beN 4 c d (by simpa using hc)
  simp only [Spec.Handshake.reply, parseReply, List.append_assoc, List.singleton_append, be16, be32] at h1 h2 ⊢
  simp [h1, h2, beN_length, hd]

example : parseReply (Spec.Handshake.reply 5 (dg0 cfg0.cookie 9)) = some (5, dg0 cfg0.cookie 9) :=
  C04_reply_parses 5 _ (by decide) (by decide)

/-- one call, made while the challenge is awaited: a well-formed challenge message sets the negotiated flags to
`peer flags AND our flags`, stores the peer's challenge and the freshly generated one, and the reply is due; a
malformed one is an error, changes none of them, and the machine is `Failed` -/
theorem C04_flags (cfg : Cfg) (dg : Bytes → Nat → Bytes) (s : State) (b : Bytes) (c : Nat)
    (hs : s.state = .awaitingChallenge) :
    match parseChallenge b with
    | some m => step cfg dg s (.handleChallenge b c) =
        (⟨.sendingChallengeReply, some c, some m.challenge, some (m.flags &&& cfg.flags)⟩, .unit)
    | none => step cfg dg s (.handleChallenge b c) = ({ s with state := .failed }, .err .malformed) := by
  rw [step_handleChallenge cfg dg s b c hs]
  cases parseChallenge b <;> rfl

/-- over every call sequence the negotiated flags are the protocol automaton's: nothing before a well-formed challenge
was handled in its place, `peer flags AND our flags` of that challenge from then on, nothing again after `disconnect`
(for the `connected` state see the last clause of `C04_connected_only_in_order`) -/
theorem C04_flags_run (cfg : Cfg) (dg : Bytes → Nat → Bytes) (ops : List Op) :
    (run cfg dg ops).neg = (connRun (sideOf cfg) dg Conn.empty ops).neg :=
  congrArg Conn.neg (run_refines cfg dg ops)

example : (run cfg0 dg0 (good0.take 5)).neg = some (255 &&& 0xd07df7fbd) := by decide

/-- every message the state machine emits, in any state, is the protocol's layout: the old-style send_name
(name at most 255 bytes; a longer name is an error, never a wrapped length), the complement, the reply -/
theorem C04_layouts (cfg : Cfg) (dg : Bytes → Nat → Bytes) (s : State) (op : Op) (bs : Bytes)
    (h : (step cfg dg s op).2 = .bytes bs) :
    (op = .prepareSendName ∧ cfg.name.length ≤ 255 ∧ bs = Spec.Handshake.sendNameOld cfg.flags cfg.name) ∨
    (op = .prepareComplement ∧ bs = Spec.Handshake.complement cfg.flags cfg.creation) ∨
    (op = .prepareChallengeReply ∧ ∃ c t, s.our = some c ∧ s.their = some t ∧
      bs = Spec.Handshake.reply c (dg cfg.cookie t)) := by
  -- what the machine emits the automaton emits too, and the automaton emits these three
  have r := (step_refines cfg dg s op).2
  rw [h] at r
  rcases connStep_sent (sideOf cfg) dg (abs s) op bs (Option.some.inj r).symm with h1 | h1 | ⟨h1, c, t, hp, hb⟩
  · exact .inl h1
  · exact .inr (.inl h1)
  · obtain ⟨_, ho, ht⟩ := absPhase_inv s _ hp
    exact .inr (.inr ⟨h1, c, t, ho, ht, hb⟩)

example : (step cfg0 dg0 (run cfg0 dg0 [.beginConnect]) .prepareSendName).2
    = .bytes (Spec.Handshake.sendNameOld cfg0.flags cfg0.name) := by decide

/-- when the name is due: a name of at most 255 bytes always yields the send_name message; a longer one always an error -/
theorem C04_send_name_total (cfg : Cfg) (dg : Bytes → Nat → Bytes) (s : State) (hs : s.state = .connecting) :
    (step cfg dg s .prepareSendName).2 =
      if cfg.name.length ≤ 255 then .bytes (Spec.Handshake.sendNameOld cfg.flags cfg.name) else .err .nameTooLong := by
  rw [step_prepareSendName cfg dg s hs]
  split <;> rfl

/-- the message structs' encoders produce the protocol layouts too (new-style send_name, challenge, reply, ack) -/
theorem C04_codec_layouts (f cr ch : Nat) (name d : Bytes) (hn : name.length ≤ 255) :
    encodeSendName ⟨f, cr, name⟩ = .ok (Spec.Handshake.sendNameNew f cr name) ∧
    encodeSendNameOld ⟨f, cr, name⟩ = .ok (Spec.Handshake.sendNameOld f name) ∧
    encodeChallenge ⟨f, ch, cr, name⟩ = .ok (Spec.Handshake.challenge f ch cr name) ∧
    encodeReply ch d = Spec.Handshake.reply ch d ∧
    encodeAck d = Spec.Handshake.ack d := by
  have h : ¬ name.length > 255 := by omega
  refine ⟨?_, ?_, ?_, ?_, ?_⟩
  · simp [encodeSendName, h, Spec.Handshake.sendNameNew]
  · simp [encodeSendNameOld, h, Spec.Handshake.sendNameOld]
  · simp [encodeChallenge, h, Spec.Handshake.challenge]
  · simp [encodeReply, Spec.Handshake.reply]
  · simp [encodeAck, Spec.Handshake.ack]

example : encodeAck [1, 2] = Spec.Handshake.ack [1, 2] := (C04_codec_layouts 0 0 0 [] [1, 2] (by decide)).2.2.2.2

/-- `StatusMessage::encode` emits the protocol's layout — 2-byte length of tag plus text, `'s'`, the status as text —
for all five statuses, and `StatusMessage::decode` (given the message without the length, as the transport delivers
it) returns the status that was encoded -/
theorem C04_status_round_trip (st : Status) :
    encodeStatus st = Spec.Handshake.status st.text ∧
    decodeStatus ((encodeStatus st).drop 2) = .ok st ∧
    st.text = (match st with
      | .ok => Spec.Handshake.txtOk | .okSimultaneous => Spec.Handshake.txtOkSimultaneous | .nok => Spec.Handshake.txtNok
      | .notAllowed => Spec.Handshake.txtNotAllowed | .alive => Spec.Handshake.txtAlive) := by
  cases st <;> exact ⟨by decide, rfl, rfl⟩

example : encodeStatus .notAllowed = [0, 12, 115, 110, 111, 116, 95, 97, 108, 108, 111, 119, 101, 100] := by decide

/-- what the peer's messages are: the model's decoders are exactly the protocol parsers (so they also never panic) -/
theorem C04_decoders_refine_spec (bs : Bytes) :
    (decodeAck bs = match parseAck bs with | some d => .ok d | none => .err .malformed) ∧
    (decodeChallenge bs = match parseChallenge bs with | some m => .ok (convMsg m) | none => .err .malformed) ∧
    (decodeStatus bs = match parseStatus bs with | some s => .ok (convStatus s) | none => .err .malformed) :=
  ⟨decodeAck_eq bs, decodeChallenge_eq bs, decodeStatus_eq bs⟩

/-- no decoder of a handshake message panics, whatever the bytes (including the two the state machine does not use) -/
theorem C04_decoders_no_panic (bs : Bytes) :
    decodeAck bs ≠ .panic ∧ decodeChallenge bs ≠ .panic ∧ decodeStatus bs ≠ .panic ∧
    decodeReply bs ≠ .panic ∧ decodeSendName bs ≠ .panic := by
  refine ⟨?_, ?_, ?_, decodeReply_no_panic bs, decodeSendName_no_panic bs⟩
  · rw [decodeAck_eq]; cases parseAck bs <;> simp
  · rw [decodeChallenge_eq]; cases parseChallenge bs <;> simp
  · rw [decodeStatus_eq]; cases parseStatus bs <;> simp

/-- reading back the protocol layouts (length prefix stripped, as the transport does): the challenge and the ack a
peer sends are decoded to exactly their fields -/
theorem C04_codec_round_trip (f ch cr : Nat) (name d : Bytes) (hf : f < 18446744073709551616)
    (hch : ch < 4294967296) (hcr : cr < 4294967296) (hn : name.length ≤ 255) (hu : validUtf8 name = true)
    (hd : d.length = 16) :
    decodeChallenge ((Spec.Handshake.challenge f ch cr name).drop 2) = .ok ⟨f, ch, cr, name⟩ ∧
    decodeAck ((Spec.Handshake.ack d).drop 2) = .ok d := by
  have drop2 : ∀ (x : Nat) (r : Bytes), (beN 2 x ++ r).drop 2 = r := fun x r => by simp [beN]
  constructor
  · have h8 := rdN_beN 8 f (beN 4 ch ++ (beN 4 cr ++ (beN 2 name.length ++ name))) (by simpa using hf)
    have h4 := rdN_beN 4 ch (beN 4 cr ++ (beN 2 name.length ++ name)) (by simpa using hch)
    have h4' := rdN_beN 4 cr (beN 2 name.length ++ name) (by simpa using hcr)
    have h2 := rdN_beN 2 name.length name (by simp; omega)
    simp [decodeChallenge_eq, Spec.Handshake.challenge, be64, be32, be16, drop2, parseChallenge, h8, h4, h4', h2, hu,
      convMsg]
  · simp [decodeAck_eq, Spec.Handshake.ack, be16, drop2, parseAck, hd, List.take_of_length_le (Nat.le_of_eq hd)]

example : decodeAck ((Spec.Handshake.ack (dg0 [] 1)).drop 2) = .ok (dg0 [] 1) :=
  (C04_codec_round_trip 0 0 0 [] (dg0 [] 1) (by decide) (by decide) (by decide) (by decide) (by decide) (by decide)).2

/-- no call, in any state, with any argument, panics -/
theorem C04_no_panic (cfg : Cfg) (dg : Bytes → Nat → Bytes) (s : State) (op : Op) :
    (step cfg dg s op).2 ≠ .panic := step_no_panic cfg dg s op

/-- and no result in a whole call sequence is a panic -/
theorem C04_no_panic_run (cfg : Cfg) (dg : Bytes → Nat → Bytes) (ops : List Op) :
    ∀ s, Out.panic ∉ outsFrom cfg dg s ops := by
  intro s hp
  -- a panic would be an answer the automaton cannot give
  have := List.mem_map_of_mem (f := respOf) hp
  rw [outs_refine] at this
  simp [respOf] at this

/-- the calls `Connection::connect` makes through its six helpers (connection.rs), whatever the peer sends: the machine ends
`connected` exactly when every step was right — name within 255 bytes, an accepting status, a well-formed challenge,
and an ack with `dg cookie (the challenge generated in handle_challenge)` -/
theorem C04_connect_script (cfg : Cfg) (dg : Bytes → Nat → Bytes) (sb cb : Bytes) (c : Nat) (ab : Bytes) :
    (run cfg dg (connectScript sb cb c ab)).state = .connected ↔
      (cfg.name.length ≤ 255 ∧ (∃ st, parseStatus sb = some st ∧ st.accepts = true) ∧
        (parseChallenge cb).isSome = true ∧ parseAck ab = some (dg cfg.cookie c)) := by
  rw [connected_iff, run_refines]
  simp only [connectScript, connRun, List.foldl_cons, List.foldl_nil]
  -- the automaton on the seven events, test by test
  by_cases hn : cfg.name.length ≤ 255
  · cases hs : parseStatus sb with
    | none => simp [connStep, Conn.empty, sideOf, hn, hs]
    | some st =>
      cases ha : st.accepts with
      | false => simp [connStep, Conn.empty, sideOf, hn, hs, ha]
      | true =>
        cases hm : parseChallenge cb with
        | none => simp [connStep, Conn.empty, sideOf, hn, hs, ha, hm]
        | some m =>
          by_cases hd : parseAck ab = some (dg cfg.cookie c) <;> simp [connStep, Conn.empty, sideOf, hn, hs, ha, hm, hd]
  · simp [connStep, Conn.empty, sideOf, hn]

example : (run cfg0 dg0 (connectScript statusOk chal0 5 (ack0 6))).state = .failed := by decide

/-- the tags and the version the encoders/decoders use (regenerated from handshake.rs / state_machine.rs) are the
protocol's: `n` (old send_name, version 5), `N` (new send_name, challenge), `s`, `c`, `r`, `a` -/
theorem C04_tags_are_protocol :
    tagNOld.toNat = Spec.Handshake.tagNameOld ∧ tagN.toNat = Spec.Handshake.tagNameNew ∧
    tagS.toNat = Spec.Handshake.tagStatus ∧ tagC.toNat = Spec.Handshake.tagComplement ∧
    tagR.toNat = Spec.Handshake.tagReply ∧ tagA.toNat = Spec.Handshake.tagAck ∧
    version5 = Spec.Handshake.versionOld := by decide

/-- the capability-flag constants whose value is NOT the protocol's (finding `kf-c04-flag-bits`) -/
def misnumberedFlags : List String := ["FRAGMENTS", "SPAWN", "NAME_ME", "ALIAS"]

/-- THE statement one wants — every capability-flag constant of flags.rs has the bit the protocol assigns to that
capability — is
    `∀ nv ∈ Gen.DIST_FLAGS, Spec.Handshake.protocolFlag nv.1 = some nv.2`.
It does not hold (`C04_not_flag_bits`). What holds: every constant except FRAGMENTS, SPAWN, NAME_ME and ALIAS has the
protocol's bit — in particular all thirteen that are mandatory for OTP 26 (`C04_mandatory_flags`). -/
theorem C04_flag_bits_partial :
    ∀ nv ∈ Gen.DIST_FLAGS, nv.1 ∉ misnumberedFlags → Spec.Handshake.protocolFlag nv.1 = some nv.2 := by decide

/-- finding `kf-c04-flag-bits`: flags.rs gives FRAGMENTS bit 27 (protocol: 23), SPAWN bit 36 (32), NAME_ME bit 37 (33)
and ALIAS bit 43 (35); V4_NC between them is right (34). `DistributionFlags::DEFAULT` therefore announces bits 27, 36,
37 and 43 and does not announce the protocol's FRAGMENTS, SPAWN and ALIAS, so the intersection with a real peer's
flags never contains them. -/
theorem C04_not_flag_bits :
    flagConst "FRAGMENTS" = some (2 ^ 27) ∧ Spec.Handshake.protocolFlag "FRAGMENTS" = some (2 ^ 23) ∧
    flagConst "SPAWN" = some (2 ^ 36) ∧ Spec.Handshake.protocolFlag "SPAWN" = some (2 ^ 32) ∧
    flagConst "NAME_ME" = some (2 ^ 37) ∧ Spec.Handshake.protocolFlag "NAME_ME" = some (2 ^ 33) ∧
    flagConst "ALIAS" = some (2 ^ 43) ∧ Spec.Handshake.protocolFlag "ALIAS" = some (2 ^ 35) ∧
    flagDefault &&& Spec.Handshake.otpAcceptorFlags &&& (2 ^ 23 ||| 2 ^ 32 ||| 2 ^ 35) = 0 := by decide

/-- the flag constants are pairwise distinct single bits of a 64-bit word, under pairwise distinct names -/
theorem C04_flag_bits_distinct :
    (Gen.DIST_FLAGS.map (·.2)).Nodup ∧ (Gen.DIST_FLAGS.map (·.1)).Nodup ∧
    ∀ nv ∈ Gen.DIST_FLAGS, (List.range 64).any (fun k => nv.2 == 2 ^ k) = true := by decide

/-- the flag sets are what their definitions list: `MANDATORY_OTP26` is the union of exactly the thirteen capabilities
the protocol makes mandatory for OTP 26, each with the protocol's bit; `DEFAULT` is the union of its listed members and
contains `MANDATORY_OTP26`; `DEFAULT_HIDDEN` is `DEFAULT` without `PUBLISHED` -/
theorem C04_mandatory_flags :
    flagMandatory = evalFlagSet 3 "MANDATORY_OTP26" ∧ flagDefault = evalFlagSet 3 "DEFAULT" ∧
    flagDefaultHidden = evalFlagSet 3 "DEFAULT_HIDDEN" ∧
    flagMandatory = (Spec.Handshake.mandatoryOtp26.map fun n => (Spec.Handshake.protocolFlag n).getD 0).foldl (· ||| ·) 0 ∧
    flagDefault &&& flagMandatory = flagMandatory ∧
    flagDefaultHidden = flagDefault &&& (18446744073709551615 - 1) ∧ flagDefault &&& 1 = 1 := by decide

/-- The state the handshake model carries IS the state the code keeps (regenerated from the source on every run): the nine
fields of `HandshakeStateMachine` — `state` ↦ `State.state`, `cookie`/`flags`/`creation`/`local_node_name` ↦ the
configuration `Cfg`, `our_challenge`/`their_challenge`/`negotiated_flags` ↦ `State.our`/`their`/`neg`; `remote_node_name`
is never read — and no process-wide state in the modelled files. A new field or a static is state this model does not know. -/
theorem C04_state_is_the_sources_state :
    Edp.Gen.STRUCT_HandshakeStateMachine =
      ["state:ConnectionState", "local_node_name:String", "remote_node_name:String", "cookie:String",
       "flags:DistributionFlags", "creation:Creation", "our_challenge:Option<u32>", "their_challenge:Option<u32>",
       "negotiated_flags:Option<DistributionFlags>"]
    ∧ Edp.Gen.PROCESS_WIDE_STATE = [] := by decide

/-! On the way to `connected`: the EPMD client (epmd_client.rs). -/

section Epmd
open Edp.Impl.Epmd

/-- The request this side writes for a lookup. On the connect path the name has passed `validate_node_name` (at most 255
bytes): the request is exactly the protocol's PORT_PLEASE2_REQ. For the public call with any name: the length field is
the name's length modulo 2^16 plus one, and the addition panics (dev profile) exactly when that is 65535 + 1. -/
theorem C04_epmd_request_layout (name : Bytes) :
    (name.length ≤ 255 → lookupReq name = .ok (Spec.Epmd.portPlease2Req name)) ∧
    (lookupReq name = .panic ↔ name.length % 65536 = 65535) := by
  constructor
  · intro h
    have h1 : name.length % 65536 = name.length := Nat.mod_eq_of_lt (by omega)
    have h2 : ¬ name.length + 1 ≥ 65536 := by omega
    simp [lookupReq, h1, h2, Spec.Epmd.portPlease2Req, tagPort2Req, Gen.EPMD_PORT2_REQ, Nat.add_comm]
  · unfold lookupReq
    split <;> simp <;> omega

example : lookupReq [97, 98] = .ok [0, 3, 122, 97, 98] := by rfl

/-- What the reply reader accepts is EXACTLY the protocol's PORT2_RESP with a known node type and protocol, a UTF-8 name
of at most 255 bytes and at most 4096 bytes of extra (the regenerated limits), whatever follows it and whether EPMD then
closes or not: a result `ok i` means the bytes start with the layout of `i`, and every such reply is read back as `i`. -/
theorem C04_epmd_reply_is_the_protocols (data : Bytes) (closed : Bool) (i : NodeInfo) :
    (lookupParse ⟨data, closed⟩).2 = .ok i ↔ (∃ rest, data = Spec.Epmd.port2Resp (toSpec i) ++ rest) ∧ accepted i := by
  constructor
  · exact lookupParse_sound ⟨data, closed⟩ i
  · rintro ⟨⟨rest, hd⟩, ha⟩
    rw [hd, lookupParse_complete i rest closed ha]

example : (lookupParse ⟨[119, 0, 17, 18, 77, 0, 0, 6, 0, 5, 0, 1, 120, 0, 0], true⟩).2 = .ok ⟨4370, 77, 0, 6, 5, [120], []⟩ := by rfl

/-- A truncated reply — any proper prefix of a reply that would be accepted — is never accepted, whether EPMD closes after
it (end of stream) or stays silent (the timeout of the exchange): `lookup_node` returns an error. -/
theorem C04_epmd_truncated_reply_is_error (i : NodeInfo) (n : Nat) (closed : Bool) (h : accepted i)
    (hn : n < (Spec.Epmd.port2Resp (toSpec i)).length) :
    ∃ e, (lookupParse ⟨(Spec.Epmd.port2Resp (toSpec i)).take n, closed⟩).2 = .error e := by
  cases hr : (lookupParse ⟨(Spec.Epmd.port2Resp (toSpec i)).take n, closed⟩).2 with
  | error e => exact ⟨e, rfl⟩
  | ok j => exact absurd hr (lookupParse_truncated i n closed h hn j)

example : (lookupParse ⟨[119, 0, 17, 18, 77, 0, 0, 6, 0, 5, 0, 1], false⟩).2 = .error .timeout := by rfl
example : (lookupParse ⟨[119, 0, 17, 18, 77, 0, 0, 6, 0, 5, 0, 1], true⟩).2 = .error .eof := by rfl

/-- No oversized allocation from a length field: whatever EPMD sends, `lookup_node` allocates at most two buffers, the
first of at most 255 bytes (name), the second of at most 4096 bytes (extra) — a larger declared length is refused before
the buffer is requested; and a reply is accepted only if it really carries the bytes it declares. -/
theorem C04_epmd_allocation_bounded (s : Stream) :
    ((lookupParse s).1 = [] ∨ (∃ n, (lookupParse s).1 = [n] ∧ n ≤ 255) ∨ (∃ n e, (lookupParse s).1 = [n, e] ∧ n ≤ 255 ∧ e ≤ 4096)) ∧
    (∀ i, (lookupParse s).2 = .ok i → 14 + i.name.length + i.extra.length ≤ s.data.length) := by
  refine ⟨?_, fun i h => lookupParse_no_ok_when_short s i h⟩
  have := lookupParse_allocs s
  simpa [maxName, maxExtra, Gen.EPMD_MAX_NAME, Gen.EPMD_MAX_EXTRA] using this

example : (lookupParse ⟨[119, 0, 0, 1, 77, 0, 0, 6, 0, 5, 1, 0, 1, 2], false⟩).1 = [] := by decide
example : (lookupParse ⟨[119, 0, 0, 1, 77, 0, 0, 6, 0, 5, 0, 2, 65, 66, 0, 1, 7], true⟩).1 = [2, 1] := by decide

/-- Registration (ALIVE2_REQ): with a name and extra that fit the 16-bit length fields the request is the protocol's, and
both reply forms of the protocol (ALIVE2_RESP with a 16-bit, ALIVE2_X_RESP with a 32-bit creation) are read back. -/
theorem C04_epmd_register_is_the_protocols (port type hi lo cr : Nat) (name extra rest : Bytes) (closed : Bool) :
    (13 + name.length + extra.length < 65536 →
      registerReq port type hi lo name extra = Spec.Epmd.alive2Req port type 0 hi lo name extra) ∧
    (cr < 65536 → registerParse ⟨Spec.Epmd.alive2Resp cr ++ rest, closed⟩ = .ok cr) ∧
    (cr < 4294967296 → registerParse ⟨Spec.Epmd.alive2XResp cr ++ rest, closed⟩ = .ok cr) := by
  refine ⟨fun h => ?_, registerParse_resp cr rest closed, registerParse_xresp cr rest closed⟩
  have : 1 + 2 + 1 + 1 + 2 + 2 + 2 + name.length + 2 + extra.length = 13 + name.length + extra.length := by omega
  simp [registerReq, Spec.Epmd.alive2Req, this, tagAlive2Req, Gen.EPMD_ALIVE2_REQ]

example : registerParse ⟨[118, 0, 0, 0, 0, 9], true⟩ = .ok 9 := by rfl
example : registerParse ⟨[121, 1, 0, 0], true⟩ = .error (.regErr 1) := by rfl

/-- The EPMD constants, node types and limits the model reads are the ones in the source, and they are the protocol's. -/
theorem C04_epmd_constants_are_the_protocols :
    Gen.EPMD_CONSTS = [("ALIVE2_REQ", 120), ("ALIVE2_RESP", 121), ("ALIVE2_X_RESP", 118), ("PORT2_REQ", 122), ("PORT2_RESP", 119)] ∧
    typeArms = Spec.Epmd.nodeTypes ∧ Gen.EPMD_NODE_TYPES.map (·.2) = Spec.Epmd.nodeTypes ∧
    Gen.EPMD_TYPE_ARMS.map (fun p => (p.2, p.1)) = Gen.EPMD_NODE_TYPES ∧
    protoArms = [Spec.Epmd.protoTcp] ∧ maxName = 255 ∧ maxExtra = 4096 ∧
    Gen.EPMD_LOOKUP_READS = ["read_u8", "read_u8", "read_u16", "read_u8", "read_u8", "read_u16", "read_u16", "read_u16",
      "read_exact", "read_u16", "read_exact"] := by decide

end Epmd

/-! `Connection::connect` as the sequence of awaited steps it is (connection.rs, transport.rs). -/

section Connect
open Edp.Impl.Connect

/-- an environment in which everything goes right, for the examples -/
def env0 : Env :=
  { remote := [112, 64, 104], epmdUp := true, epmd := ⟨[119, 0, 17, 18, 77, 0, 0, 6, 0, 5, 0, 1, 112, 0, 0], true⟩, tcp := .ok,
    status := .frame statusOk, chal := .frame chal0, ack := .frame (ack0 5), c := 5, w1 := .ok, w2 := .ok, w3 := .ok }

/-- THE statement about the driver loop. `connect` on a fresh connection returns `Ok` exactly when: the remote name is
`name@host` with 1..255 name bytes and EPMD answered the lookup with an acceptable PORT2_RESP; the TCP connect succeeded;
the local name has at most 255 bytes; all three writes went out; and the peer sent — one complete frame per awaited read, in
this order — an accepting status, a well-formed challenge, and the digest of the cookie and the challenge THIS side
generated in THIS handshake. Anything else at any step — a close, silence, a refusal, a malformed, truncated or
out-of-order message, a wrong digest, a failed or timed-out write — is an error. And then the machine is `connected`, the
negotiated set is `peer AND ours`, and what was written is send_name, complement, reply (the digest of the cookie and the
PEER's challenge) in the protocol's layouts and order. -/
theorem C04_connect_ok_iff (cfg : Cfg) (dg : Bytes → Nat → Bytes) (env : Env) :
    (connect cfg dg State.init env).2 = .ok () ↔
      (∃ p, lookupRemote env = .ok p) ∧ env.tcp = .ok ∧ cfg.name.length ≤ 255 ∧
      env.w1 = .ok ∧ env.w2 = .ok ∧ env.w3 = .ok ∧
      (∃ sb st, env.status = .frame sb ∧ parseStatus sb = some st ∧ st.accepts = true) ∧
      (∃ cb m, env.chal = .frame cb ∧ parseChallenge cb = some m ∧
        (∃ ab, env.ack = .frame ab ∧ parseAck ab = some (dg cfg.cookie env.c)) ∧
        (connect cfg dg State.init env).1 =
          ⟨⟨.connected, some env.c, some m.challenge, some (m.flags &&& cfg.flags)⟩,
           [Spec.Handshake.sendNameOld cfg.flags cfg.name, Spec.Handshake.complement cfg.flags cfg.creation,
            Spec.Handshake.reply env.c (dg cfg.cookie m.challenge)]⟩) := by
  rcases connect_init cfg dg env with ⟨hl, ht, e⟩ | ⟨hno, e, he⟩
  · have snd_ok : ∀ r : Acc × Except CErr Unit, r.2 = .ok () ↔ r = (r.1, .ok ()) := fun r => by cases r; simp
    rw [e, snd_ok, handshake_ok_iff]
    simp [hl, ht]
  · rw [he]
    exact ⟨nofun, fun h => absurd ⟨h.1, h.2.1⟩ hno⟩

example : (connect cfg0 dg0 State.init env0).2 = .ok () := by rfl
example : (connect cfg0 dg0 State.init { env0 with ack := .silent }).2 = .error .timeout := by rfl
example : (connect cfg0 dg0 State.init { env0 with ack := .frame (ack0 9) }) =
    (⟨⟨.failed, some 5, some 9, some (255 &&& 0xd07df7fbd)⟩, (connect cfg0 dg0 State.init env0).1.w⟩, .error (.hs .auth)) := by rfl

/-- Never in the connected state on an error: whatever EPMD, the network and the peer do, and whatever the writes do, a
`connect` on a fresh connection that returns an error leaves the machine in a state other than `Connected`. -/
theorem C04_connect_error_never_connected (cfg : Cfg) (dg : Bytes → Nat → Bytes) (env : Env) (e : CErr)
    (h : (connect cfg dg State.init env).2 = .error e) :
    (connect cfg dg State.init env).1.st.state ≠ .connected := by
  rcases connect_init cfg dg env with ⟨_, _, hc⟩ | ⟨_, _, hc⟩
  · rw [hc] at h ⊢
    exact runSteps_error_not_connected cfg dg env.c _ _ _ _ _ e (by decide) (by simp) (Prod.ext rfl h)
  · rw [hc]; simp

example : (connect cfg0 dg0 State.init { env0 with status := .frame statusNok }).1.st.state = .failed := by rfl

/-- Reuse: `connect` on a connection whose machine is not `Disconnected` (a second `connect`, or one after a failed
attempt — nothing in `connect` resets the machine) is refused with `InvalidStateTransition`, before anything is looked up,
connected to or written, and changes nothing. -/
theorem C04_connect_reuse_refused (cfg : Cfg) (dg : Bytes → Nat → Bytes) (s0 : State) (env : Env)
    (h : s0.state ≠ .disconnected) :
    connect cfg dg s0 env = (⟨s0, []⟩, .error (.hs .invalidTransition)) := by
  simp [connect, step, h]

example : (connect cfg0 dg0 (connect cfg0 dg0 State.init { env0 with chal := .close }).1.st env0).2
    = .error (.hs .invalidTransition) := by rfl

/-- The step order, the timeouts and the limits the model reads are the ones in the source (regenerated on every run),
and they are what the protocol and the property ask for: begin, name split, EPMD lookup, TCP connect (under the configured
timeout), then send_name → status → complement → challenge → reply → ack, each helper one state-machine call and one
awaited transport operation; every awaited transport operation is wrapped in `tokio::time::timeout(self.timeout, ..)`, and
so are the two EPMD exchanges; the acknowledgement is read by the last step only. -/
theorem C04_connect_steps_are_the_sources :
    Gen.CONNECT_PRELUDE = Impl.Connect.prelude ∧
    Gen.CONNECT_STEPS = [("send_name", "prepare_send_name", "write_raw"), ("receive_status", "handle_status", "read"),
      ("send_complement", "prepare_complement", "write_raw"), ("receive_challenge", "handle_challenge", "read"),
      ("send_challenge_reply", "prepare_challenge_reply", "write_raw"), ("receive_challenge_ack", "handle_challenge_ack", "read")] ∧
    (∀ x ∈ Gen.CONNECT_STEPS, x.2.2 ∈ Gen.TRANSPORT_UNDER_TIMEOUT) ∧
    (∀ x ∈ Gen.CONNECT_STEPS, (opOf x.2.1 [] 0).isSome = true) ∧
    "lookup_node" ∈ Gen.EPMD_UNDER_TIMEOUT ∧ "register_node" ∈ Gen.EPMD_UNDER_TIMEOUT ∧
    maxRemoteName = 255 := by decide

end Connect

end Edp.Props.C04
