import EdpVerif.Lemmas.ReceiverRecv
import EdpVerif.Lemmas.ReceiverBP
import EdpVerif.Generated.Control
import EdpVerif.Generated.MiscC19
import EdpVerif.Generated.MiscC17
import EdpVerif.Generated.MiscState
/-!
C19 — inbound routing is exact and the connection's receiver outlives bad input.

Model: `Impl/Receiver.lean` (`classify` = what `receive_message_from_read_half` makes of a frame body, `route` =
`Node::route_message`, `loop` = the task of `spawn_receiver_task` over a read script, `wire` = histories of whole frames
with silences). `T` is the control table extracted from control.rs on this run; `x` (the decoder's external calls:
zlib, float text) is arbitrary everywhere. All statements hold for every registry content `st`, every segmentation
of the byte stream (`Clean` scripts: any chunking, `Pending` polls anywhere) and every length of history.
-/
namespace Edp.Props.C19
open Edp Edp.Framing Edp.Receiver

abbrev T : Control.Table := Gen.controlTable

/-! the rows of `T` for the four operations the theorems below send through `route_message` -/

private theorem parse_send (a b : Term) :
    Control.parse T (.tuple [.int 2, a, b]) = .ok (.known "Send" [("cookie", .term a), ("to_pid", .term b)]) := rfl

private theorem parse_regSend (a b c : Term) :
    Control.parse T (.tuple [.int 6, a, b, c]) =
      .ok (.known "RegSend" [("from_pid", .term a), ("cookie", .term b), ("to_name", .term c)]) := rfl

private theorem parse_exit (a b c : Term) :
    Control.parse T (.tuple [.int 3, a, b, c]) =
      .ok (.known "Exit" [("from_pid", .term a), ("to_pid", .term b), ("reason", .term c)]) := rfl

private theorem parse_monitorExit (a b c d : Term) :
    Control.parse T (.tuple [.int 21, a, b, c, d]) =
      .ok (.known "MonitorPExit" [("from_proc", .term a), ("to_pid", .term b), ("reference", .term c),
        ("reason", .term d)]) := rfl

/-- SEND `{2, Cookie, ToPid}` + message for a live process: exactly that message is appended to exactly that mailbox;
every other mailbox, the set of processes, the names, the outstanding calls and their answers are untouched -/
theorem C19_send_to_live_process (st : NodeSt) (cookie body : Term) (p : PidF) (mb : List LMsg)
    (h : mailbox st p.key = some mb) :
    let st' := routeCtl T st (.tuple [.int 2, cookie, .pid p]) (some body)
    mailbox st' p.key = some (mb ++ [.regular body]) ∧
    (∀ k, k ≠ p.key → mailbox st' k = mailbox st k) ∧
    st'.procs.map (·.1) = st.procs.map (·.1) ∧
    st'.names = st.names ∧ st'.pending = st.pending ∧ st'.replies = st.replies := by
  simp only [routeCtl_send (parse_send ..) rfl rfl, isLive_of_mailbox h, if_true]
  exact sendTo_exact st _ _ mb h

example : mailbox ⟨[(⟨[110], 1, 0, 3⟩, [])], [], [], []⟩ (PidF.key ⟨[110], 1, 0, 3, none⟩) = some [] := rfl

/-- a SEND for a pid that is not a live process but from which a remote call is outstanding answers that call, once:
the call is handed the message, its key is no longer pending, all other pending calls and all mailboxes stay -/
theorem C19_send_answers_outstanding_call (st : NodeSt) (cookie body : Term) (p : PidF)
    (hd : isLive st p.key = false) (hp : rpcKey p ∈ st.pending) :
    let st' := routeCtl T st (.tuple [.int 2, cookie, .pid p]) (some body)
    st'.replies = st.replies ++ [(rpcKey p, body)] ∧
    rpcKey p ∉ st'.pending ∧ (∀ k, k ≠ rpcKey p → (k ∈ st'.pending ↔ k ∈ st.pending)) ∧
    st'.procs = st.procs ∧ st'.names = st.names := by
  simp only [routeCtl_send (parse_send ..) rfl rfl, hd, hp, if_true, Bool.false_eq_true, if_false]
  refine ⟨rfl, ?_, ?_, rfl, rfl⟩
  · simp [answer]
  · intro k hk
    simp [answer, hk]

example : isLive ⟨[], [], [(4, 0, 3)], []⟩ (PidF.key ⟨[110], 4, 0, 3, none⟩) = false ∧
    rpcKey ⟨[110], 4, 0, 3, none⟩ ∈ [((4 : Nat), (0 : Nat), (3 : Nat))] := by decide

/-- a SEND for a pid that is neither a live process nor the origin of an outstanding call changes nothing at all -/
theorem C19_send_to_unknown_dropped (st : NodeSt) (cookie body : Term) (p : PidF)
    (hd : isLive st p.key = false) (hp : rpcKey p ∉ st.pending) :
    routeCtl T st (.tuple [.int 2, cookie, .pid p]) (some body) = st := by
  simp only [routeCtl_send (parse_send ..) rfl rfl, hd, hp, Bool.false_eq_true, if_false]

example : isLive ⟨[], [], [(4, 0, 3)], []⟩ (PidF.key ⟨[110], 5, 0, 3, none⟩) = false ∧
    rpcKey ⟨[110], 5, 0, 3, none⟩ ∉ [((4 : Nat), (0 : Nat), (3 : Nat))] := by decide

/-- a call is answered once: the same SEND a second time finds neither a process nor an outstanding call -/
theorem C19_call_answered_once (st : NodeSt) (cookie body cookie2 body2 : Term) (p : PidF)
    (hd : isLive st p.key = false) (hp : rpcKey p ∈ st.pending) :
    let st' := routeCtl T st (.tuple [.int 2, cookie, .pid p]) (some body)
    routeCtl T st' (.tuple [.int 2, cookie2, .pid p]) (some body2) = st' := by
  obtain ⟨_, h2, _, h4, _⟩ := C19_send_answers_outstanding_call st cookie body p hd hp
  intro st'
  apply C19_send_to_unknown_dropped
  · show isLive st' p.key = false
    unfold isLive mailbox at hd ⊢
    rw [show st'.procs = st.procs from h4]
    exact hd
  · exact h2

/-- badly addressed operations are dropped without effect: a SEND without a message or to something that is not a
pid, a REG_SEND to something that is not an atom, an EXIT from something that is not a pid, a MONITOR_P_EXIT whose
reference is not a reference -/
theorem C19_malformed_addressing_dropped (st : NodeSt) (a b c d body : Term) (p q : PidF) :
    routeCtl T st (.tuple [.int 2, a, .pid p]) none = st ∧
    ((∀ r, b ≠ .pid r) → routeCtl T st (.tuple [.int 2, a, b]) (some body) = st) ∧
    ((∀ n, c ≠ .atom n) → routeCtl T st (.tuple [.int 6, a, b, c]) (some body) = st) ∧
    ((∀ r, a ≠ .pid r) → routeCtl T st (.tuple [.int 3, a, .pid p, d]) none = st) ∧
    ((∀ n cr ids l, c ≠ .ref n cr ids l) → routeCtl T st (.tuple [.int 21, .pid q, .pid p, c, d]) none = st) := by
  -- in each case the arm's pattern cannot match: the field it reads is the term given here
  refine ⟨?_, fun h => ?_, fun h => ?_, fun h => ?_, fun h => ?_⟩
  · exact routeCtl_send_unaddressed (parse_send ..) rfl fun _ _ hn => nomatch hn
  · exact routeCtl_send_unaddressed (parse_send ..) rfl fun _ r _ hb => h r (Option.some.inj hb)
  · exact routeCtl_regSend_unaddressed (parse_regSend ..) rfl fun _ n _ hc => h n (Option.some.inj hc)
  · exact routeCtl_exit_unaddressed (parse_exit ..) rfl fun s _ _ ha _ _ => h s (Option.some.inj ha)
  · exact routeCtl_monitorExit_unaddressed (parse_monitorExit ..) rfl
      fun _ _ n cr ids l _ _ _ hc _ => h n cr ids l (Option.some.inj hc)

/-- REG_SEND `{6, FromPid, Cookie, ToName}` + message for a registered name whose owner is live: exactly that message
goes to exactly that process -/
theorem C19_regsend_to_registered_name (st : NodeSt) (sender cookie body : Term) (n : Bytes) (k : PidKey)
    (mb : List LMsg) (hw : whereis st n = some k) (h : mailbox st k = some mb) :
    let st' := routeCtl T st (.tuple [.int 6, sender, cookie, .atom n]) (some body)
    mailbox st' k = some (mb ++ [.regular body]) ∧
    (∀ k', k' ≠ k → mailbox st' k' = mailbox st k') ∧
    st'.procs.map (·.1) = st.procs.map (·.1) ∧
    st'.names = st.names ∧ st'.pending = st.pending ∧ st'.replies = st.replies := by
  simp only [routeCtl_regSend (parse_regSend ..) rfl rfl, hw, isLive_of_mailbox h, if_true]
  exact sendTo_exact st _ _ mb h

example : whereis ⟨[(⟨[110], 1, 0, 3⟩, [])], [([115], ⟨[110], 1, 0, 3⟩)], [], []⟩ [115] = some ⟨[110], 1, 0, 3⟩ := by
  decide

/-- a REG_SEND for a name nobody holds, or whose holder is gone, changes nothing -/
theorem C19_regsend_unknown_dropped (st : NodeSt) (sender cookie body : Term) (n : Bytes)
    (h : whereis st n = none ∨ ∃ k, whereis st n = some k ∧ isLive st k = false) :
    routeCtl T st (.tuple [.int 6, sender, cookie, .atom n]) (some body) = st := by
  rw [routeCtl_regSend (parse_regSend ..) rfl rfl]
  rcases h with h | ⟨k, h1, h2⟩
  · rw [h]
  · rw [h1]
    simp only [h2, Bool.false_eq_true, if_false]

example : whereis ⟨[], [], [], []⟩ [115] = none := by decide

/-- EXIT `{3, FromPid, ToPid, Reason}` for a live process: it finds the exit notification in its mailbox with the
sender and the reason as sent; nothing else changes -/
theorem C19_exit_reaches_target (st : NodeSt) (sender to : PidF) (reason : Term) (mb : List LMsg)
    (h : mailbox st to.key = some mb) :
    let st' := routeCtl T st (.tuple [.int 3, .pid sender, .pid to, reason]) none
    mailbox st' to.key = some (mb ++ [.exit sender reason]) ∧
    (∀ k, k ≠ to.key → mailbox st' k = mailbox st k) ∧
    st'.procs.map (·.1) = st.procs.map (·.1) ∧
    st'.names = st.names ∧ st'.pending = st.pending ∧ st'.replies = st.replies := by
  simp only [routeCtl_exit (parse_exit ..) rfl rfl rfl rfl, isLive_of_mailbox h, if_true]
  exact sendTo_exact st _ _ mb h

/-- MONITOR_P_EXIT `{21, FromProc, ToPid, Ref, Reason}` for a live process: the notification carries the monitored
process, the reference and the reason as sent; nothing else changes -/
theorem C19_monitor_exit_reaches_target (st : NodeSt) (sender to : PidF) (rn : Bytes) (rc : Nat) (ids : List Nat)
    (rl : Option Bytes) (reason : Term) (mb : List LMsg) (h : mailbox st to.key = some mb) :
    let st' := routeCtl T st (.tuple [.int 21, .pid sender, .pid to, .ref rn rc ids rl, reason]) none
    mailbox st' to.key = some (mb ++ [.monitorExit sender (.ref rn rc ids rl) reason]) ∧
    (∀ k, k ≠ to.key → mailbox st' k = mailbox st k) ∧
    st'.procs.map (·.1) = st.procs.map (·.1) ∧
    st'.names = st.names ∧ st'.pending = st.pending ∧ st'.replies = st.replies := by
  simp only [routeCtl_monitorExit (parse_monitorExit ..) rfl rfl rfl rfl rfl, isLive_of_mailbox h, if_true]
  exact sendTo_exact st _ _ mb h

/-- the forms a conforming peer may use without negotiation are routed like the plain ones: EXIT2 (`exit/2`) like EXIT,
and the trace-token forms SEND_TT, REG_SEND_TT, EXIT_TT, EXIT2_TT like SEND, REG_SEND, EXIT (the token is dropped) -/
theorem C19_exit2_and_trace_token_forms (st : NodeSt) (a b c d tt : Term) (payload : Option Term) :
    routeCtl T st (.tuple [.int 8, a, b, c]) payload = routeCtl T st (.tuple [.int 3, a, b, c]) payload ∧
    routeCtl T st (.tuple [.int 12, a, b, tt]) payload = routeCtl T st (.tuple [.int 2, a, b]) payload ∧
    routeCtl T st (.tuple [.int 16, a, b, c, tt]) payload = routeCtl T st (.tuple [.int 6, a, b, c]) payload ∧
    routeCtl T st (.tuple [.int 13, a, b, tt, d]) payload = routeCtl T st (.tuple [.int 3, a, b, d]) payload ∧
    routeCtl T st (.tuple [.int 18, a, b, tt, d]) payload = routeCtl T st (.tuple [.int 3, a, b, d]) payload :=
  -- rows of `T` and of `armOf`: each pair parses to variants of one arm with the same fields but the token
  ⟨rfl, rfl, rfl, rfl, rfl⟩

/-- exit and monitor notifications for a process that does not exist (any more) change nothing -/
theorem C19_notifications_for_unknown_dropped (st : NodeSt) (sender to : PidF) (rf reason : Term)
    (hd : isLive st to.key = false) :
    routeCtl T st (.tuple [.int 3, .pid sender, .pid to, reason]) none = st ∧
    routeCtl T st (.tuple [.int 8, .pid sender, .pid to, reason]) none = st ∧
    routeCtl T st (.tuple [.int 21, .pid sender, .pid to, rf, reason]) none = st := by
  have h3 : routeCtl T st (.tuple [.int 3, .pid sender, .pid to, reason]) none = st := by
    rw [routeCtl_exit (parse_exit ..) rfl rfl rfl rfl, hd]
    rfl
  refine ⟨h3, (C19_exit2_and_trace_token_forms st _ _ reason reason reason none).1.trans h3, ?_⟩
  -- a reference: the arm finds the process gone; anything else: the arm's pattern does not match
  by_cases hr : ∃ n c ids l, rf = .ref n c ids l
  · obtain ⟨n, c, ids, l, rfl⟩ := hr
    rw [routeCtl_monitorExit (parse_monitorExit ..) rfl rfl rfl rfl rfl, hd]
    rfl
  · exact routeCtl_monitorExit_unaddressed (parse_monitorExit ..) rfl
      fun _ _ n c ids l _ _ _ h3 _ => hr ⟨n, c, ids, l, Option.some.inj h3⟩

/-- every other control kind — all remaining known operations in any arity, unknown operation numbers, known
numbers in an unexpected arity — changes nothing (a fact about the table extracted from control.rs on this run) -/
theorem C19_unrouted_kinds_change_nothing (st : NodeSt) (tag : Int) (args : List Term) (payload : Option Term)
    (h : tag.toNat ∉ [2, 3, 6, 8, 12, 13, 16, 18, 21]) :
    routeCtl T st (.tuple (.int tag :: args)) payload = st :=
  routeCtl_unrouted T (by decide) st tag args payload h

example : (99 : Int).toNat ∉ [2, 3, 6, 8, 12, 13, 16, 18, 21] ∧ (19 : Int).toNat ∉ [2, 3, 6, 8, 12, 13, 16, 18, 21] := by
  decide

/-- the routing table as written in node.rs on this run (`Generated/MiscC19.lean` `ROUTE_ARMS`): a variant is routed by the arm
whose pattern names it — by which fields, through which lookups, into which `Message` -/
def armOfSource (v : String) : Arm :=
  match Gen.ROUTE_ARMS.find? (fun a => a.1.contains v) with
  | some (_, fields, msg, lookups) =>
    if msg = "Regular" ∧ fields = ["to_pid"] ∧ lookups = ["get", "rpc"] then .send
    else if msg = "Regular" ∧ fields = ["to_name"] ∧ lookups = ["whereis", "get"] then .regSend
    else if msg = "Exit" ∧ fields = ["from_pid", "reason", "to_pid"] ∧ lookups = ["get"] then .exit
    else if msg = "MonitorExit" ∧ fields = ["from_proc", "reason", "reference", "to_pid"] ∧ lookups = ["get"] then .monitorExit
    else .ignored
  | none => .ignored

/-- the protocol's table (erl_dist_protocol): SEND 2 / SEND_TT 12 carry a message for a pid, REG_SEND 6 / REG_SEND_TT 16 for a
name, EXIT 3 / EXIT2 8 / EXIT_TT 13 / EXIT2_TT 18 an exit signal, MONITOR_P_EXIT 21 a monitor notification; no other operation
this library negotiates addresses a process with something to deliver -/
def specRoute : Nat → Arm
  | 2 => .send | 12 => .send
  | 6 => .regSend | 16 => .regSend
  | 3 => .exit | 8 => .exit | 13 => .exit | 18 => .exit
  | 21 => .monitorExit
  | _ => .ignored

/-- **the routing table is the source's and the protocol's**: for every variant of `ControlMessage` the model's `armOf` is the
arm written in `route_message` (dropping a variant from a pattern, reading another field, sending another `Message` or
skipping a lookup changes `ROUTE_ARMS` and breaks this), for every operation number of `ControlMessageType` it is what the
protocol says; unlisted variants fall into `_ => {}`; the errors the loop survives and the idle limit are the model's -/
theorem C19_route_table_is_the_sources_and_the_protocols :
    (∀ v ∈ T.variants.map (·.1) ++ ["Generic", "NoSuchVariant"], armOf v = armOfSource v) ∧
    (∀ p ∈ T.enumTags, armOf p.1 = specRoute p.2) ∧
    Gen.ROUTE_DEFAULT_IGNORED = true ∧
    Gen.RECEIVER_SKIPPED_ERRORS = ["Decode", "InvalidControlMessage", "Protocol"] ∧
    Gen.NODE_NET_TICK_TIME_MS = idleLimitMs := by
  decide

example : armOfSource "Exit2Tt" = .exit ∧ armOfSource "MonitorP" = .ignored ∧ specRoute 16 = .regSend := by decide

/-- **exactly one recipient**: whatever arrives — any control message, any payload, any registry — routing does
nothing, or appends one message to the mailbox of one live process, or hands one message to one outstanding call -/
theorem C19_at_most_one_recipient (st : NodeSt) (m : Control.Msg) (payload : Option Term) :
    route st m payload = st ∨
    (∃ k msg, isLive st k = true ∧ route st m payload = sendTo st k msg) ∨
    (∃ key body, key ∈ st.pending ∧ route st m payload = answer st key body) := by
  fun_cases route st m payload
  -- the four arms when their recipient is live; the SEND arm when it is not and its call is outstanding; all others
  case case2 | case6 | case10 | case13 => exact Or.inr (Or.inl ⟨_, _, ‹_›, rfl⟩)
  case case3 => exact Or.inr (Or.inr ⟨_, _, ‹_›, rfl⟩)
  all_goals exact Or.inl rfl

/-- nothing is ever taken away: a routed message leaves every process alive, every name registered, and every
mailbox with what it held before (plus at most one message at the end) -/
theorem C19_routing_never_loses (st : NodeSt) (m : Control.Msg) (payload : Option Term) (k : PidKey) (mb : List LMsg)
    (h : mailbox st k = some mb) :
    (∃ extra, mailbox (route st m payload) k = some (mb ++ extra) ∧ extra.length ≤ 1) ∧
    (route st m payload).names = st.names ∧
    (route st m payload).procs.map (·.1) = st.procs.map (·.1) := by
  rcases C19_at_most_one_recipient st m payload with hr | ⟨k', msg, _, hr⟩ | ⟨key, body, _, hr⟩
  · rw [hr]; exact ⟨⟨[], by simp [h], by simp⟩, rfl, rfl⟩
  · rw [hr]
    refine ⟨?_, rfl, sendTo_pids st k' msg⟩
    by_cases hk : k = k'
    · subst hk; exact ⟨[msg], mailbox_sendTo_same st k msg mb h, by simp⟩
    · exact ⟨[], by rw [mailbox_sendTo_other st k' k msg hk]; simp [h], by simp⟩
  · rw [hr]; exact ⟨⟨[], by simp [answer, mailbox] at h ⊢; simpa using h, by simp⟩, rfl, rfl⟩

/-- over whole histories: whatever a sequence of frames does, every mailbox keeps what it held and only grows at the
end (messages to one process arrive in the order they were sent and are never lost or overtaken), every process stays,
every name stays -/
theorem C19_mailboxes_only_grow (x : Ext) (bodies : List Bytes) (st : NodeSt) (k : PidKey) (mb : List LMsg)
    (h : mailbox st k = some mb) :
    (∃ extra, mailbox (routeAll x T st bodies) k = some (mb ++ extra)) ∧
    (routeAll x T st bodies).names = st.names ∧
    (routeAll x T st bodies).procs.map (·.1) = st.procs.map (·.1) := by
  rw [ReceiverBP.routeAll_eq_routeRes]
  generalize bodies.map (classify x T) = l
  induction l generalizing st mb with
  | nil => exact ⟨⟨[], by simp [ReceiverBP.routeRes, h]⟩, rfl, rfl⟩
  | cons r l ih =>
    cases r with
    | error e => exact ih st mb h
    | ok v =>
      obtain ⟨m, p⟩ := v
      obtain ⟨⟨e1, he1, _⟩, hn, hp⟩ := C19_routing_never_loses st m p k mb h
      obtain ⟨⟨e2, he2⟩, hn2, hp2⟩ := ih (route st m p) (mb ++ e1) he1
      exact ⟨⟨e1 ++ e2, he2.trans (by rw [List.append_assoc])⟩, hn2.trans hn, hp2.trans hp⟩

/-- the fate of a frame is a function of its bytes alone (`classify` has no other argument): a pass-through body whose
control term decodes to `ct` (a control tuple) and whose message decodes to `p` with nothing after it is routed as `(ct, p)`;
an empty rest means no message. No state of the receiver enters. -/
theorem C19_frame_fate_is_in_its_bytes (x : Ext) (st : NodeSt) (r rest : Bytes) (ct : Term) (m : Control.Msg)
    (hd : decodeTrailing x r = .ok (ct, rest)) (hm : Control.parse T ct = .ok m) :
    (rest = [] → step st (classify x T (112 :: r)) = .ok (routeCtl T st ct none)) ∧
    (∀ p, rest ≠ [] → decodeTrailing x rest = .ok (p, []) →
      step st (classify x T (112 :: r)) = .ok (routeCtl T st ct (some p))) := by
  obtain ⟨h1, h2, _⟩ := classify_pass x T r rest ct m hd hm
  constructor
  · intro h0; rw [h1 h0]; simp [step, routeCtl, hm]
  · intro p h0 hp; rw [h2 p h0 hp]; simp [step, routeCtl, hm]

/-- bytes after the payload term (connection.rs: `DecodeError::TrailingData`): the frame is not delivered to anybody, no
state changes, and the loop goes on with the next frame (the stream is at a frame boundary) -/
theorem C19_trailing_bytes_after_payload_skip_the_frame (x : Ext) (st : NodeSt) (r rest rr : Bytes) (ct p : Term)
    (m : Control.Msg) (hd : decodeTrailing x r = .ok (ct, rest)) (hm : Control.parse T ct = .ok m)
    (h0 : rest ≠ []) (h1 : rr ≠ []) (hp : decodeTrailing x rest = .ok (p, rr)) :
    classify x T (112 :: r) = .error .decode ∧ step st (classify x T (112 :: r)) = .ok st ∧
      Survivable x T (112 :: r) := by
  obtain ⟨_, _, h3⟩ := classify_pass x T r rest ct m hd hm
  have hc := h3 p rr h0 h1 hp
  refine ⟨hc, by rw [hc]; rfl, ?_⟩
  intro e he
  rw [hc] at he
  cases he
  rfl

/-- non-vacuity: `112, {2, '', <n.1.0>}, 7` followed by one more byte -/
example :
    let p : PidF := ⟨[110], 1, 0, 3, none⟩
    let r : Bytes := [131, 104, 3, 97, 2, 119, 0, 88, 119, 1, 110, 0, 0, 0, 1, 0, 0, 0, 0, 0, 0, 0, 3, 131, 97, 7, 255]
    decodeTrailing Ext.none r = .ok (.tuple [.int 2, .atom [], .pid p], [131, 97, 7, 255]) ∧
    decodeTrailing Ext.none [131, 97, 7, 255] = .ok (.int 7, [255]) := by
  exact ⟨by with_unfolding_all rfl, by with_unfolding_all rfl⟩

/-- one Rust function, two models: `classify` here and `Recv.recvRH` of property C06 (`Impl/Recv.lean`) give the same result
on every frame body, for every control table (the C06 model has one error class and reads an empty body as "no result") -/
theorem C19_classify_is_the_c06_model (x : Ext) (tbl : Control.Table) (body : Bytes) :
    toRecvRes (classify x tbl body) = Recv.recvRH x tbl body :=
  classify_eq_recvRH x tbl body

example : toRecvRes (classify Ext.none T [113, 1]) = some .err := by
  simp [classify, toRecvRes]

/-- non-vacuity from real bytes: the frame body `112, {2, '', <n.1.0>}, 7` (a SEND with message 7) decodes, parses and is
delivered to the process it names -/
example :
    let p : PidF := ⟨[110], 1, 0, 3, none⟩
    let st : NodeSt := ⟨[(p.key, [])], [], [], []⟩
    let r : Bytes := [131, 104, 3, 97, 2, 119, 0, 88, 119, 1, 110, 0, 0, 0, 1, 0, 0, 0, 0, 0, 0, 0, 3, 131, 97, 7]
    decodeTrailing Ext.none r = .ok (.tuple [.int 2, .atom [], .pid p], [131, 97, 7]) ∧
    decodeTrailing Ext.none [131, 97, 7] = .ok (.int 7, []) ∧
    Control.parse T (.tuple [.int 2, .atom [], .pid p]) = .ok (.known "Send" [("cookie", .term (.atom [])), ("to_pid", .term (.pid p))]) ∧
    mailbox (routeCtl T st (.tuple [.int 2, .atom [], .pid p]) (some (.int 7))) p.key = some [.regular (.int 7)] := by
  refine ⟨by with_unfolding_all rfl, by with_unfolding_all rfl, rfl, ?_⟩
  · exact (C19_send_to_live_process ⟨[(PidF.key ⟨[110], 1, 0, 3, none⟩, [])], [], [], []⟩ (.atom []) (.int 7)
      ⟨[110], 1, 0, 3, none⟩ [] rfl).1

/-- what a frame body can be to the receiver: a message, or one of five errors; three of them (`Error::Decode`,
`Error::InvalidControlMessage`, `Error::Protocol`) are survived, so a body is survivable unless it is empty (which a
frame never is) or makes the decoder panic -/
theorem C19_survivable_bodies (x : Ext) (body : Bytes) :
    (Survivable x T body ↔ classify x T body ≠ .error .empty ∧ classify x T body ≠ .error .panic) ∧
    (∀ b r, b ≠ 112 → classify x T (b :: r) = .error (.marker b)) ∧
    (∀ r, (∀ v, decodeTrailing x r ≠ .ok v) → decodeTrailing x r ≠ .error .panic →
      classify x T (112 :: r) = .error .decode) := by
  refine ⟨survivable_iff x T body, ?_, ?_⟩
  · intro b r hb
    simp [classify, hb]
  · intro r h1 h2
    unfold classify
    simp only [ne_eq, not_true_eq_false, if_false]
    cases hd : decodeTrailing x r with
    | ok v => exact absurd hd (h1 v)
    | error e =>
      cases e with
      | panic => exact absurd hd h2
      | err => rfl
      | trailing n => rfl

example : Survivable Ext.none T [113, 1, 2] := by
  intro e he
  simp [classify] at he
  subst he; rfl

example : Survivable Ext.none T [112] := by
  intro e he
  simp [classify, decodeTrailing] at he
  subst he; rfl

/-- **survival**: after any finite sequence of complete frames — deliverable messages, messages for unknown recipients,
unknown control kinds, control terms that are no control tuples, undecodable bodies, bodies with a wrong first byte —
and ticks (the empty bodies), in any segmentation, with `Pending` polls (silence) anywhere, the loop is exactly where
a loop started afresh on the routed state would be: still running, the connection still registered, and the rest of
the stream is read as if nothing had happened. -/
theorem C19_survives (x : Ext) (bodies : List Bytes) (st : NodeSt) (c tail : List Ev)
    (hb : ∀ b ∈ bodies, Framable b ∧ (b ≠ [] → Survivable x T b)) (hc : Clean c)
    (hp : payload c = (bodies.map (frame .distribution)).flatten) :
    loop x T st (c ++ tail) = loop x T (routeAll x T st bodies) tail :=
  loop_clean_frames x T tail bodies st c hb hc hp

example : (∀ b ∈ [[113, 1, 2], [], [112]], Framable b ∧ (b ≠ [] → Survivable Ext.none T b)) ∧
    Clean [.chunk [0, 0, 0], .pending, .chunk [3, 113, 1, 2, 0, 0, 0, 0, 0], .chunk [0, 0, 1, 112]] ∧
    payload [.chunk [0, 0, 0], .pending, .chunk [3, 113, 1, 2, 0, 0, 0, 0, 0], .chunk [0, 0, 1, 112]] =
      (([[113, 1, 2], [], [112]] : List Bytes).map (frame .distribution)).flatten := by
  refine ⟨?_, by simp [Clean], by decide⟩
  intro b hb
  simp only [List.mem_cons, List.not_mem_nil, or_false] at hb
  rcases hb with rfl | rfl | rfl
  · refine ⟨⟨by decide, by decide⟩, fun _ e he => ?_⟩
    simp [classify] at he; subst he; rfl
  · exact ⟨⟨by decide, by decide⟩, fun h => absurd rfl h⟩
  · refine ⟨⟨by decide, by decide⟩, fun _ e he => ?_⟩
    simp [classify, decodeTrailing] at he; subst he; rfl

/-- frames without effect leave no trace: bodies that are skipped or routed nowhere (`Inert`: undecodable, wrong marker,
not a control tuple, unrouted control kinds), wherever they stand in a history, do not change what any other frame does -/
theorem C19_inert_frames_leave_no_trace (x : Ext) (st : NodeSt) (before after : List Bytes) (b : Bytes)
    (h : Inert x T b) :
    routeAll x T st (before ++ b :: after) = routeAll x T st (before ++ after) := by
  rw [routeAll_append, routeAll_append, routeAll_inert x T _ b after h]

example : Inert Ext.none T [113] := by
  intro st; simp [classify, step, keepGoing]

/-- no hidden state: what a history does is the composition of what its parts do, so a frame's fate after any
survived prefix is its fate at a fresh loop on the state the prefix left -/
theorem C19_no_hidden_state (x : Ext) (st : NodeSt) (b1 b2 : List Bytes) (c1 c2 tail : List Ev)
    (h1 : ∀ b ∈ b1, Framable b ∧ (b ≠ [] → Survivable x T b)) (h2 : ∀ b ∈ b2, Framable b ∧ (b ≠ [] → Survivable x T b))
    (hc1 : Clean c1) (hc2 : Clean c2)
    (hp1 : payload c1 = (b1.map (frame .distribution)).flatten)
    (hp2 : payload c2 = (b2.map (frame .distribution)).flatten) :
    loop x T st (c1 ++ (c2 ++ tail)) = loop x T (routeAll x T st b1) (c2 ++ tail) ∧
    loop x T (routeAll x T st b1) (c2 ++ tail) = loop x T (routeAll x T st (b1 ++ b2)) tail := by
  refine ⟨loop_clean_frames x T _ b1 st c1 h1 hc1 hp1, ?_⟩
  rw [routeAll_append]
  exact loop_clean_frames x T tail b2 _ c2 h2 hc2 hp2

/-- quiet periods: a history of survivable frames, ticks and silences during which no single wait reaches the idle
limit (a tick, like any frame, starts a new wait) is survived; the silences leave no trace -/
theorem C19_survives_quiet_periods (x : Ext) (limit : Nat) (h : List Item) (w : Nat) (st : NodeSt) (tail : List Ev)
    (hc : Calm x T limit w h) :
    loop x T st (wire limit w h ++ tail) = loop x T (routeAll x T st (bodiesOf h)) tail :=
  loop_calm x T limit tail h w st hc

example : Calm Ext.none T idleLimitMs 0 [.quiet 15000, .tick, .quiet 15000, .quiet 15000, .tick, .quiet 59999] := by
  simp [Calm, idleLimitMs]

/-- the idle limit the node gives its receiver covers the interval at which a peer ticks (a quarter of Erlang's
default net_ticktime of 60 s), with the whole tick time to spare -/
theorem C19_idle_limit_covers_tick_interval : 4 * 15000 ≤ idleLimitMs := by decide

/-! ## it stops, and the connection is deregistered, only when the peer closes the stream or breaks framing -/

/-- the peer closes the stream at a frame boundary (after any survived history): the loop ends with what was routed,
and the connection is deregistered. The same when the script simply ends. -/
theorem C19_stops_on_close (x : Ext) (bodies : List Bytes) (st : NodeSt) (c tail : List Ev)
    (hb : ∀ b ∈ bodies, Framable b ∧ (b ≠ [] → Survivable x T b)) (hc : Clean c)
    (hp : payload c = (bodies.map (frame .distribution)).flatten) :
    loop x T st (c ++ .eof :: tail) = ⟨routeAll x T st bodies, .eof, tail⟩ ∧
    loop x T st (c ++ []) = ⟨routeAll x T st bodies, .eof, []⟩ ∧
    (loop x T st (c ++ .eof :: tail)).deregistered = true := by
  have h1 := loop_clean_frames x T (.eof :: tail) bodies st c hb hc hp
  have h2 := loop_clean_frames x T [] bodies st c hb hc hp
  rw [loop_at_cut x T _ (.eof :: tail) .eof tail rfl] at h1
  rw [loop_at_cut x T _ [] .eof [] rfl] at h2
  exact ⟨h1, h2, by rw [h1]; rfl⟩

/-- a length prefix above the limit (64 MiB) breaks framing: the loop ends right there, nothing after it is read -/
theorem C19_stops_on_overlong_length (x : Ext) (st : NodeSt) (c : List Ev) (len : Nat) (rest : Bytes) (tail : List Ev)
    (hc : Clean c) (hp : payload c = beN 4 len ++ rest) (hl : len < 2 ^ 32) (hcap : connCap < len) :
    ∃ c', Clean c' ∧ payload c' = rest ∧ loop x T st (c ++ tail) = ⟨st, .tooLarge len, c' ++ tail⟩ ∧
      (loop x T st (c ++ tail)).deregistered = true := by
  obtain ⟨c', k1, k2, k3⟩ := loop_clean_overlong x T st c len rest tail hc hp hl hcap
  exact ⟨c', k1, k2, k3, by rw [k3]; rfl⟩

example : Clean [.chunk [4, 0], .chunk [0, 1, 9]] ∧ payload [.chunk [4, 0], .chunk [0, 1, 9]] = beN 4 (connCap + 1) ++ [9] ∧
    connCap + 1 < 2 ^ 32 := by
  refine ⟨by simp [Clean], by decide, by decide⟩

/-- the stream ends inside a frame (premature close): the loop ends, nothing of the partial frame is routed -/
theorem C19_stops_on_close_inside_frame (x : Ext) (st : NodeSt) (c : List Ev) (m missing : Bytes) (tail : List Ev)
    (hc : Clean c) (hp : payload c ++ missing = frame .distribution m) (hmiss : missing ≠ [])
    (hf : Framable m) (ht : tail = [] ∨ ∃ t, tail = .eof :: t) :
    (loop x T st (c ++ tail)).why = .eof ∧ (loop x T st (c ++ tail)).node = st ∧
    (loop x T st (c ++ tail)).deregistered = true := by
  rcases ht with rfl | ⟨t, rfl⟩
  · rw [loop_cut x T st c m missing [] .eof [] hc hp hmiss hf rfl]
    exact ⟨rfl, rfl, rfl⟩
  · rw [loop_cut x T st c m missing _ .eof t hc hp hmiss hf rfl]
    exact ⟨rfl, rfl, rfl⟩

example : payload [.chunk [0, 0], .chunk [0, 3, 112]] ++ [1, 2] = frame .distribution [112, 1, 2] := by decide

/-- the peer falls silent inside a frame until the timeout around the read fires: the loop ends (the bytes already
consumed are gone, the stream position is unknown), nothing of the partial frame is routed -/
theorem C19_stops_on_silence_inside_frame (x : Ext) (st : NodeSt) (c : List Ev) (m missing : Bytes) (t : List Ev)
    (hc : Clean c) (hp : payload c ++ missing = frame .distribution m) (hmiss : missing ≠ []) (hf : Framable m) :
    (loop x T st (c ++ .stall :: t)).why = .timeout ∧ (loop x T st (c ++ .stall :: t)).node = st ∧
    (loop x T st (c ++ .stall :: t)).deregistered = true := by
  rw [loop_cut x T st c m missing _ .timeout t hc hp hmiss hf rfl]
  exact ⟨rfl, rfl, rfl⟩

example : payload [.chunk [0, 0, 0, 3], .pending, .chunk [112, 1]] ++ [2] = frame .distribution [112, 1, 2] ∧
    Framable [112, 1, 2] := by
  exact ⟨by decide, by decide, by decide⟩

/-- the wait for the next frame reaches the idle limit (the peer stopped ticking), or the transport fails: the loop ends -/
theorem C19_stops_on_idle_timeout_or_io_error (x : Ext) (limit w d : Nat) (r : List Item) (st : NodeSt) (tail : List Ev)
    (h : limit ≤ w + d) :
    loop x T st (wire limit w (.quiet d :: r) ++ tail) = ⟨st, .timeout, wire limit 0 r ++ tail⟩ ∧
    loop x T st (.fail :: tail) = ⟨st, .io, tail⟩ := by
  have hn : ¬ w + d < limit := by omega
  simp only [wire, hn, if_false, List.cons_append]
  exact ⟨loop_at_cut x T st _ .timeout _ rfl, loop_at_cut x T st _ .io tail rfl⟩

/-- **only then**: on every script whatsoever (any bytes, any segmentation, closes, failures, timeouts anywhere) the
loop never ends because of a frame it could read completely and not make sense of: its reason to stop is never
`Error::Decode`, `Error::InvalidControlMessage` or `Error::Protocol` -/
theorem C19_stops_only_on_stream_errors (x : Ext) (st : NodeSt) (evs : List Ev) :
    (loop x T st evs).why ≠ .decode ∧ (loop x T st evs).why ≠ .control ∧ ∀ b, (loop x T st evs).why ≠ .marker b := by
  have h := loopF_why x T (weight evs + 1) st evs
  change keepGoing (loop x T st evs).why = false at h
  refine ⟨?_, ?_, ?_⟩
  · intro he; rw [he] at h; simp [keepGoing] at h
  · intro he; rw [he] at h; simp [keepGoing] at h
  · intro b he; rw [he] at h; simp [keepGoing] at h

/-! ## bounded mailboxes: a full mailbox delays (and blocks the connection's receiver), it never drops

Everything above appends to mailboxes without bound. A real mailbox is a channel of `DEFAULT_MAILBOX_CAPACITY` messages and
`route_message` hands a message over with `ProcessHandle::send(..).await` from the connection's ONE receiver task. The
bounded system is `Impl/ReceiverBP.lean`: schedules of `rx` (the receiver routes the next message it has read, if the form of
its send lets it) and `take k` (process `k`'s `recv()` returns its oldest message); the form of each arm's send is a
parameter, read from the source by `srcRouteForms`. -/

open Edp.ReceiverBP in
/-- **the sends of `route_message` wait for room** (regenerated from node.rs / process.rs on this run): its four deliveries —
`Regular` for SEND, `Regular` for REG_SEND, `Exit` for the four exit forms, `MonitorExit` — are `handle.send(..).await?`,
and `ProcessHandle::send` is `mailbox_sender.send(msg).await`; no arm builds a message and hands it to anything else. A
`try_send`, `send_timeout` or a new handle method at one arm changes the table and breaks this. -/
theorem C19_route_sends_wait_for_room :
    (∀ a, srcRouteForms a = .await) ∧
    (Gen.MAILBOX_DELIVERIES.filter fun e => e.1 = "node.rs" ∧ e.2.1 = "route_message") =
      [("node.rs", "route_message", "Regular", "send", true, "propagated"),
       ("node.rs", "route_message", "Regular", "send", true, "propagated"),
       ("node.rs", "route_message", "Exit", "send", true, "propagated"),
       ("node.rs", "route_message", "MonitorExit", "send", true, "propagated")] ∧
    Chan.handleSendForm = .await ∧ Gen.PROCESS_HANDLE_SENDER_METHODS = ["send"] ∧
    Gen.MAILBOX_DELIVERIES.length = Gen.MAILBOX_MESSAGE_CONSTRUCTIONS ∧ 0 < Gen.MAILBOX_DEFAULT_CAPACITY := by
  refine ⟨fun a => by cases a <;> decide, by decide, by decide, by decide, by decide, by decide⟩

open Edp.ReceiverBP in
/-- **a full mailbox delays, it never drops; every routing theorem above holds with bounded mailboxes**: for every capacity,
every initial node (mailboxes filled to any degree), every sequence of frame bodies the receiver reads and EVERY schedule of
the receiver task and the processes' `recv()`s — processes that take nothing for as long as the schedule likes included —
with the send forms of the source: some prefix of the frames has been routed, and for that prefix the history of every
mailbox (what its process has taken, in order, followed by what is still queued), the names, the outstanding calls and
their answers are EXACTLY what the unbounded model (`routeAll`, the subject of `C19_send_to_live_process` …
`C19_mailboxes_only_grow`) gives; the rest of the frames is still to be routed, in order; no send has given up on a
message. -/
theorem C19_full_mailbox_delays_never_drops (x : Ext) (cap : Nat) (b0 : BSt) (bodies : List Bytes) (evs : List ReceiverBP.Ev) :
    let s := runB srcRouteForms cap ⟨b0, bodies.map (classify x T), []⟩ evs
    ∃ n, n ≤ bodies.length ∧ s.b.total = routeAll x T b0.total (bodies.take n) ∧
      s.todo = (bodies.drop n).map (classify x T) ∧ s.b.dropped = b0.dropped := by
  dsimp only
  obtain ⟨d, _, h2, h3, h4⟩ := runB_await srcRouteForms C19_route_sends_wait_for_room.1 cap evs
    ⟨b0, bodies.map (classify x T), []⟩
  -- the prefix the receiver is through with is the image of a prefix of the bodies
  obtain ⟨l1, l2, hb, rfl, hl2⟩ := List.map_eq_append_iff.mp h2
  refine ⟨l1.length, by rw [hb, List.length_append]; omega, ?_, ?_, h4⟩
  · rw [h3, hb, List.take_left, routeAll_eq_routeRes]
  · rw [← hl2, hb, List.drop_left]

open Edp.ReceiverBP in
/-- non-vacuity: a mailbox of capacity 1 that is full, an EXIT for its owner, then a SEND-like second EXIT: the receiver is
suspended until the process takes a message, then both arrive, in order -/
example :
    let k : PidKey := ⟨[110], 1, 0, 3⟩
    let p : PidF := ⟨[110], 1, 0, 3, none⟩
    let q : PidF := ⟨[120], 7, 0, 1, none⟩
    let ex (r : Int) : Except RxErr Received :=
      .ok (.known "Exit" [("from_pid", .term (.pid q)), ("to_pid", .term (.pid p)), ("reason", .term (.int r))], none)
    let s0 : Sys := ⟨⟨[⟨k, [], [.regular (.int 0)]⟩], [], [], [], []⟩, [ex 1, ex 2], []⟩
    (runB srcRouteForms 1 s0 [.rx, .rx]).todo.length = 2 ∧
    (runB srcRouteForms 1 s0 [.rx, .take k, .rx, .rx, .take k, .rx]).todo.length = 0 ∧
    ((runB srcRouteForms 1 s0 [.rx, .take k, .rx, .rx, .take k, .rx]).b.boxes.map fun b => (b.taken.length, b.queue.length)) =
      [(2, 1)] := by
  decide

open Edp.ReceiverBP in
/-- **head-of-line blocking** (not a violation of the statement — nothing is lost — but worth knowing): when the receiver
has a message to route and cannot step, it is suspended inside `route_message` on the full mailbox of a live process `k`;
until `k` takes a message NOTHING further of this connection is routed — messages for other processes, answers to
outstanding calls and the detection of a closed stream included (`todo` does not change under `rx`). -/
theorem C19_full_mailbox_blocks_the_receiver (F : Arm → Chan.Form) (cap : Nat) (s : Sys)
    (h : rxStep F cap s = none) (ht : s.todo ≠ []) :
    (∃ k msg, s.blockedOn cap = some (k, msg) ∧ cap ≤ s.b.queued k) ∧
    ∀ n, runB F cap s (List.replicate n .rx) = s := by
  refine ⟨rxStep_none F cap s h ht, ?_⟩
  intro n
  induction n with
  | zero => rfl
  | succ n ih =>
    show runB F cap ((stepB F cap s .rx).getD s) (List.replicate n .rx) = s
    have : stepB F cap s .rx = none := h
    rw [this]
    exact ih

open Edp.ReceiverBP in
/-- **the parameter matters** (what `try_send` at the exit arm would do): a live process whose mailbox is full at the moment
an EXIT for it is routed never gets the notification — `route_message` returns an error, the loop logs it and goes on; the
mailbox history is NOT what `C19_exit_reaches_target` promises. -/
theorem C19_a_send_that_gives_up_loses_the_notification :
    ∃ (F : Arm → Chan.Form) (s0 : Sys) (k : PidKey), (∀ a, a ≠ .exit → F a = srcRouteForms a) ∧
      isLive s0.b.view k = true ∧
      let s := runB F 1 s0 [.rx, .take k, .take k]
      s.todo = [] ∧ s.b.dropped.length = 1 ∧ (s.b.boxes.map fun b => (b.taken.length, b.queue.length)) = [(1, 0)] ∧
      ((mailbox (routeRes s0.b.total s0.todo) k).map List.length) = some 2 :=
  ⟨fun a => if a = .exit then .trySend else srcRouteForms a,
    ⟨⟨[⟨⟨[110], 1, 0, 3⟩, [], [.regular (.int 0)]⟩], [], [], [], []⟩,
      [.ok (.known "Exit" [("from_pid", .term (.pid ⟨[120], 7, 0, 1, none⟩)), ("to_pid", .term (.pid ⟨[110], 1, 0, 3, none⟩)),
        ("reason", .term (.int 1))], none)], []⟩,
    ⟨[110], 1, 0, 3⟩, fun a ha => by simp [ha], by decide, by decide⟩

/-- The state the receiver/routing model carries IS the state the node keeps (regenerated from the source on every run):
registry, connections and the table of outstanding calls (plus name, cookie, creation, the two counters' owners, and the
start flag); nothing else is consulted when a message is routed, in the struct or process-wide. -/
theorem C19_state_is_the_sources_state :
    Edp.Gen.STRUCT_Node =
      ["name:Atom", "cookie:String", "creation:Arc<AtomicU32>", "pid_allocator:Arc<PidAllocator>",
       "reference_counter:Arc<AtomicU32>", "registry:Arc<ProcessRegistry>",
       "connections:Arc<DashMap<String,Arc<Mutex<Connection>>>>",
       "pending_rpcs:Arc<DashMap<String,oneshot::Sender<OwnedTerm>>>", "started:Arc<AtomicBool>",
       "listen_port:Option<u16>", "hidden:bool"]
    ∧ Edp.Gen.PROCESS_WIDE_STATE = [] := by decide

/-- the text under which an outstanding call is filed (`pending_rpcs.insert` in `rpc_call_raw_with_timeout`) and looked up
(`pending_rpcs.remove` in the Send arm of `route_message`), regenerated from node.rs at both sites, is
`"{}.{}.{}"` of the reply pid's id, serial AND creation — the three numbers of the model's `rpcKey` —, the same at both
sites; and the model's key tells apart any two pids that differ in one of them.  A key that drops a field (a late reply
to the node's previous incarnation would then complete a call of this one) changes the generated text. -/
theorem C19_reply_key_is_the_sources_key :
    Gen.RPC_KEY_FORMAT_CALL = ("{}.{}.{}", ["id", "serial", "creation"]) ∧
    Gen.RPC_KEY_FORMAT_ROUTE = Gen.RPC_KEY_FORMAT_CALL ∧
    ∀ p q : PidF, rpcKey p = rpcKey q ↔ (p.id = q.id ∧ p.serial = q.serial ∧ p.creation = q.creation) := by
  refine ⟨by decide, by decide, ?_⟩
  intro p q
  simp [rpcKey]

example : rpcKey ⟨[110], 4, 0, 3, none⟩ ≠ rpcKey ⟨[110], 4, 0, 2, none⟩ := by decide

/-- a SEND for a pid that differs from the reply pid of an outstanding call in its id, its serial or its creation — a
near miss: a late reply to an earlier call or to an earlier incarnation of the node — never completes that call,
whatever else it does (it may be for a live process or for another outstanding call): the call stays outstanding and
is handed nothing -/
theorem C19_near_miss_leaves_the_call_outstanding (st : NodeSt) (cookie body : Term) (p q : PidF)
    (hp : rpcKey p ∈ st.pending) (hne : q.id ≠ p.id ∨ q.serial ≠ p.serial ∨ q.creation ≠ p.creation) :
    let st' := routeCtl T st (.tuple [.int 2, cookie, .pid q]) (some body)
    rpcKey p ∈ st'.pending ∧
    st'.replies.filter (fun r => r.1 = rpcKey p) = st.replies.filter (fun r => r.1 = rpcKey p) := by
  have hk : rpcKey q ≠ rpcKey p := by
    intro h
    have := (C19_reply_key_is_the_sources_key.2.2 q p).mp h
    omega
  intro st'
  have hr : st' = _ := routeCtl_send (parse_send ..) rfl rfl
  rw [hr]
  -- delivered to a live process, handed to another call, or dropped: the call of `p` is not touched
  split
  · exact ⟨hp, rfl⟩
  · split
    · constructor
      · simp only [answer, List.mem_filter]
        exact ⟨hp, by simpa using fun h => hk h.symm⟩
      · simp [answer, hk]
    · exact ⟨hp, rfl⟩

example : (∃ q p : PidF, rpcKey p ∈ [((4 : Nat), (0 : Nat), (3 : Nat))] ∧ q.creation ≠ p.creation) :=
  ⟨⟨[110], 4, 0, 2, none⟩, ⟨[110], 4, 0, 3, none⟩, by decide, by decide⟩

end Edp.Props.C19
