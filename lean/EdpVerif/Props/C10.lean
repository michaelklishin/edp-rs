import EdpVerif.Impl.EqHash
import EdpVerif.Lemmas.LocalSpan
import EdpVerif.Lemmas.Convert
import EdpVerif.Lemmas.DecSorted
import EdpVerif.Lemmas.RoundTripLocal
import EdpVerif.Generated.MiscC10
import EdpVerif.Generated.Tags
/-
C10 — identifiers received from a peer are re-emitted byte-for-byte.
-/
namespace Edp.Props.C10
open Edp

/-- an identifier that carries preserved node-local bytes is written back as exactly `LOCAL_EXT` followed by those
bytes, whatever its logical fields and whatever atom cache is in force -/
theorem C10_local_pid_verbatim (cache : List Bytes) (p : PidF) (l : Bytes) (h : p.loc = some l) :
    enc cache (.pid p) = .ok (121 :: l) := encPid_loc h

theorem C10_local_port_verbatim (cache : List Bytes) (n : Bytes) (i c : Nat) (l : Bytes) :
    enc cache (.port n i c (some l)) = .ok (121 :: l) := rfl

theorem C10_local_ref_verbatim (cache : List Bytes) (n : Bytes) (c : Nat) (ids : List Nat) (l : Bytes) :
    enc cache (.ref n c ids (some l)) = .ok (121 :: l) := rfl

/-- identifiers compare by their logical fields only: the preserved bytes never influence the order, so the same
identifier is recognised whichever form it arrived in -/
theorem C10_pid_order_ignores_local (p : PidF) (l l' : Option Bytes) (t : Term) :
    Term.cmp (.pid { p with loc := l }) t = Term.cmp (.pid { p with loc := l' }) t := by
  unfold Term.cmp
  simp only [Term.norm]
  -- against another kind the rank decides; against a pid `pidCmp` reads the four logical fields
  cases Term.norm t with
  | pid => simp [Term.cmpN, Term.pidCmp]
  | _ => rw [Term.cmpN_of_rank_ne _ _ (by simp [Term.rank]), Term.cmpN_of_rank_ne _ _ (by simp [Term.rank])]; rfl

theorem C10_port_order_ignores_local (n : Bytes) (i c : Nat) (l l' : Option Bytes) (t : Term) :
    Term.cmp (.port n i c l) t = Term.cmp (.port n i c l') t := by
  unfold Term.cmp
  simp only [Term.norm]
  cases Term.norm t with
  | port => simp [Term.cmpN]
  | _ => rw [Term.cmpN_of_rank_ne _ _ (by simp [Term.rank]), Term.cmpN_of_rank_ne _ _ (by simp [Term.rank])]; rfl

theorem C10_ref_order_ignores_local (n : Bytes) (c : Nat) (ids : List Nat) (l l' : Option Bytes) (t : Term) :
    Term.cmp (.ref n c ids l) t = Term.cmp (.ref n c ids l') t := by
  unfold Term.cmp
  simp only [Term.norm]
  cases Term.norm t with
  | ref => simp [Term.cmpN]
  | _ => rw [Term.cmpN_of_rank_ne _ _ (by simp [Term.rank]), Term.cmpN_of_rank_ne _ _ (by simp [Term.rank])]; rfl

/-- the decoder keeps, for a LOCAL_EXT-wrapped pid, exactly the bytes that followed the tag: 8 hash bytes and the
nested encoding — shown here for the modern pid form with any node atom, any numbers, any hash, any trailing data -/
theorem C10_decode_keeps_local_bytes (x : Ext) (hash node rest : Bytes) (id serial creation fuel d : Nat)
    (hh : hash.length = 8) (hn : node.length ≤ 255) (hu : validUtf8 node = true)
    (hid : id < 2 ^ 32) (hs : serial < 2 ^ 32) (hc : creation < 2 ^ 32) (hd : d + 2 ≤ MAX_NESTING_DEPTH) :
    let inner := 88 :: 119 :: UInt8.ofNat node.length :: node ++ be32 id ++ be32 serial ++ be32 creation
    dec x {} (fuel + 3) d (121 :: hash ++ inner ++ rest) =
      .ok (.pid { node, id, serial, creation, loc := some (hash ++ inner) }, rest) := by
  intro inner
  have hp : enc [] (.pid { node, id, serial, creation }) = .ok inner := by
    have h1 : ¬ node.length > u16max := by simp only [u16max]; omega
    simp [enc, encPid, encAtom, indexOf?, h1, Nat.not_lt.mpr hn, be8, beN, inner]
  have := (dec_enc_local x {} [] (cfgFor_nil _) (by simp) rfl
    (.pid { node, id, serial, creation, loc := some (hash ++ inner) }) hash inner rest fuel d rfl hh
    (by simp [clearLoc, wfT, wfPid, hu]; omega) hp rfl hd).2
  simpa using this

/-! ### equality and hash (`PartialEq` / `Hash`, Impl/EqHash.lean — tied to the real `==` and `Hash::hash` by C11's run) -/

/-- `==` never looks at the preserved bytes: for the three identifier kinds, against any term, on either side -/
theorem C10_eq_ignores_local (t u : Term) (l l' : Option Bytes) :
    (∀ p : PidF, Term.eqv (.pid { p with loc := l }) u = Term.eqv (.pid { p with loc := l' }) u ∧
                 Term.eqv t (.pid { p with loc := l }) = Term.eqv t (.pid { p with loc := l' })) ∧
    (∀ n i c, Term.eqv (.port n i c l) u = Term.eqv (.port n i c l') u ∧ Term.eqv t (.port n i c l) = Term.eqv t (.port n i c l')) ∧
    (∀ n c ids, Term.eqv (.ref n c ids l) u = Term.eqv (.ref n c ids l') u ∧ Term.eqv t (.ref n c ids l) = Term.eqv t (.ref n c ids l')) := by
  refine ⟨fun p => ⟨?_, ?_⟩, fun n i c => ⟨?_, ?_⟩, fun n c ids => ⟨?_, ?_⟩⟩
  · cases u <;> rfl
  · cases t <;> rfl
  · cases u <;> rfl
  · cases t <;> rfl
  · cases u <;> rfl
  · cases t <;> rfl

example : Term.eqv (.pid { node := [97], id := 1, serial := 2, creation := 3, loc := some [1, 2, 3] })
    (.pid { node := [97], id := 1, serial := 2, creation := 3, loc := none }) = true := by
  simp [Term.eqv, pidEq]

/-- the bytes fed to the hasher never contain the preserved bytes: the same identifier hashes the same in either form -/
theorem C10_hash_ignores_local (l l' : Option Bytes) :
    (∀ p : PidF, Term.hashBytes (.pid { p with loc := l }) = Term.hashBytes (.pid { p with loc := l' })) ∧
    (∀ n i c, Term.hashBytes (.port n i c l) = Term.hashBytes (.port n i c l')) ∧
    (∀ n c ids, Term.hashBytes (.ref n c ids l) = Term.hashBytes (.ref n c ids l')) := by
  exact ⟨fun _ => rfl, fun _ _ _ => rfl, fun _ _ _ => rfl⟩

example : Term.hashBytes (.port [97] 1 2 (some [9])) = Term.hashBytes (.port [97] 1 2 none) := by simp [Term.hashBytes]

/-- every identifier kind, every well-formed inner form, any hash, at any depth the limit allows, with anything behind it:
the node-local form is written back as `LOCAL_EXT ++ hash ++ inner` and read again as the same identifier carrying the same
bytes (Lemmas/RoundTrip.lean `dec_enc_local`) -/
theorem C10_local_roundtrip (x : Ext) (t : Term) (hash plain r : Bytes) (fuel d : Nat)
    (hid : isIdent t = true) (hh : hash.length = 8) (hw : wfT (clearLoc t) = true)
    (hp : enc [] (clearLoc t) = .ok plain) (hl : locOf t = some (hash ++ plain)) (hd : d + 2 ≤ MAX_NESTING_DEPTH) :
    enc [] t = .ok (121 :: (hash ++ plain)) ∧ dec x {} (fuel + 3) d (121 :: (hash ++ plain) ++ r) = .ok (t, r) :=
  dec_enc_local x {} [] (by simp [cfgFor]) (by simp) rfl t hash plain r fuel d hid hh hw hp hl hd

/-- whatever the decoder accepts behind a LOCAL_EXT tag as an identifier — the modern or a legacy form inside, another
LOCAL_EXT, even a compressed term; any hash; at any depth; with anything behind it; any behaviour of the external calls —
the encoder writes that identifier back as exactly the bytes the decoder consumed, and those are the bytes it carries -/
theorem C10_local_span_reemitted (x : Ext) (cfg : DecCfg) (cache : List Bytes) (fuel d : Nat) (bs r : Bytes) (t : Term)
    (h : dec x cfg fuel d (121 :: bs) = .ok (t, r)) (hid : isIdent t = true) :
    ∃ span, 121 :: bs = span ++ r ∧ enc cache t = .ok span ∧ locOf t = some (span.drop 1) :=
  dec_local_reemitted x cfg cache fuel d bs r t h hid

example : ∃ span, 121 :: ([1, 2, 3, 4, 5, 6, 7, 8] ++ (88 :: 119 :: 1 :: [97] ++ be32 1 ++ be32 2 ++ be32 3) ++ [9]) = span ++ [9] ∧
    enc [] (.pid ⟨[97], 1, 2, 3, some ([1, 2, 3, 4, 5, 6, 7, 8] ++ (88 :: 119 :: 1 :: [97] ++ be32 1 ++ be32 2 ++ be32 3))⟩) = .ok span :=
  have h := C10_decode_keeps_local_bytes Ext.none [1, 2, 3, 4, 5, 6, 7, 8] [97] [9] 1 2 3 0 0 rfl (by decide) (by decide)
    (by decide) (by decide) (by decide) (by decide)
  let ⟨span, h1, h2, _⟩ := C10_local_span_reemitted Ext.none {} [] 3 0 _ [9] _ h rfl
  ⟨span, h1, h2⟩

/-- an identifier that carries preserved bytes `l`, in ANY position of a term — tuple element, list element, element or
tail of an improper list, map key, map value, free variable of a fun, nested to any depth in any mixture (`TCtx`,
Lemmas/LocalSpan.lean) — is written as the one block `LOCAL_EXT ++ l` inside the term's encoding, whatever surrounds it
and whatever atom cache is in force -/
theorem C10_nested_verbatim (cache : List Bytes) (c : TCtx) (u : Term) (l bs : Bytes)
    (hid : isIdent u = true) (hl : locOf u = some l) (h : enc cache (c.plug u) = .ok bs) : Occurs (121 :: l) bs := by
  obtain ⟨ub, hu, ho⟩ := enc_plug cache c u bs h
  cases hu.symm.trans (enc_ident_loc hid hl)
  exact ho

/-- a pid with preserved bytes as a map key inside a list tail inside a tuple -/
example : ∃ bs, enc [] ((TCtx.tuple [.int 1] (.ilistTail [.nil] (.mapKey [] .hole (.int 2) [])) []).plug
      (.pid { node := [97], id := 1, serial := 2, creation := 3, loc := some [9, 9] })) = .ok bs ∧ Occurs [121, 9, 9] bs :=
  ⟨_, rfl, C10_nested_verbatim [] (TCtx.tuple [.int 1] (.ilistTail [.nil] (.mapKey [] .hole (.int 2) [])) [])
    (.pid { node := [97], id := 1, serial := 2, creation := 3, loc := some [9, 9] }) [9, 9] _ rfl rfl rfl⟩

/-- the same for the creator pid of a fun (a `PidF` field, not a sub-term), the fun itself in any position -/
theorem C10_fun_pid_verbatim (cache : List Bytes) (c : TCtx) (a : Nat) (un : Bytes) (i nf : Nat) (m : Bytes) (oi ou : Nat)
    (p : PidF) (fr : List Term) (l bs : Bytes) (hl : p.loc = some l)
    (h : enc cache (c.plug (.ifun a un i nf m oi ou p fr)) = .ok bs) : Occurs (121 :: l) bs := by
  obtain ⟨ub, hu, ho⟩ := enc_plug cache c _ bs h
  obtain ⟨pb, hp, ho'⟩ := enc_fun_pid cache a un i nf m oi ou p fr ub hu
  cases hp.symm.trans (encPid_loc hl)
  exact ho'.trans ho

example : ∃ bs, enc [] (.ifun 0 [] 0 0 [109] 1 2 { node := [97], id := 1, serial := 2, creation := 3, loc := some [7] } []) = .ok bs ∧
    Occurs [121, 7] bs :=
  ⟨_, rfl, C10_fun_pid_verbatim [] .hole 0 [] 0 0 [109] 1 2 { node := [97], id := 1, serial := 2, creation := 3, loc := some [7] } [] [7] _ rfl rfl⟩

/-! ### however cloned, moved or converted (Impl/Convert.lean: borrowed.rs arm by arm, `derive(Clone)` field by field) -/

/-- the derived clones of the three identifier structs copy every field, the preserved bytes among them -/
theorem C10_clone_keeps_local :
    (∀ p : PidF, clonePid p = p) ∧ (∀ n i c l, clonePort n i c l = (n, i, c, l)) ∧ (∀ n c ids l, cloneRef n c ids l = (n, c, ids, l)) ∧
    (∀ t, cloneT t = t) ∧ (∀ b, cloneB b = b) :=
  ⟨fun _ => rfl, fun _ _ _ _ => rfl, fun _ _ _ _ => rfl, cloneT_id, cloneB_id⟩

/-- `to_owned` of ANY zero-copy tree (any ownership flags, identifiers in any form at any depth, maps that are `BTreeMap`s:
`btreeSorted`) is the tree's structural image: nothing is dropped, reordered or rebuilt, and in particular every identifier
keeps its preserved bytes -/
theorem C10_to_owned_structural (b : BTerm) (h : btreeSorted (erase b) = true) : toOwned b = erase b := toOwned_erase b h

/-- and `From<&OwnedTerm>` builds a tree whose structural image is the term it was built from -/
theorem C10_from_owned_structural (t : Term) (h : btreeSorted t = true) : erase (fromOwned t) = t := erase_fromOwned t h

example : toOwned (fromOwned (.tuple [.port [97] 1 2 (some [5, 5]), .map [(.int 1, .atom [98])]])) =
    .tuple [.port [97] 1 2 (some [5, 5]), .map [(.int 1, .atom [98])]] :=
  toOwned_fromOwned _ (by simp [btreeSorted, btreeSortedL, btreeSortedKV, pairwiseLt, allLt])

/-- every sequence of clones, moves and conversions through the zero-copy representation (with or without a clone of the
zero-copy tree in between) returns the term it started from, so the encoder writes the same bytes afterwards — every term
whose maps are `BTreeMap`s, every sequence -/
theorem C10_conversions_identity (cs : List Conv) (t : Term) (h : btreeSorted t = true) :
    applyConvs cs t = t ∧ encode (applyConvs cs t) = encode t := by
  rw [applyConvs_id cs t h]; exact ⟨rfl, rfl⟩

example : applyConvs [.clone, .viaBorrowed, .move, .viaBorrowedClone] (.ref [97] 1 [2, 3] (some [4])) = .ref [97] 1 [2, 3] (some [4]) :=
  (C10_conversions_identity _ _ rfl).1

/-- the `btreeSorted` guard is discharged for everything the decoder returns: a decoded term (any configuration, cache, input;
`decode`, `decode_borrowed`, `decode_with_atom_cache`) whose map keys carry minimal big integers (`mapKeysMin`; on other keys
the library's order is not transitive, C11's recorded finding) is unchanged by every sequence of clones, moves and
conversions, and is written as the same bytes afterwards -/
theorem C10_conversions_identity_decoded (x : Ext) (cfg : DecCfg) (bs : Bytes) (t : Term) (cs : List Conv)
    (h : decodeWith x cfg bs = .ok t) (hk : mapKeysMin t = true) :
    btreeSorted t = true ∧ applyConvs cs t = t ∧ encode (applyConvs cs t) = encode t := by
  have hb : btreeSorted t = true :=
    btreeSorted_of_mapsStrict t (mapsStrict_of_btInv t (decodeWith_btInv x cfg bs t h) hk)
  exact ⟨hb, C10_conversions_identity cs t hb⟩

/-- non-vacuity: a node-local pid as a map value, keys sent out of order -/
example : mapKeysMin (.map [(.int 1, .pid { node := [97], id := 1, serial := 2, creation := 3, loc := some [9] }), (.int 2, .nil)]) = true := by
  simp [mapKeysMin, mapKeysMinKV, keysWFo, WFo]

/-- received, converted, put anywhere into a new term (the pid of a request used in the reply), encoded: the output contains
exactly the bytes that were received — every input the decoder accepts as an identifier behind LOCAL_EXT, every sequence of
conversions, every context, any atom cache on the way out -/
theorem C10_received_reemitted_anywhere (x : Ext) (cfg : DecCfg) (cache : List Bytes) (fuel d : Nat) (bs r out : Bytes) (u : Term)
    (cs : List Conv) (c : TCtx) (h : dec x cfg fuel d (121 :: bs) = .ok (u, r)) (hid : isIdent u = true)
    (he : enc cache (c.plug (applyConvs cs u)) = .ok out) : ∃ span, 121 :: bs = span ++ r ∧ Occurs span out := by
  obtain ⟨span, h1, h2, h3⟩ := dec_local_reemitted x cfg cache fuel d bs r u h hid
  have hm : btreeSorted u = true := by cases u <;> simp [isIdent] at hid <;> simp [btreeSorted]
  rw [applyConvs_id cs u hm] at he
  refine ⟨span, h1, ?_⟩
  have ho := C10_nested_verbatim cache c u (span.drop 1) out hid h3 he
  rwa [← Except.ok.inj (h2.symm.trans (enc_ident_loc hid h3))] at ho

/-- decoding what the encoder wrote for a term with node-local identifiers AT ANY DEPTH (as map values, tuple elements, fun
creators, …) returns the term's wire form with every identifier intact — same `loc` bytes — for every atom cache the encoder
used and the decoder configuration that fits it, any fuel that covers the term, any depth, any trailing bytes, any behaviour
of the external calls (Lemmas/RoundTrip.lean `dec_encG`: the mutual induction of the round trip over `wfX`) -/
theorem C10_nested_local_roundtrip (x : Ext) (cfg : DecCfg) (cache : List Bytes) (hc : cfgFor cache cfg)
    (hlen : cache.length ≤ 256) (hb : cfg.borrowed = false) (t : Term) (bs r : Bytes) (fuel d : Nat)
    (hw : wfX cache t) (hd : depX t + d ≤ MAX_NESTING_DEPTH) (he : enc cache t = .ok bs) (hf : tszX t ≤ fuel) :
    dec x cfg fuel d (bs ++ r) = .ok (wire t, r) := dec_encX x cfg cache hc hlen hb t bs r fuel d hw hd he hf

/-- and at the top level: `decode (encode t) = wire t`, then encoded again gives the same bytes (identifiers replayed
verbatim) — for every such term whose maps have increasing keys and that has no empty improper list -/
theorem C10_nested_local_reencode (x : Ext) (t t' : Term) (bs : Bytes) (hw : wfX [] t) (hd : depX t ≤ MAX_NESTING_DEPTH)
    (hs : sortedKeys t = true) (hn : noEmptyImproper t = true) (he : encode t = .ok bs) (hdec : decode x bs = .ok t') :
    t' = wire t ∧ encode t' = .ok bs := by
  rw [decode_encode_local x t bs hw hd he] at hdec
  cases hdec
  exact ⟨rfl, encode_wire t bs hs hn he⟩

/-- non-vacuity: a node-local port inside a list inside a tuple satisfies the hypotheses -/
example : wfX [] (.tuple [.list [.port [97] 1 2 (some [1, 2, 3, 4, 5, 6, 7, 8, 120, 119, 1, 97, 0, 0, 0, 0, 0, 0, 0, 1, 0, 0, 0, 2])]]) := by
  simp only [wfX, wfXL, locOk, locOf]
  refine ⟨by decide, ⟨by decide, ?_, trivial⟩, trivial⟩
  exact ⟨[1, 2, 3, 4, 5, 6, 7, 8], [120, 119, 1, 97, 0, 0, 0, 0, 0, 0, 0, 1, 0, 0, 0, 2], rfl, rfl, by decide, rfl⟩

/-- the three identifier structs derive `Clone` (no hand-written one), `local_ext_bytes` is among their fields and is looked at
by none of `eq` / `hash` / `cmp` (exactly the other fields are); `with_local_ext_bytes` stores its argument, `new` stores
nothing; both conversions have one arm per variant of `BorrowedTerm`, variant to same variant, the identifier arms being
`p.clone()`; the three identifier encoders start by replaying the preserved bytes behind `LOCAL_EXT` = 121; `parse_local_ext`
keeps `start[..8 + nested_len]` for exactly the three kinds; `is_borrowed` looks at the eight variants the model looks at -/
theorem C10_source_shape :
    Gen.C10_PID_FIELDS = ["node", "id", "serial", "creation", "local_ext_bytes"] ∧
    Gen.C10_PORT_FIELDS = ["node", "id", "creation", "local_ext_bytes"] ∧
    Gen.C10_REF_FIELDS = ["node", "creation", "ids", "local_ext_bytes"] ∧
    ("Clone" ∈ Gen.C10_PID_DERIVES ∧ "Clone" ∈ Gen.C10_PORT_DERIVES ∧ "Clone" ∈ Gen.C10_REF_DERIVES) ∧
    (Gen.C10_PID_MANUAL_CLONE = false ∧ Gen.C10_PORT_MANUAL_CLONE = false ∧ Gen.C10_REF_MANUAL_CLONE = false) ∧
    (Gen.C10_PID_EQ_FIELDS = Gen.C10_PID_FIELDS.filter (· != "local_ext_bytes") ∧ Gen.C10_PID_HASH_FIELDS = Gen.C10_PID_EQ_FIELDS ∧
      Gen.C10_PID_ORD_FIELDS = Gen.C10_PID_EQ_FIELDS) ∧
    (Gen.C10_PORT_EQ_FIELDS = Gen.C10_PORT_FIELDS.filter (· != "local_ext_bytes") ∧ Gen.C10_PORT_HASH_FIELDS = Gen.C10_PORT_EQ_FIELDS ∧
      Gen.C10_PORT_ORD_FIELDS = Gen.C10_PORT_EQ_FIELDS) ∧
    (Gen.C10_REF_EQ_FIELDS = Gen.C10_REF_FIELDS.filter (· != "local_ext_bytes") ∧ Gen.C10_REF_HASH_FIELDS = Gen.C10_REF_EQ_FIELDS ∧
      Gen.C10_REF_ORD_FIELDS = Gen.C10_REF_EQ_FIELDS) ∧
    (Gen.C10_PID_KEEPS_LOCAL && Gen.C10_PORT_KEEPS_LOCAL && Gen.C10_REF_KEEPS_LOCAL &&
      Gen.C10_PID_NEW_PLAIN && Gen.C10_PORT_NEW_PLAIN && Gen.C10_REF_NEW_PLAIN) = true ∧
    Gen.C10_BORROWED_VARIANTS.length = 17 ∧
    Gen.C10_TO_OWNED_ARMS = Gen.C10_BORROWED_VARIANTS.map (fun v => (v, v)) ∧
    Gen.C10_FROM_OWNED_ARMS = Gen.C10_BORROWED_VARIANTS.map (fun v => (v, v)) ∧
    Gen.C10_IDENT_COPIES = ["to_owned:Pid:clone", "to_owned:Port:clone", "to_owned:Reference:clone",
      "from:Pid:clone", "from:Port:clone", "from:Reference:clone"] ∧
    Gen.C10_IS_BORROWED_ARMS = ["Atom", "Binary", "BitBinary", "String", "List", "ImproperList", "Map", "Tuple"] ∧
    Gen.C10_ENC_REPLAY = ["encode_pid_impl", "encode_port_impl", "encode_reference_impl"] ∧
    Gen.C10_LOCAL_KEEP = ["Pid", "Port", "Reference"] ∧ Gen.LOCAL_EXT = 121 := by decide

end Edp.Props.C10
