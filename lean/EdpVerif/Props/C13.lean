import EdpVerif.Lemmas.DecMono
import EdpVerif.Lemmas.DecModern
import EdpVerif.Lemmas.DecCtx
import EdpVerif.Lemmas.DecNoPanic
import EdpVerif.Impl.TableTie
import EdpVerif.Generated.MiscC13
import EdpVerif.Lemmas.Convert
import EdpVerif.Lemmas.DecSorted
/-
C13 — the zero-copy decoder agrees with the owned decoder.

Models.  `decode` / `decodeBorrowed` are the two configurations of one generic decoder model (Impl/Decode.lean), each tied
to its own Rust twin by the correspondence run (`dec` / `decb` lines).  `decodeBorrowedCtx` (Impl/DecodeCtx.lean) is the
zero-copy parser family once more, function by function, WITH the `ParsingContext` it maintains (byte offset, path, the
`usize` subtraction that computes the offset); it is tied to `decode_borrowed` including the reported offset and path
(`c13ctx` lines), and `C13_ctx_erase` shows that forgetting the context gives `decodeBorrowed` on every input.
Both configurations return a `Term`: the structural image of the tree the Rust function builds.  The zero-copy tree itself
(`BTerm`, with one flag per `Cow`) and `to_owned` on it (`toOwned`) are modelled in Impl/Convert.lean; `C13_to_owned_forgets_ownership`
says `toOwned` gives back the image whatever the flags, the maps being `BTreeMap`s (`btreeSorted`).  The harness checks on every accepted input that the canonical text
written from the zero-copy tree itself equals the text of the converted term, and that `From<&OwnedTerm>` followed by
`to_owned` returns it.

Clauses.  (1) same term whenever the zero-copy decoder accepts: `C13_agree`, `C13_agree_ctx`, `C13_reject_both`.
(2) accepts whenever the owned decoder accepts, on inputs laid out with modern tags only: `C13_modern_accepts`,
`C13_modern_accepts_ctx`, with the guard `Spec.Modern.modernOnly` (an independent recogniser of the layout); the guard
cannot be dropped (`C13_legacy_refused`); the tag tables behind it are regenerated (`C13_tagsets`, `C13_modern_dispatched`,
`C13_owned_only_exact`, `C13_ctx_parsers`).
(3) the reported offset lies within the input: `C13_offset_within` (with `C13_no_underflow`: the subtraction that computes
it never wraps), and what more is true: `C13_offset_behind_version`, `C13_trailing_offset`, `C13_version_offset`.
-/
namespace Edp.Props.C13
open Edp

/-- evaluation of the models on a concrete input (non-vacuity examples) -/
macro "evalm" : tactic => `(tactic| simp [decodeBorrowedCtx, decC, decCN, decCKV, decodeBorrowed, decode, decodeWith, dec, decN, decKV,
  ownedOnlyTags, ctxLeafTags, cBorrowed, MAX_NESTING_DEPTH, MAX_ATOM_SIZE, MAX_LIST_SIZE, MAX_TUPLE_SIZE, rdU, rdN, takeE, takeN,
  decAtomBody, decLatin1Body, latin1ToUtf8, utf8Encode, utf8EncodeCp, Ext.none, SeqKind.seg])

/-- on every input the zero-copy decoder accepts, the owned decoder returns exactly the same term
(any external behaviour of zlib / float parsing, any atom cache, any fuel, any depth) -/
theorem C13_agree (x : Ext) (bs : Bytes) (t : Term) :
    decodeBorrowed x bs = .ok t → decode x bs = .ok t :=
  decodeWith_mono x (cfg := { borrowed := true }) (cfg' := {}) rfl (fun _ => rfl) bs t

example : decodeBorrowed Ext.none [131, 97, 5] = .ok (.int 5) := by evalm

/-- an input the owned decoder refuses is refused by the zero-copy decoder -/
theorem C13_reject_both (x : Ext) (bs : Bytes) (e : DErr) :
    decode x bs = .error e → ∃ e', decodeBorrowed x bs = .error e' := by
  intro h
  cases hb : decodeBorrowed x bs with
  | error e' => exact ⟨e', rfl⟩
  | ok t => rw [C13_agree x bs t hb] at h; simp at h

example : decode Ext.none [131, 0] = .error .err := by evalm

/-- `to_owned` forgets the ownership flags and nothing else: whatever tree the zero-copy decoder built — any term shape,
any mixture of borrowed and owned `Cow`s (`tagWith t fl`: the tree with structural image `t` and flags `fl`), maps being
`BTreeMap`s (`btreeSorted`) — converting it gives exactly the term it is the image of -/
theorem C13_to_owned_forgets_ownership (t : Term) (fl : List Bool) (h : btreeSorted t = true) :
    erase (tagWith t fl).1 = t ∧ toOwned (tagWith t fl).1 = t :=
  ⟨erase_tagWith t fl, toOwned_tagWith t fl h⟩

example : toOwned (tagWith (.tuple [.atom [97], .bin [1], .map [(.atom [98], .str [99])]]) [true, false, false, true]).1 =
    .tuple [.atom [97], .bin [1], .map [(.atom [98], .str [99])]] :=
  (C13_to_owned_forgets_ownership _ _ (by simp [btreeSorted, btreeSortedL, btreeSortedKV, pairwiseLt, allLt])).2

/-- clause 1 with the conversion spelled out: on every input the zero-copy decoder accepts with a tree whose image is `t`,
whatever that tree borrows and whatever it owns, `to_owned` of the tree is exactly the term the owned decoder returns -/
theorem C13_agree_converted (x : Ext) (bs : Bytes) (t : Term) (fl : List Bool) (hm : btreeSorted t = true) :
    decodeBorrowed x bs = .ok t → decode x bs = .ok (toOwned (tagWith t fl).1) := by
  intro h
  rw [toOwned_tagWith t fl hm]
  exact C13_agree x bs t h

/-- the same with the `btreeSorted` guard discharged: the maps of a term the zero-copy decoder returns ARE `BTreeMap`s
(Lemmas/DecSorted.lean) as soon as their keys carry big integers with minimal
digits only (`mapKeysMin t`; the decoder keeps non-minimal digits, on which the library's order is not transitive) -/
theorem C13_agree_converted_decoded (x : Ext) (bs : Bytes) (t : Term) (fl : List Bool) (hk : mapKeysMin t = true) :
    decodeBorrowed x bs = .ok t → btreeSorted t = true ∧ decode x bs = .ok (toOwned (tagWith t fl).1) := by
  intro h
  have hb : btreeSorted t = true :=
    btreeSorted_of_mapsStrict t (mapsStrict_of_btInv t (decodeWith_btInv x _ bs t h) hk)
  exact ⟨hb, C13_agree_converted x bs t fl hb h⟩

example : mapKeysMin (.tuple [.map [(.big false [0, 1], .big false [1, 0])]]) = true := by
  simp [mapKeysMin, mapKeysMinL, mapKeysMinKV, keysWFo, WFo, minDigits]

/-- `is_borrowed` answers whether some `Cow` of the tree is borrowed: every tree -/
theorem C13_is_borrowed_iff_some_flag (b : BTerm) : isBorrowed b = (flagsOf b).any id := isBorrowed_flags b

example : isBorrowed (.tuple [.atom false [97], .list [.bin true [1]]]) = true := by
  rw [C13_is_borrowed_iff_some_flag]; rfl

/-- on every input laid out with the tags current OTP releases emit over distribution only (the Spec's recogniser
`modernOnly`: layout, nothing else), the zero-copy decoder accepts whenever the owned decoder accepts, with the same
term — all byte strings, any behaviour of the external calls -/
theorem C13_modern_accepts (x : Ext) (bs : Bytes) (t : Term) :
    Spec.Modern.modernOnly bs = true → decode x bs = .ok t → decodeBorrowed x bs = .ok t :=
  decodeWith_accepts_modern x [] bs t

example : Spec.Modern.modernOnly [131, 104, 2, 97, 1, 119, 1, 97] = true := by decide
example : Spec.Modern.modernOnly [131, 104, 1, 115, 1, 97] = false := by decide


/-- the guard cannot be dropped: a legacy SMALL_ATOM_EXT atom is accepted by the owned decoder and refused by the
zero-copy decoder (which has no arm for tag 115), and the recogniser says so -/
theorem C13_legacy_refused :
    ∃ bs t, decode Ext.none bs = .ok t ∧ decodeBorrowed Ext.none bs = .error .err ∧ Spec.Modern.modernOnly bs = false :=
  ⟨[131, 115, 1, 97], .atom [97], by evalm, by evalm, by decide⟩

/-- the zero-copy decoder dispatches on a subset of the owned decoder's tags (both regenerated from the source every run) -/
theorem C13_tagsets : ∀ t ∈ Gen.borrowedTags, t ∈ Gen.ownedTags := by decide

/-- the tags the Spec's recogniser knows are exactly the 21 modern tags, and the zero-copy decoder's dispatch table
(regenerated) has an arm for every one of them -/
theorem C13_modern_dispatched :
    Spec.Modern.modernTags = [97, 98, 110, 111, 70, 118, 119, 104, 105, 106, 107, 108, 109, 77, 116, 88, 120, 89, 90, 113, 112] ∧
    ∀ t ∈ Spec.Modern.modernTags, t ∈ Gen.borrowedTags := by decide

/-- the tags the model's zero-copy configuration refuses are exactly the tags the regenerated owned table has and the
regenerated zero-copy table lacks (DIST_HEADER, 68, is in the owned table only to be rejected), and none of them is modern -/
theorem C13_owned_only_exact :
    (∀ t, t ∈ ownedOnlyTags ↔ (t ∈ Gen.ownedTags ∧ t ∉ Gen.borrowedTags ∧ t ≠ 68)) ∧
    ∀ t ∈ ownedOnlyTags, t ∉ Spec.Modern.modernTags := by
  have h1 : ∀ t ∈ ownedOnlyTags, t ∈ Gen.ownedTags ∧ t ∉ Gen.borrowedTags ∧ t ≠ 68 := by decide
  have h2 : ∀ t ∈ Gen.ownedTags, t ∉ Gen.borrowedTags → t ≠ 68 → t ∈ ownedOnlyTags := by decide
  exact ⟨fun t => ⟨h1 t, fun h => h2 t h.1 h.2.1 h.2.2⟩, by decide⟩

/-- which zero-copy parsers receive the error context, which do not, and which path segment each loop pushes —
as regenerated from decoder.rs — are what the context model has -/
theorem C13_ctx_parsers :
    Gen.C13_CTX_TAGS = ctxNodeTags ∧ Gen.C13_PLAIN_TAGS = ctxLeafTags ∧
    Gen.C13_PUSHES = [("parse_small_tuple_borrowed", ["TupleElement"]), ("parse_large_tuple_borrowed", ["TupleElement"]),
      ("parse_list_borrowed", ["ListElement", "ImproperListTail"]), ("parse_map_borrowed", ["MapKey", "MapValue"]),
      ("parse_new_fun_ext_borrowed", ["FunFreeVar"])] ∧
    Gen.C13_OFFSET_ASSIGNMENTS = ["parse_versioned_term_borrowed:original_len-input.len()-1",
      "parse_term_borrowed:original_len-input.len()", "decode_borrowed:original_len-remaining.len()"] := by decide

/-- forgetting offset and path, the context model returns what the zero-copy configuration of the generic model returns,
on every input (so clause 1 and 2 hold for it as well), and the offset arithmetic never panics on the way -/
theorem C13_ctx_erase (x : Ext) (bs : Bytes) : (decodeBorrowedCtx x bs).erase = some (decodeBorrowed x bs) := by
  unfold decodeBorrowed
  by_cases hv : ∃ r, bs = 131 :: r
  · obtain ⟨r, rfl⟩ := hv
    have h := ctx_decode x r
    change _ = some (decodeWith x cBorrowed (131 :: r))
    rw [decodeWith_131]
    split at h
    · obtain ⟨o, p, h, -⟩ := h; rw [h, ‹dec _ _ _ _ _ = _›]; rfl
    · rw [h, ‹dec _ _ _ _ _ = _›]; rfl
    · rw [h.1, ‹dec _ _ _ _ _ = _›]; rfl
  · rw [ctx_version x bs fun r h => hv ⟨r, h⟩, decodeWith_version x _ bs fun r h => hv ⟨r, h⟩]; rfl

example : decodeBorrowedCtx Ext.none [131, 104, 2, 97, 1] = .fail .err 5 [.tupleElem 1] := by evalm

theorem C13_agree_ctx (x : Ext) (bs : Bytes) (t : Term) : decodeBorrowedCtx x bs = .ok t → decode x bs = .ok t := by
  intro h
  have := C13_ctx_erase x bs
  rw [h] at this
  simp only [BTop.erase, Option.some.injEq] at this
  exact C13_agree x bs t this.symm

theorem C13_modern_accepts_ctx (x : Ext) (bs : Bytes) (t : Term) :
    Spec.Modern.modernOnly bs = true → decode x bs = .ok t → decodeBorrowedCtx x bs = .ok t := by
  intro hm hd
  have h1 := C13_modern_accepts x bs t hm hd
  have h2 := C13_ctx_erase x bs
  rw [h1] at h2
  cases hc : decodeBorrowedCtx x bs <;> rw [hc] at h2 <;> simp [BTop.erase] at h2
  rw [h2]

example : decodeBorrowedCtx Ext.none [131, 104, 2, 97, 1, 106] = .ok (.tuple [.int 1, .nil]) := by evalm

/-- `original_len - input.len()` never underflows: no parser of the family is ever handed more bytes than the input has -/
theorem C13_no_underflow (x : Ext) (bs : Bytes) : decodeBorrowedCtx x bs ≠ .panic := by
  intro h
  have := C13_ctx_erase x bs
  rw [h] at this
  simp [BTop.erase] at this

/-- when the zero-copy decoder rejects an input, the byte offset it reports lies within the input — every input, every
kind of error -/
theorem C13_offset_within (x : Ext) (bs : Bytes) (e : DErr) (off : Nat) (p : List Seg) :
    decodeBorrowedCtx x bs = .fail e off p → off ≤ bs.length := by
  intro h
  obtain ⟨-, rfl, -⟩ | ⟨r, rfl, -, ⟨-, ho⟩ | ⟨n, -, -, ho⟩⟩ := ctx_fail h
  · exact Nat.zero_le _
  · exact ho
  · simp only [List.length_cons]; omega

example : decodeBorrowedCtx Ext.none [131, 108, 0, 0, 0, 1, 97] = .fail .err 6 [.listElem 0] := by evalm

/-- behind a good version byte every reported offset is at least 1, and an error other than trailing data carries the path
and offset of the term being parsed: it lies behind the version byte -/
theorem C13_offset_behind_version (x : Ext) (r : Bytes) (e : DErr) (off : Nat) (p : List Seg) :
    decodeBorrowedCtx x (131 :: r) = .fail e off p → 1 ≤ off := by
  intro h
  obtain ⟨-, -, hv⟩ | ⟨_, -, ho, -⟩ := ctx_fail h
  · exact absurd rfl (hv r)
  · exact ho

/-- trailing data: the offset is where the trailing bytes start, the count is what follows, the path is the root -/
theorem C13_trailing_offset (x : Ext) (bs : Bytes) (n off : Nat) (p : List Seg) :
    decodeBorrowedCtx x bs = .fail (.trailing n) off p → off + n = bs.length ∧ 0 < n ∧ 0 < off := by
  intro h
  obtain ⟨he, -⟩ | ⟨r, rfl, ho, ⟨hd, -⟩ | ⟨n', he, hn, hl⟩⟩ := ctx_fail h
  · cases he
  · -- a parser of the family never reports trailing data: that is the top level's finding
    exact absurd hd (dec_ne_trailing x cBorrowed n _ 0 r)
  · cases he
    exact ⟨hl, hn, ho⟩

example : decodeBorrowedCtx Ext.none [131, 106, 7, 7] = .fail (.trailing 2) 2 [] := by evalm

/-- a missing or wrong version byte is reported at offset 0, at the root -/
theorem C13_version_offset (x : Ext) (bs : Bytes) (h : ∀ r, bs ≠ 131 :: r) : decodeBorrowedCtx x bs = .fail .err 0 [] :=
  ctx_version x bs h

example : decodeBorrowedCtx Ext.none [130, 106] = .fail .err 0 [] := by evalm

end Edp.Props.C13
