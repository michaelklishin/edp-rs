import EdpVerif.Generated.MiscC09
import EdpVerif.Generated.MiscState
import EdpVerif.Lemmas.Frag
import EdpVerif.Generated.Tags
/-
C09 — fragment reassembly returns the original message once, in any arrival order.
Property theorems only; the model is EdpVerif/Impl/Frag.lean, the protocol's splitting EdpVerif/Spec/Frag.lean,
helper lemmas and the vocabulary (`fragOp`, `Delivers`, `cnt`, `proj`, `Unexpiring`, `WF`) EdpVerif/Lemmas/Frag.lean.
-/
namespace Edp.Props.C09
open Edp Edp.Frag Edp.Spec.Frag

/-- DEFECT (negation of the full-strength property): a two-fragment message delivered in the protocol's own order is
returned with its pieces swapped — `reassemble` concatenates by ascending fragment id, the protocol by descending. -/
theorem C09_not_any_order :
    ∃ (msg : Bytes) (lens : List Nat) (t : Nat),
      (Assembler.new t).outs ((split 1 none msg lens).map (fragOp 0)) = [none, some [2, 1]] ∧
      expected none msg = [1, 2] :=
  ⟨[1, 2], [1], 0, by decide⟩

/-- EXACTLY ONCE, ANY ORDER, ANY DUPLICATION, ANY INTERLEAVING (bug-for-bug in the order of the pieces).
`ps` are the pieces of a message of sequence `q` (any message, any number of pieces up to the vector limit, any cut);
the events `pre ++ l :: post` are arbitrary except that those of sequence `q` deliver fragments of the protocol's split
(in any order, any number of times), `l` is the arrival of the last missing fragment, and no complete second round follows.
Then the assembler returns nothing at `q`'s events before `l`, the pieces in ASCENDING id at `l`, nothing afterwards,
and holds an entry for `q` afterwards only if a late duplicate arrived. -/
theorem C09_ascending_any_order (a : Assembler) (hw : WF a.pending) (q : Nat) (h0 : lookup q a.pending = none)
    (cache : Option Bytes) (ps : List Bytes) (hne : ps ≠ []) (hlim : ps.length ≤ MAX_FRAGMENT_COUNT)
    (pre post : List Op) (l : Op)
    (hconf : ∀ o ∈ pre ++ l :: post, o.seq = some q → Delivers q cache ps o)
    (hexp : Unexpiring a.timeout (pre ++ l :: post))
    (hl : l.seq = some q)
    (hmiss : ∀ o ∈ pre, o.seq = some q → Op.fid o ≠ Op.fid l)
    (hall : ∀ k, 1 ≤ k → k ≤ ps.length → k ≠ Op.fid l → ∃ o ∈ pre, o.seq = some q ∧ Op.fid o = k)
    (hpost : ∃ k, 1 ≤ k ∧ k ≤ ps.length ∧ ∀ o ∈ post, o.seq = some q → Op.fid o ≠ k) :
    a.outsFor q (pre ++ l :: post) =
      List.replicate (cnt q pre) none ++ some (cache.getD [] ++ ps.reverse.flatten) :: List.replicate (cnt q post) none ∧
    (lookup q (a.after (pre ++ l :: post)).pending = none ↔ cnt q post = 0) :=
  any_order hw h0 hne hlim hconf hexp hl (not_mem_seen.mpr hmiss)
    (fun k k1 k2 hk => mem_seen.mpr (hall k k1 k2 hk)) (by simpa only [not_mem_seen] using hpost)

/-- non-vacuity: header first, then the continuation -/
example :
    (Assembler.new 100).outsFor 1 ([Op.start 0 1 2 none [1]] ++ Op.add 1 1 1 [2] :: []) =
      List.replicate (cnt 1 [Op.start 0 1 2 none [1]]) none ++ some ((none : Option Bytes).getD [] ++ [[1], [2]].reverse.flatten) ::
        List.replicate (cnt 1 []) none :=
  And.left <| C09_ascending_any_order (Assembler.new 100) (new_inv 100).1 1 rfl none [[1], [2]] (by simp) (by decide)
    [Op.start 0 1 2 none [1]] [] (Op.add 1 1 1 [2])
    (by
      intro o ho _
      simp only [List.cons_append, List.nil_append, List.mem_cons, List.not_mem_nil, or_false] at ho
      rcases ho with rfl | rfl
      · exact ⟨0, ⟨1, 2, true, none, [1]⟩, by decide, rfl⟩
      · exact ⟨1, ⟨1, 1, false, none, [2]⟩, by decide, rfl⟩)
    (by intro now h; simp at h)
    rfl
    (by intro o ho _; simp at ho; subst ho; simp [Op.fid])
    (by
      intro k h1 h2 h3
      simp only [Op.fid, List.length_cons, List.length_nil] at h2 h3
      exact ⟨_, List.mem_cons_self, rfl, by simp only [Op.fid]; omega⟩)
    ⟨1, by decide, by decide, by simp⟩

/-- ANY ARRIVAL PERMUTATION (the same, with the arrival order given as a `List.Perm`): if the fragments that the events of
sequence `q` carry are, in some order, exactly the protocol's split of the pieces `ps` — each once —, then whatever else is
interleaved the assembler returns nothing at the first `n - 1` of them and the pieces in ASCENDING id at the last. -/
theorem C09_ascending_perm (a : Assembler) (hw : WF a.pending) (q : Nat) (h0 : lookup q a.pending = none)
    (cache : Option Bytes) (ps : List Bytes) (hne : ps ≠ []) (hlim : ps.length ≤ MAX_FRAGMENT_COUNT)
    (ops : List Op) (hexp : Unexpiring a.timeout ops)
    (hperm : ((ops.filter (fun o => o.seq == some q)).filterMap Op.toFrag).Perm (number q cache ps)) :
    a.outsFor q ops = List.replicate (ps.length - 1) none ++ [some (cache.getD [] ++ ps.reverse.flatten)] :=
  (perm_run hw h0 hne hlim hexp hperm).1

/-- non-vacuity: the continuation before the header, a foreign sequence in between -/
example : (([Op.add 0 1 1 [2], Op.add 1 9 4 [7], Op.start 2 1 2 none [1]].filter (fun o => o.seq == some 1)).filterMap
    Op.toFrag).Perm (number 1 none [[1], [2]]) := by decide

/-- THE PROPERTY, PARTIAL: with the guard that the pieces read the same in ascending and in descending id order (one piece,
or at most one non-empty piece, or a palindromic cut) the assembler returns THE ORIGINAL MESSAGE (after the atom-cache
section) exactly once, at the arrival of the last missing fragment, for any arrival order, duplication and interleaving.
`Delivers q cache (cut msg lens) o` says that `o` delivers a fragment of `split q cache msg lens`. -/
theorem C09_any_order_partial (a : Assembler) (hw : WF a.pending) (q : Nat) (h0 : lookup q a.pending = none)
    (cache : Option Bytes) (msg : Bytes) (lens : List Nat) (hlim : lens.length + 1 ≤ MAX_FRAGMENT_COUNT)
    (guard : (cut msg lens).reverse.flatten = msg)
    (pre post : List Op) (l : Op)
    (hconf : ∀ o ∈ pre ++ l :: post, o.seq = some q → Delivers q cache (cut msg lens) o)
    (hexp : Unexpiring a.timeout (pre ++ l :: post))
    (hl : l.seq = some q)
    (hmiss : ∀ o ∈ pre, o.seq = some q → Op.fid o ≠ Op.fid l)
    (hall : ∀ k, 1 ≤ k → k ≤ lens.length + 1 → k ≠ Op.fid l → ∃ o ∈ pre, o.seq = some q ∧ Op.fid o = k)
    (hpost : ∃ k, 1 ≤ k ∧ k ≤ lens.length + 1 ∧ ∀ o ∈ post, o.seq = some q → Op.fid o ≠ k) :
    a.outsFor q (pre ++ l :: post) =
      List.replicate (cnt q pre) none ++ some (expected cache msg) :: List.replicate (cnt q post) none := by
  have hlen := cut_length msg lens
  have hne : cut msg lens ≠ [] := by
    intro e; rw [e] at hlen; simp at hlen
  have := (C09_ascending_any_order a hw q h0 cache (cut msg lens) hne (by omega) pre post l hconf hexp hl hmiss
    (by rw [hlen]; exact hall) (by rw [hlen]; exact hpost)).1
  rw [this, guard, expected]

/-- non-vacuity of the guard: a one-fragment message, and a two-fragment message whose first piece is empty -/
example : (cut [1, 2, 3] []).reverse.flatten = [1, 2, 3] ∧ (cut [1, 2, 3] [0]).reverse.flatten = [1, 2, 3] := by decide

/-- NOTHING FOR AN INCOMPLETE SEQUENCE: while some fragment id of `q` has not arrived, nothing is returned at `q`'s events
(whatever their order and multiplicity, whatever is interleaved), and `q` is held iff something of it has arrived. -/
theorem C09_incomplete_returns_nothing (a : Assembler) (hw : WF a.pending) (q : Nat) (h0 : lookup q a.pending = none)
    (cache : Option Bytes) (ps : List Bytes) (hne : ps ≠ []) (hlim : ps.length ≤ MAX_FRAGMENT_COUNT) (ops : List Op)
    (hconf : ∀ o ∈ ops, o.seq = some q → Delivers q cache ps o)
    (hexp : Unexpiring a.timeout ops)
    (hmissing : ∃ k, 1 ≤ k ∧ k ≤ ps.length ∧ ∀ o ∈ ops, o.seq = some q → Op.fid o ≠ k) :
    a.outsFor q ops = List.replicate (cnt q ops) none ∧
    (lookup q (a.after ops).pending = none ↔ cnt q ops = 0) :=
  have h := conforming_prefix hw h0 hne hlim hconf hexp (by simpa only [not_mem_seen] using hmissing)
  ⟨h.1, h.2.1⟩

/-- non-vacuity: the header of a two-fragment message alone -/
example : (Assembler.new 100).outsFor 1 [Op.start 0 1 2 none [1]] = List.replicate (cnt 1 [Op.start 0 1 2 none [1]]) none :=
  And.left <| C09_incomplete_returns_nothing (Assembler.new 100) (new_inv 100).1 1 rfl none [[1], [2]] (by simp) (by decide)
    [Op.start 0 1 2 none [1]]
    (by
      intro o ho _
      simp only [List.mem_cons, List.not_mem_nil, or_false] at ho
      subst ho
      exact ⟨0, ⟨1, 2, true, none, [1]⟩, by decide, rfl⟩)
    (by intro now h; simp at h)
    ⟨1, by decide, by decide, by intro o ho _; simp at ho; subst ho; simp [Op.fid]⟩

/-- ISOLATION: what the assembler returns at the events of sequence `q`, and what it holds for `q`, depends only on `q`'s
own entry, `q`'s own events and the cleanups (`proj q`) — not on the events of other sequences interleaved with them. -/
theorem C09_isolation (a a' : Assembler) (hw : WF a.pending) (hw' : WF a'.pending) (ht : a.timeout = a'.timeout) (q : Nat)
    (h0 : lookup q a.pending = lookup q a'.pending) (ops ops' : List Op) (h : proj q ops = proj q ops') :
    a.outsFor q ops = a'.outsFor q ops' ∧
    lookup q (a.after ops).pending = lookup q (a'.after ops').pending := by
  obtain ⟨e1, e2⟩ := after_outs_proj q ops a hw
  obtain ⟨f1, f2⟩ := after_outs_proj q ops' a' hw'
  rw [e1, e2, f1, f2, h, h0, ht]
  exact ⟨rfl, rfl⟩

/-- non-vacuity: the same two events of sequence 1 with and without an event of sequence 2 between them -/
example : proj 1 [Op.start 0 1 2 none [1], Op.add 1 2 7 [9], Op.add 2 1 1 [2]] = proj 1 [Op.start 0 1 2 none [1], Op.add 2 1 1 [2]] := by
  decide

/-- HOLDS ONLY INCOMPLETE SEQUENCES: after any events whatsoever (any ids, any counts, any order, cleanups) on a fresh
assembler, there is at most one entry per sequence id (so `pending_count` counts distinct sequences), no entry is complete,
and every entry belongs to a sequence that has sent something. -/
theorem C09_holds_only_incomplete (t : Nat) (ops : List Op) :
    WF ((Assembler.new t).after ops).pending ∧
    ((Assembler.new t).after ops).pendingCount = (((Assembler.new t).after ops).pending.map Prod.fst).length ∧
    ∀ q m, lookup q ((Assembler.new t).after ops).pending = some m →
      m.isComplete = false ∧ ∃ o ∈ ops, o.seq = some q := by
  have hw0 := (new_inv t).1
  obtain ⟨hw, hi, _⟩ := after_induct (P := Inv t) step_inv ops _ (new_inv t)
  refine ⟨hw, (List.length_map _).symm, ?_⟩
  exact fun q m hm => ⟨hi q m hm, (held_has_event ops _ hw0 hm).resolve_left (fun h => by cases h)⟩

/-- EXPIRY: `cleanup_expired` at clock value `now` keeps exactly the entries touched within the timeout, reports how many it
dropped, and every `add_fragment` refreshes the entry it leaves behind. -/
theorem C09_cleanup_drops_exactly_expired (a : Assembler) (hw : WF a.pending) (now q : Nat) :
    lookup q (a.cleanupExpired now).1.pending =
      (lookup q a.pending).filter (fun m => decide (now - m.last ≤ a.timeout)) ∧
    (a.cleanupExpired now).2 = a.pendingCount - (a.cleanupExpired now).1.pendingCount ∧
    ∀ t' seq fid d m, lookup seq (a.addFragment t' seq fid d).1.pending = some m → m.last = t' := by
  refine ⟨?_, rfl, ?_⟩
  · rw [Assembler.cleanupExpired, lookup_filter (fun m => !m.isExpired now a.timeout) q hw]
    congr 1
    funext m
    rw [FragMsg.isExpired, ← decide_not]
    exact decide_eq_decide.mpr Nat.not_lt
  · intro t' seq fid d m hm
    rcases step_entry a hw (.add t' seq fid d) hm with ⟨_, h⟩ | ⟨_, h, _⟩
    · exact absurd rfl h
    · exact h

/-- non-vacuity: with timeout 5, an entry touched at 0 is dropped by a cleanup at 6 and kept by one at 5 -/
example : ((Assembler.new 5).after [Op.add 0 1 1 [7], Op.cleanup 6]).pendingCount = 0 ∧
    ((Assembler.new 5).after [Op.add 0 1 1 [7], Op.cleanup 5]).pendingCount = 1 := by decide

/-- EVERY ACCEPTED COUNT COMPLETES (before 7a903d6 of edp-rs, counts above the slot-vector limit never completed): for every
number of fragments from 1 up to the accepted maximum `MAX_FRAGMENT_COUNT` — in particular above `MAX_FRAGMENTS_VEC`, where the
fragments live in the pending map —, the fragments of the protocol's split delivered in the protocol's own order to a fresh
assembler return nothing `n - 1` times and the message (pieces by ascending id) at the last one, and nothing is held. -/
theorem C09_every_accepted_count_completes (t now q : Nat) (cache : Option Bytes) (ps : List Bytes) (hne : ps ≠ [])
    (hlim : ps.length ≤ MAX_FRAGMENT_COUNT) :
    (Assembler.new t).outs ((number q cache ps).map (fragOp now)) =
      List.replicate (ps.length - 1) none ++ [some (cache.getD [] ++ ps.reverse.flatten)] ∧
    ((Assembler.new t).after ((number q cache ps).map (fragOp now))).pendingCount = 0 := by
  have hall : ∀ o ∈ (number q cache ps).map (fragOp now), o.seq = some q :=
    List.forall_mem_map.mpr fun f hf => (fragOp_number now hf).1
  have hback : (((number q cache ps).map (fragOp now)).filter (fun o => o.seq == some q)).filterMap Op.toFrag =
      number q cache ps := by
    rw [List.filter_eq_self.mpr (fun o ho => by simp [hall o ho])]
    exact filterMap_toFrag_map now _ (fun f hf => (fragOp_number now hf).2)
  obtain ⟨h1, h2⟩ := perm_run (new_inv t).1 rfl hne hlim
    (fun n hn => by simpa [Op.seq] using hall _ hn) (by rw [hback])
  rw [outsFor_eq_outs _ _ hall] at h1
  refine ⟨h1, ?_⟩
  -- nothing is held: not `q` (it completed at the last event), and no other sequence ever had an event
  cases hp : ((Assembler.new t).after ((number q cache ps).map (fragOp now))).pending with
  | nil => simp [Assembler.pendingCount, hp]
  | cons e r =>
    have hlk : lookup e.1 ((Assembler.new t).after ((number q cache ps).map (fragOp now))).pending = some e.2 := by
      rw [hp]; simp [lookup]
    obtain ⟨_, o, ho, hs⟩ := (C09_holds_only_incomplete t _).2.2 e.1 e.2 hlk
    rw [hall o ho, Option.some.injEq] at hs
    rw [← hs, h2] at hlk
    cases hlk

/-- non-vacuity: there are accepted counts above the slot-vector limit, and a three-fragment message goes through -/
example : MAX_FRAGMENTS_VEC < MAX_FRAGMENT_COUNT ∧
    (Assembler.new 0).outs ((number 5 none [[1], [2], [3]]).map (fragOp 0)) = [none, none, some [3, 2, 1]] := by decide

/-- COUNTS OUTSIDE THE ACCEPTED RANGE ARE REFUSED AND NOTHING IS HELD: a header announcing 0 fragments or more than
`MAX_FRAGMENT_COUNT` (`FragmentCount::new` fails) returns nothing and leaves the assembler exactly as it was. -/
theorem C09_count_outside_limits_refused (a : Assembler) (now q fid : Nat) (cache : Option Bytes) (d : Bytes)
    (h : fid = 0 ∨ MAX_FRAGMENT_COUNT < fid) : a.startFragment now q fid cache d = (a, none) := by
  simp only [Assembler.startFragment, if_pos h]

/-- non-vacuity: one more than the maximum -/
example : ((Assembler.new 9).after [Op.start 0 1 (MAX_FRAGMENT_COUNT + 1) none [1]]).pendingCount = 0 := by decide

/-- A CONFLICTING HEADER IS IGNORED (before e936302 of edp-rs it truncated the slot vector and a message came back with a
fragment missing): a header whose count differs from the count its sequence already has returns nothing and leaves the
assembler — the entry, its fragments, its time stamp — exactly as it was. -/
theorem C09_conflicting_header_ignored (a : Assembler) (now q fid c : Nat) (cache : Option Bytes) (d : Bytes) (m : FragMsg)
    (hm : lookup q a.pending = some m) (hc : m.total = some c) (hne : c ≠ fid) :
    a.startFragment now q fid cache d = (a, none) := by
  simp only [Assembler.startFragment]
  split
  · rfl
  · rw [hm]
    have : m.total.isSome ∧ m.total ≠ some fid := by
      rw [hc]; exact ⟨rfl, fun e => hne (Option.some.inj e)⟩
    simp only [if_pos this]

/-- non-vacuity: the witness of that defect — `start(1,3,[33]); start(1,2,[22])` — returns nothing twice and keeps the first header -/
example : (Assembler.new 0).outs [Op.start 0 1 3 none [0x33], Op.start 1 1 2 none [0x22]] = [none, none] ∧
    (lookup 1 ((Assembler.new 0).after [Op.start 0 1 3 none [0x33], Op.start 1 1 2 none [0x22]]).pending).map (·.total) =
      some (some 3) := by decide

/-- "WHEN AND ONLY WHEN THE LAST MISSING FRAGMENT ARRIVES": `pre` are arbitrary events among which those of `q` deliver
fragments of the split (any order, any multiplicity) but not all of them; `o` is the next event of `q`. The assembler
returns something at `o` IF AND ONLY IF every fragment id other than `o`'s has arrived in `pre` — and then it is the message
(pieces by ascending id) and `q` is no longer held; otherwise `q` stays held. -/
theorem C09_returns_iff_last_missing (a : Assembler) (hw : WF a.pending) (q : Nat) (h0 : lookup q a.pending = none)
    (cache : Option Bytes) (ps : List Bytes) (hne : ps ≠ []) (hlim : ps.length ≤ MAX_FRAGMENT_COUNT)
    (pre : List Op) (o : Op)
    (hconf : ∀ x ∈ pre ++ [o], x.seq = some q → Delivers q cache ps x)
    (hexp : Unexpiring a.timeout pre) (ho : o.seq = some q)
    (hmissing : ∃ k, 1 ≤ k ∧ k ≤ ps.length ∧ ∀ x ∈ pre, x.seq = some q → Op.fid x ≠ k) :
    (((a.after pre).step o).2.isSome ↔
      ∀ k, 1 ≤ k → k ≤ ps.length → k ≠ Op.fid o → ∃ x ∈ pre, x.seq = some q ∧ Op.fid x = k) ∧
    (((a.after pre).step o).2.isSome →
      ((a.after pre).step o).2 = some (cache.getD [] ++ ps.reverse.flatten) ∧
      lookup q ((a.after pre).step o).1.pending = none) ∧
    (((a.after pre).step o).2 = none → (lookup q ((a.after pre).step o).1.pending).isSome) := by
  obtain ⟨_, _, hg⟩ := conforming_prefix hw h0 hne hlim (fun x hx => hconf x (by simp [hx])) hexp
    (by simpa only [not_mem_seen] using hmissing)
  obtain ⟨f1, f2⟩ := conforming_next (a.after pre) hne hlim hg ho (hconf o (by simp) ho)
  simp only [mem_seen] at f1 f2
  by_cases hF : ∀ k, 1 ≤ k → k ≤ ps.length → k ≠ Op.fid o → ∃ x ∈ pre, x.seq = some q ∧ Op.fid x = k
  · obtain ⟨g1, g2⟩ := f1 hF
    rw [g1, g2]
    exact ⟨⟨fun _ => hF, fun _ => rfl⟩, fun _ => ⟨rfl, rfl⟩, fun h => by cases h⟩
  · obtain ⟨g1, g2⟩ := f2 hF
    rw [g1]
    refine ⟨by simpa using hF, by simp, fun _ => ?_⟩
    cases hl : lookup q ((a.after pre).step o).1.pending with
    | none => rw [hl] at g2; cases g2
    | some m => rfl

/-- non-vacuity: three fragments; after ids 3 and 1 the arrival of 2 returns the message, the arrival of a duplicate 1 does not -/
example : (((Assembler.new 9).after [Op.start 0 1 3 none [1], Op.add 1 1 1 [3]]).step (Op.add 2 1 2 [2])).2 = some [3, 2, 1] ∧
    (((Assembler.new 9).after [Op.start 0 1 3 none [1], Op.add 1 1 1 [3]]).step (Op.add 2 1 1 [3])).2 = none := by decide

/-- AFTER EVERY RECEIVED FRAME ONLY UNEXPIRED INCOMPLETE SEQUENCES ARE HELD (before f40d0e7 of edp-rs `cleanup_expired` was
never called on a connection). A connection handles a frame received at clock value `now` by `cleanup_expired()` followed —
for a fragment frame — by one `start_fragment` / `add_fragment` that reads the clock again (not earlier: `Instant` is
monotonic). For EVERY history of frames (any clock values, any fragment operations: junk ids, conflicting headers, any
interleaving) and every further frame, each sequence the assembler holds afterwards is incomplete and was touched within the
timeout before `now`; and there is one entry per sequence id. -/
theorem C09_after_every_frame_only_unexpired_incomplete (t : Nat) (frames : List (Nat × Option Op)) (now : Nat) (o : Option Op)
    (hmono : ∀ op, o = some op → now ≤ Op.now op) :
    WF (((Assembler.new t).afterFrames frames).onFrame now o).1.pending ∧
    ∀ q m, lookup q (((Assembler.new t).afterFrames frames).onFrame now o).1.pending = some m →
      m.isComplete = false ∧ now - m.last ≤ t := by
  obtain ⟨hw, hi, ht⟩ := afterFrames_induct (P := Inv t) step_inv frames _ (new_inv t)
  obtain ⟨w, i, _⟩ := onFrame_induct (P := Inv t) step_inv _ now o ⟨hw, hi, ht⟩
  have u := onFrame_unexpired _ now o hw hmono
  rw [ht] at u
  exact ⟨w, fun q m hm => ⟨i q m hm, u q m hm⟩⟩

/-- non-vacuity: timeout 5; a stray continuation received at 0 is still held after a tick at 5 and gone after a tick at 6 -/
example : (((Assembler.new 5).afterFrames [(0, some (Op.add 0 1 1 [7]))]).onFrame 5 none).1.pendingCount = 1 ∧
    (((Assembler.new 5).afterFrames [(0, some (Op.add 0 1 1 [7]))]).onFrame 6 none).1.pendingCount = 0 := by decide

/-- … and this history is one of them: sequence 1 starts while nothing is pending, sequence 2 starts while 1 is incomplete,
sequence 1 COMPLETES (and leaves), sequence 2 goes silent; timeout 20. It is held after the completing frame, gone after a
tick at 60 — whether the older sequence completed or not plays no part —, and its last fragments, arriving after that, do
not complete a message. -/
example :
    ((Assembler.new 20).afterFrames [(0, some (Op.start 0 1 2 none [1])), (0, some (Op.start 0 2 3 none [2])),
      (0, some (Op.add 0 1 1 [3]))]).pendingCount = 1 ∧
    (((Assembler.new 20).afterFrames [(0, some (Op.start 0 1 2 none [1])), (0, some (Op.start 0 2 3 none [2])),
      (0, some (Op.add 0 1 1 [3]))]).onFrame 60 none).1.pendingCount = 0 ∧
    ((((Assembler.new 20).afterFrames [(0, some (Op.start 0 1 2 none [1])), (0, some (Op.start 0 2 3 none [2])),
      (0, some (Op.add 0 1 1 [3])), (60, none), (60, some (Op.add 60 2 2 [4]))]).onFrame 60 (some (Op.add 60 2 1 [5]))).2 = none) := by
  decide

/-- A SEQUENCE THAT WENT SILENT PAST THE TIMEOUT IS GONE AFTER THE NEXT FRAME — whatever that frame is and whatever became of
the other sequences (completed, expired, still in flight: `a` is ANY assembler state with one entry per id) — AND A FRAGMENT
THAT ARRIVES FOR IT THEN COMPLETES NOTHING: the frame's `cleanup_expired` drops the entry, so a frame of another sequence or a
tick leaves nothing held for `q`, and a continuation of `q` itself starts a new entry without a count and returns nothing. -/
theorem C09_silent_sequence_expires_whatever_the_others_do (a : Assembler) (hw : WF a.pending) (q : Nat) (m : FragMsg)
    (hq : lookup q a.pending = some m) (now : Nat) (hexp : a.timeout < now - m.last) :
    lookup q (a.onFrame now none).1.pending = none ∧
    (∀ op q', Op.seq op = some q' → q' ≠ q → lookup q (a.onFrame now (some op)).1.pending = none) ∧
    (∀ now' fid d, (a.onFrame now (some (Op.add now' q fid d))).2 = none) := by
  have hgone : lookup q (a.cleanupExpired now).1.pending = none := by
    rw [(C09_cleanup_drops_exactly_expired a hw now q).1, hq]
    have : ¬ now - m.last ≤ a.timeout := by omega
    simp [Option.filter, this]
  refine ⟨hgone, ?_, ?_⟩
  · intro op q' hs hne
    simp only [Assembler.onFrame]
    rw [step_other _ op q q' hs hne]
    exact hgone
  · intro now' fid d
    simp only [Assembler.onFrame, Assembler.step, Assembler.addFragment, hgone]

/-- THE CONNECTION EXPIRES ON EVERY FRAME — tie of `Assembler.onFrame` to the source text of `Connection::receive_message`
(extracted by the translator on every run): the calls on `self.fragment_assembler` are, in textual order, `cleanup_expired`,
`start_fragment`, `add_fragment`; `cleanup_expired()` is the statement after `let data = self.read_message().await?;` inside
the loop, before the tick's `continue`; the connection has one assembler, built by `FragmentAssembler::new()`, whose timeout is
`DEFAULT_FRAGMENT_TIMEOUT` — so the previous theorem applies to it with `t = DEFAULT_FRAGMENT_TIMEOUT`. -/
theorem C09_connection_expires_on_every_frame :
    Gen.RECEIVE_ASSEMBLER_OPS = ["cleanup_expired", "start_fragment", "add_fragment"] ∧
    Gen.RECEIVE_CLEANUP_PER_FRAME = true ∧ Gen.CONNECTION_ASSEMBLERS = 1 ∧
    Assembler.default.timeout = Gen.DEFAULT_FRAGMENT_TIMEOUT_MS ∧ 0 < Gen.DEFAULT_FRAGMENT_TIMEOUT_MS := by decide

/-- THE CONSTANTS OF THE SOURCE ARE THE MODEL'S AND ARE CONSISTENT (re-checked against the values extracted on every run):
the two limits the model uses are the extracted ones, the vector limit is positive and does not exceed the accepted maximum,
the accepted maximum fits `usize`/`u64` arithmetic with room to spare (`received_count += 1`, `count as usize`), and the
frame tags of fragmentation.rs, connection.rs and erltf's tags.rs agree with each other and with the protocol (69 and 70). -/
theorem C09_source_constants_consistent :
    MAX_FRAGMENTS_VEC = Gen.MAX_FRAGMENTS_VEC ∧ MAX_FRAGMENT_COUNT = Gen.MAX_FRAGMENT_COUNT ∧
    0 < MAX_FRAGMENTS_VEC ∧ MAX_FRAGMENTS_VEC ≤ MAX_FRAGMENT_COUNT ∧ MAX_FRAGMENT_COUNT < 2 ^ 32 ∧
    Gen.FRAG_DIST_FRAG_HEADER = 69 ∧ Gen.FRAG_DIST_FRAG_CONT = 70 ∧
    Gen.CONN_DIST_FRAG_HEADER = Gen.FRAG_DIST_FRAG_HEADER ∧ Gen.CONN_DIST_FRAG_CONT = Gen.FRAG_DIST_FRAG_CONT ∧
    Gen.DIST_FRAG_HEADER = Gen.FRAG_DIST_FRAG_HEADER := by decide

/-- The state the assembler model carries IS the state the code keeps (regenerated from the source on every run): per
sequence the count, the slot vector, the pending map, the received count, the atom-cache prefix and the time of the last
update; per assembler the map of sequences and the timeout. -/
theorem C09_state_is_the_sources_state :
    Edp.Gen.STRUCT_FragmentedMessage =
      ["total_fragments:Option<FragmentCount>", "fragments:Vec<Option<Vec<u8>>>", "pending_fragments:HashMap<u64,Vec<u8>>",
       "received_count:usize", "atom_cache_data:Option<Vec<u8>>", "last_update:Instant"]
    ∧ Edp.Gen.STRUCT_FragmentAssembler = ["pending:HashMap<SequenceId,FragmentedMessage>", "fragment_timeout:Duration"]
    ∧ Edp.Gen.PROCESS_WIDE_STATE = [] := by decide

end Edp.Props.C09
